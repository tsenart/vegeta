/-
The loop of `lttb.Downsample`: while every turn fetches at least one point (`bucketsLoopOK`) the
current bucket is never empty, so `sample` returns one of its points and the loop yields one sample
per turn, in input order; the point appended after the loop is the last point of the input.
Before that, the case without sampling: `downsample_unsampled`.
-/
import Vegeta.Model.LTTB
namespace Vegeta.Proofs.Downsample
open Vegeta.Go Vegeta.Model.LTTB

theorem fetch_nonneg (n : Int) (rem : List Point) (h : 0 ≤ n) :
    fetch n rem = .ok (rem.take n.toNat, rem.drop n.toNat) :=
  if_neg (Int.not_lt.mpr h)

theorem downsample_unsampled (count threshold : Int) (pts : List Point) (h0 : 0 ≤ count)
    (h : threshold ≥ count ∨ threshold = 0) :
    downsample count threshold pts = .ok (pts.take count.toNat) := by
  unfold downsample
  rw [if_pos h, fetch_nonneg _ _ h0]

theorem argmax_lt (a c : Point) (n : Nat) : ∀ (cur : List Point) (i : Nat) (l : F64) (idx : Nat),
    idx < n → i + cur.length ≤ n → argmax a c cur i l idx < n := by
  intro cur
  induction cur with
  | nil => intro i l idx hidx _; exact hidx
  | cons p ps ih =>
    intro i l idx hidx hlen
    rw [List.length_cons] at hlen
    unfold argmax
    simp only []
    split
    · exact ih (i+1) _ i (by omega) (by omega)
    · exact ih (i+1) l idx hidx (by omega)

theorem sample_mem (a : Point) (cur next : List Point) (hne : cur ≠ []) :
    ∃ p, sample a cur next = .ok p ∧ p ∈ cur := by
  have hb := argmax_lt a (avg next) cur.length cur 0 F64.posZero 0
    (List.length_pos_iff.mpr hne) (Nat.le_of_eq (Nat.zero_add _))
  unfold sample
  rw [List.getElem?_eq_getElem hb]
  exact ⟨_, rfl, List.getElem_mem hb⟩

/-- what a fetch of `n` points leaves in the iterator, in the form `bucketsLoopOK` counts it -/
theorem length_drop (n : Nat) (rem : List Point) :
    ((rem.drop n).length : Int) = (rem.length : Int) - min (n : Int) (rem.length : Int) := by
  rw [List.length_drop]
  omega

/-- `pre` is what the loop has consumed of `cur ++ rem` when it stops with last bucket `cur'` and
iterator `rem'`; the samples are picked from it in order. -/
theorem loop_spec (size : F64) : ∀ (k : Nat) (i : Int) (last : Point) (cur rem : List Point),
    cur ≠ [] → bucketsLoopOK size k i (rem.length : Int) = true →
    ∃ ss pre cur' rem', loop size k i last cur rem = .ok (ss, cur', rem') ∧
      ss.length = k ∧ cur' ≠ [] ∧ cur ++ rem = pre ++ cur' ++ rem' ∧ ss.Sublist pre ∧
      rem'.length + k ≤ rem.length := by
  intro k
  induction k with
  | zero =>
    intro i last cur rem hne _
    exact ⟨[], [], cur, rem, rfl, rfl, hne, by simp, List.Sublist.refl _, by simp⟩
  | succ k ih =>
    intro i last cur rem hne hok
    unfold bucketsLoopOK at hok
    simp only [Bool.and_eq_true, decide_eq_true_eq] at hok
    obtain ⟨⟨hd, hrem⟩, hrest⟩ := hok
    -- this turn fetches `n ≥ 1` points
    obtain ⟨n, hw⟩ := Int.eq_ofNat_of_zero_le (show 0 ≤ bucketWidth size i by omega)
    rw [hw] at hd hrest
    have hnext : rem.take n ≠ [] := by
      rw [Ne, List.take_eq_nil_iff, List.eq_nil_iff_length_eq_zero]
      omega
    obtain ⟨s, hs, hmem⟩ := sample_mem last cur (rem.take n) hne
    rw [← length_drop] at hrest
    obtain ⟨ss, pre, cur', rem', hl, hss, hc, hsplit, hsub, hle⟩ :=
      ih (i+1) s (rem.take n) (rem.drop n) hnext hrest
    refine ⟨s :: ss, cur ++ pre, cur', rem', ?_, by rw [List.length_cons, hss], hc, ?_, ?_, ?_⟩
    · unfold loop
      rw [hw, fetch_nonneg _ _ (Int.natCast_nonneg n), Int.toNat_natCast]
      simp only [hs, hl]
    · rw [List.take_append_drop] at hsplit
      rw [hsplit]
      simp only [List.append_assoc]
    · exact (List.singleton_sublist.mpr hmem).append hsub
    · rw [List.length_drop] at hle
      omega

/-- `if len(tail) == 0 { points = current }`: either way the last point is that of what was left. -/
theorem getLast_tail (cur' rem' : List Point) :
    (if rem'.isEmpty then cur' else rem').getLast? = (cur' ++ rem').getLast? := by
  cases rem' with
  | nil => simp
  | cons y ys => simp [List.getLast?_append, List.getLast?_cons]

/-- output `p0 :: ss ++ [l]` against input `p0 :: (pre ++ tl)`: a sublist with the same ends -/
theorem assemble (p0 l : Point) (ss pre tl : List Point) (hsub : ss.Sublist pre)
    (hl : tl.getLast? = some l) :
    (p0 :: ss ++ [l]).Sublist (p0 :: (pre ++ tl)) ∧ (p0 :: ss ++ [l]).head? = (p0 :: (pre ++ tl)).head? ∧
      (p0 :: ss ++ [l]).getLast? = (p0 :: (pre ++ tl)).getLast? := by
  refine ⟨(hsub.append (List.singleton_sublist.mpr (List.mem_of_getLast? hl))).cons_cons p0, rfl, ?_⟩
  rw [← List.cons_append, List.getLast?_append, List.getLast?_append, hl]
  rfl

end Vegeta.Proofs.Downsample
