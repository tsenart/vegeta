/-
Float-level lemmas for property C11, about SoftF64 (`Vegeta.Go.F64`) itself — no hypothesis about
IEEE-754 is assumed, everything is derived from the definitions of `F64.add/sub/mul/roundRat` and of
`goMax/goMin`:

* `clamp_float64`  : `math.Max(v, math.Min(x, v))` is `v`, or NaN when `x` is NaN — for ALL `x`;
* `interp_float64` : `v + t·(v − v)` is `v`, or NaN when `t` is NaN or infinite — for ALL `t`;

for every finite non-zero `v` (with a 64-bit pattern).  The second needs that rounding an exactly
representable value returns its own encoding (`aux_roundRat_normal`, `aux_roundRat_subnormal`).
-/
import Vegeta.Model.Quantile
import Mathlib.Tactic.Linarith
import Mathlib.Tactic.Ring
import Mathlib.Tactic.Positivity
namespace Vegeta.Proofs.QuantileF64
open Vegeta.Go Vegeta.Model.Quantile

set_option linter.unusedSimpArgs false

/-- `math.Max(v, math.Min(x, v))` over SoftF64 is `v` for every finite non-zero `v` and EVERY `x`, except
that it is NaN when `x` is NaN. -/
theorem clamp_float64 (v x : F64) (hn : v.isNaN = false) (hi : v.isInf = false) (hz : v.isZero = false) :
    goMax v (goMin x v) = v ∨ (goMax v (goMin x v)).isNaN = true := by
  by_cases hxn : x.isNaN = true
  · right
    have : goMin x v = F64.nan := by
      unfold goMin
      simp [hxn, hi]
      intro h1 _
      -- a NaN is not an infinity
      unfold F64.isNaN at hxn; unfold F64.isInf at h1
      simp at hxn h1
      omega
    rw [this]
    unfold goMax
    have e1 : F64.nan.isInf = false := by decide
    have e2 : F64.nan.isNaN = true := by decide
    simp [hi, hn, e1, e2]
  · left
    simp only [Bool.not_eq_true] at hxn
    by_cases hxm : (x.isInf && x.sign) = true
    · have : goMin x v = F64.inf true := by unfold goMin; simp [hxm]
      rw [this]
      unfold goMax
      have e1 : (F64.inf true).isInf = true := by decide
      have e2 : (F64.inf true).sign = true := by decide
      have e3 : (F64.inf true).isNaN = false := by decide
      have e4 : F64.lt (F64.inf true) v = true := by unfold F64.lt; simp [e1, e2, e3, hn, hi]
      simp [hi, hn, hz, e1, e2, e3, e4]
    · simp only [Bool.not_eq_true] at hxm
      by_cases hlt : F64.lt x v = true
      · have : goMin x v = x := by unfold goMin; simp [hxm, hi, hxn, hn, hz, hlt]
        rw [this]
        have hxp : (x.isInf && !x.sign) = false := by
          cases hxi : x.isInf with
          | false => simp
          | true =>
            cases hxs : x.sign with
            | true => simp
            | false =>
              exfalso
              unfold F64.lt at hlt
              simp [hxn, hn, hxi, hxs] at hlt
        unfold goMax
        simp [hi, hn, hz, hxn, hxp, hlt]
      · simp only [Bool.not_eq_true] at hlt
        have : goMin x v = v := by unfold goMin; simp [hxm, hi, hxn, hn, hz, hlt]
        rw [this]
        unfold goMax
        simp [hi, hn, hz]

/-! ### `v − v = +0`; `t·(+0)` is `±0` or NaN; `v + NaN = NaN` -/

theorem aux_p63 : F64.p63 = F64.p52 * 2048 := rfl

/-- adding `2^63 = 2048·2^52` to a bit pattern flips the sign bit and leaves exponent and fraction alone -/
theorem aux_shift (b : Nat) : (⟨b + F64.p63⟩ : F64).frac = (⟨b⟩ : F64).frac ∧
    (⟨b + F64.p63⟩ : F64).bexp = (⟨b⟩ : F64).bexp ∧ (⟨b + F64.p63⟩ : F64).sign = !(⟨b⟩ : F64).sign := by
  refine ⟨?_, ?_, ?_⟩
  · show (b + F64.p63) % F64.p52 = b % F64.p52
    rw [aux_p63, Nat.add_mul_mod_self_left]
  · show (b + F64.p63) / F64.p52 % 2048 = b / F64.p52 % 2048
    rw [aux_p63, Nat.add_mul_div_left _ _ (by decide : 0 < F64.p52), Nat.add_mod_right]
  · show ((b + F64.p63) / F64.p63 % 2 == 1) = !(b / F64.p63 % 2 == 1)
    rw [Nat.add_div_right _ (by decide : 0 < F64.p63)]
    generalize b / F64.p63 = n
    rcases Nat.mod_two_eq_zero_or_one n with h | h <;> simp [Nat.succ_mod_two_eq_zero_iff, Nat.succ_mod_two_eq_one_iff, h]

/-- `neg` adds `2^63` when the sign bit is clear and takes it away when it is set -/
theorem aux_neg_fields (v : F64) :
    (F64.neg v).frac = v.frac ∧ (F64.neg v).bexp = v.bexp ∧ (F64.neg v).sign = !v.sign := by
  unfold F64.neg
  split
  · rename_i hs
    have hge : F64.p63 ≤ v.bits := by
      by_contra h
      simp [F64.sign, Nat.div_eq_of_lt (not_le.1 h)] at hs
    obtain ⟨b, rfl⟩ : ∃ b, v = ⟨b + F64.p63⟩ := ⟨_, congrArg F64.mk (Nat.sub_add_cancel hge).symm⟩
    obtain ⟨h1, h2, h3⟩ := aux_shift b
    simp only [Nat.add_sub_cancel]
    exact ⟨h1.symm, h2.symm, by rw [h3, Bool.not_not]⟩
  · exact aux_shift v.bits

theorem aux_neg_class (v : F64) : (F64.neg v).isNaN = v.isNaN ∧ (F64.neg v).isInf = v.isInf ∧
    (F64.neg v).mant = v.mant ∧ (F64.neg v).expo = v.expo := by
  obtain ⟨hf, he, -⟩ := aux_neg_fields v
  simp only [F64.isNaN, F64.isInf, F64.mant, F64.expo, hf, he, and_self]

theorem aux_sub_self (v : F64) (hn : v.isNaN = false) (hi : v.isInf = false) : F64.sub v v = F64.posZero := by
  unfold F64.sub F64.add
  obtain ⟨h1, h2, h3, h4⟩ := aux_neg_class v
  simp only [h1, h2, h3, h4, (aux_neg_fields v).2.2, hn, hi, Bool.or_self,
    Bool.false_eq_true, ↓reduceIte, min_self, Int.sub_self, Int.toNat_zero, Nat.pow_zero, Int.mul_one]
  cases v.sign <;> simp

theorem aux_mul_posZero (t : F64) :
    F64.mul t F64.posZero = F64.nan ∨ F64.mul t F64.posZero = F64.posZero ∨ F64.mul t F64.posZero = F64.negZero := by
  unfold F64.mul
  have e1 : F64.posZero.isNaN = false := by decide
  have e2 : F64.posZero.isInf = false := by decide
  have e3 : F64.posZero.isZero = true := by decide
  simp only [e1, e2, e3, Bool.or_false, Bool.or_true, ↓reduceIte]
  by_cases h1 : t.isNaN = true
  · simp [h1]
  · by_cases h2 : t.isInf = true
    · simp [h1, h2]
    · simp only [h1, h2, Bool.false_eq_true, ↓reduceIte]
      unfold F64.zero
      split <;> simp

theorem aux_add_nan (v : F64) : F64.add v F64.nan = F64.nan := by
  unfold F64.add
  have : F64.nan.isNaN = true := by decide
  simp [this]

/-! ### Rounding an exactly representable value returns its encoding

General facts about `F64.roundRat`.  `Rounding.roundRat_eq` and `DurationRoundTrip.roundRat_cancel` cover positive
ratios in [1, 2^52) only: no sign, no value below 1, no subnormal. -/

theorem aux_log2_scaled (M j L : Nat) (h1 : 2 ^ L ≤ M) (h2 : M < 2 ^ (L+1)) : F64.log2 (M * 2 ^ j) = L + j := by
  unfold F64.log2
  have hpos : 0 < 2 ^ j := Nat.pow_pos (by omega)
  have hM : 0 < M := lt_of_lt_of_le (Nat.pow_pos (by omega)) h1
  rw [Nat.log2_eq_iff (by positivity)]
  constructor
  · rw [Nat.pow_add]; exact Nat.mul_le_mul_right _ h1
  · have : 2 ^ (L + j + 1) = 2 ^ (L+1) * 2 ^ j := by rw [← Nat.pow_add]; congr 1; omega
    rw [this]; exact Nat.mul_lt_mul_of_pos_right h2 hpos

/-- rounding an exactly representable normal value `(2^52 + f)·2^j / 2^E` returns its encoding, with biased
exponent `j + 1075 - E` -/
theorem aux_roundRat_normal (sg : Bool) (f j E : Nat) (hf : f < F64.p52) (hlo : E ≤ j + 1074) (hhi : j + 1075 ≤ E + 2046) :
    F64.roundRat sg ((F64.p52 + f) * 2 ^ j) (2 ^ E) = ⟨(if sg then F64.p63 else 0) + ((j + 1075 - E) * F64.p52 + f)⟩ := by
  have hk : ¬ ((E : Int) - (j : Int) > 1074) := by omega
  -- the last stage, once the quotient is the significand with remainder 0: no carry, no overflow
  have hfin : (if (1075 - ((E : Int) - (j : Int)) - 1) * (F64.p52 : Int) + ((F64.p52 + f : Nat) : Int) ≥ ((2047 * F64.p52 : Nat) : Int)
        then F64.inf sg
        else (⟨(if sg then F64.p63 else 0) +
          ((1075 - ((E : Int) - (j : Int)) - 1) * (F64.p52 : Int) + ((F64.p52 + f : Nat) : Int)).toNat⟩ : F64)) =
      ⟨(if sg then F64.p63 else 0) + ((j + 1075 - E) * F64.p52 + f)⟩ := by
    obtain ⟨b, hb, hb'⟩ : ∃ b : Nat, j + 1075 - E = b + 1 ∧ b + 1 + 1 ≤ 2047 := ⟨j + 1074 - E, by omega, by omega⟩
    have hbody : (1075 - ((E : Int) - (j : Int)) - 1) * (F64.p52 : Int) + ((F64.p52 + f : Nat) : Int) =
        (((b + 1) * F64.p52 + f : Nat) : Int) := by
      rw [show 1075 - ((E : Int) - (j : Int)) - 1 = (b : Int) by omega]; push_cast; ring
    have hsmall : ¬ ((b + 1) * F64.p52 + f ≥ 2047 * F64.p52) := not_le.2 <| calc
      (b + 1) * F64.p52 + f < (b + 1) * F64.p52 + F64.p52 := Nat.add_lt_add_left hf _
      _ = (b + 1 + 1) * F64.p52 := (Nat.succ_mul _ _).symm
      _ ≤ 2047 * F64.p52 := Nat.mul_le_mul_right _ hb'
    rw [hbody, Int.toNat_natCast, if_neg (by exact_mod_cast hsmall), hb]
  have hM1 : 2 ^ 52 ≤ F64.p52 + f := Nat.le_add_right _ f
  have hM2 : F64.p52 + f < 2 ^ 53 := Nat.add_lt_add_left hf F64.p52
  have hlogn := aux_log2_scaled (F64.p52 + f) j 52 hM1 hM2
  have hlogd : F64.log2 (2 ^ E) = E := Nat.log2_two_pow
  have hn0 : ((F64.p52 + f) * 2 ^ j == 0) = false :=
    beq_eq_false_iff_ne.2 (Nat.mul_pos (Nat.lt_of_lt_of_le (Nat.two_pow_pos 52) hM1) (Nat.two_pow_pos j)).ne'
  have hd0 : ((2:Nat) ^ E == 0) = false := beq_eq_false_iff_ne.2 (Nat.two_pow_pos E).ne'
  have hK : (52 : Int) - (((52 + j : Nat) : Int) - (E : Int)) = (E : Int) - (j : Int) := by push_cast; ring
  have hge : ¬ (F64.p52 + f ≥ F64.p53) := not_le.2 hM2
  have hlt : ¬ (F64.p52 + f < F64.p52) := not_lt.2 hM1
  -- scale by `2^(E - j)`: down when `E < j`, up otherwise; either way the quotient is the significand
  rcases Nat.lt_or_ge E j with h | h
  · have hc : ¬ ((E : Int) - (j : Int) ≥ 0) := not_le.2 (Int.sub_neg_of_lt (Int.ofNat_lt.2 h))
    have e : (-((E : Int) - (j : Int))).toNat = j - E := by rw [neg_sub, Int.toNat_sub]
    have hD := Nat.two_pow_pos j
    unfold F64.roundRat
    rw [hn0, hd0, hlogn, hlogd]
    simp only [Bool.false_eq_true, ↓reduceIte, hK, hc, e, ← Nat.pow_add, Nat.add_sub_cancel' h.le, Nat.mul_div_cancel _ hD,
      hge, hlt, hk, Nat.mul_mod_left, Nat.mul_zero, gt_iff_lt, Nat.not_lt_zero, beq_iff_eq, hD.ne]
    exact hfin
  · have hc : (E : Int) - (j : Int) ≥ 0 := Int.sub_nonneg_of_le (Int.ofNat_le.2 h)
    have e : ((E : Int) - (j : Int)).toNat = E - j := Int.toNat_sub E j
    have hmul : (F64.p52 + f) * 2 ^ j * 2 ^ (E - j) = (F64.p52 + f) * 2 ^ E := by
      rw [Nat.mul_assoc, ← Nat.pow_add, Nat.add_sub_cancel' h]
    have hD := Nat.two_pow_pos E
    unfold F64.roundRat
    rw [hn0, hd0, hlogn, hlogd]
    simp only [Bool.false_eq_true, ↓reduceIte, hK, hc, e, hmul, Nat.mul_div_cancel _ hD, hge, hlt, hk, Nat.mul_mod_left,
      Nat.mul_zero, gt_iff_lt, Nat.not_lt_zero, beq_iff_eq, hD.ne]
    exact hfin

theorem aux_roundRat_subnormal (sg : Bool) (f : Nat) (hf0 : 0 < f) (hf : f < F64.p52) :
    F64.roundRat sg f (2 ^ 1074) = ⟨(if sg then F64.p63 else 0) + f⟩ := by
  obtain ⟨L, hL⟩ : ∃ L, F64.log2 f = L := ⟨_, rfl⟩
  have hb : 2 ^ L ≤ f ∧ f < 2 ^ (L + 1) := (Nat.log2_eq_iff hf0.ne').mp hL
  have hL51 : L ≤ 51 := by
    by_contra h
    exact absurd (hb.1.trans_lt hf) (not_lt.2 (Nat.pow_le_pow_right Nat.zero_lt_two (show 52 ≤ L by omega)))
  -- the first guess `k0 = 1126 - L` exceeds 1074 and is clamped: subnormal scaling, quotient `f`, remainder 0
  have hk : ((1126 : Int) - (L : Int) > 1074) := by omega
  have hc : (1126 : Int) - (L : Int) ≥ 0 := by omega
  have e : ((1126 : Int) - (L : Int)).toNat = (52 - L) + 1074 := by omega
  have e52 : L + (52 - L) = 52 := by omega
  have e53 : L + 1 + (52 - L) = 53 := by omega
  have hfin : (if ((1075 : Int) - 1074 - 1) * (F64.p52 : Int) + (f : Int) ≥ ((2047 * F64.p52 : Nat) : Int) then F64.inf sg
      else (⟨(if sg then F64.p63 else 0) + (((1075 : Int) - 1074 - 1) * (F64.p52 : Int) + (f : Int)).toNat⟩ : F64)) =
      ⟨(if sg then F64.p63 else 0) + f⟩ := by
    have h0 : ((1075 : Int) - 1074 - 1) * (F64.p52 : Int) + (f : Int) = (f : Int) := by
      rw [show (1075 : Int) - 1074 - 1 = 0 by decide, zero_mul, zero_add]
    rw [h0, Int.toNat_natCast, if_neg (by exact_mod_cast not_le.2 (hf.trans_le (Nat.le_mul_of_pos_left _ (by decide))))]
  have hlogd : F64.log2 (2 ^ 1074) = 1074 := by unfold F64.log2; exact Nat.log2_two_pow
  have hn0 : (f == 0) = false := beq_eq_false_iff_ne.2 hf0.ne'
  have hD : 0 < 2 ^ 1074 := Nat.two_pow_pos 1074
  have hd0 : ((2:Nat) ^ 1074 == 0) = false := beq_eq_false_iff_ne.2 hD.ne'
  have hK : (52 : Int) - ((L : Int) - ((1074 : Nat) : Int)) = 1126 - (L : Int) := by push_cast; ring
  have hq0 : f * 2 ^ ((52 - L) + 1074) / 2 ^ 1074 = f * 2 ^ (52 - L) := by
    rw [Nat.pow_add, ← Nat.mul_assoc]; exact Nat.mul_div_cancel _ hD
  have hq0lo : ¬ (f * 2 ^ (52 - L) < F64.p52) := not_lt.2 <| by
    have := Nat.mul_le_mul_right (2 ^ (52 - L)) hb.1
    rwa [← Nat.pow_add, e52] at this
  have hq0hi : ¬ (f * 2 ^ (52 - L) ≥ F64.p53) := not_le.2 <| by
    have := Nat.mul_lt_mul_of_pos_right hb.2 (Nat.two_pow_pos (52 - L))
    rwa [← Nat.pow_add, e53] at this
  unfold F64.roundRat
  rw [hn0, hd0, hL, hlogd]
  simp only [Bool.false_eq_true, ↓reduceIte, hK, hc, e, hq0, hq0lo, hq0hi, hk, show ((1074 : Int) ≥ 0) by decide,
    show Int.toNat 1074 = 1074 from rfl, Nat.mul_div_cancel _ hD, Nat.mul_mod_left, Nat.mul_zero, gt_iff_lt,
    Nat.not_lt_zero, beq_iff_eq, hD.ne]
  exact hfin

theorem aux_bits_decomp (v : F64) (hb : v.bits < 2 ^ 64) :
    v.bits = (if v.sign then F64.p63 else 0) + (v.bexp * F64.p52 + v.frac) := by
  -- quotient and remainder by `2^52`, then the quotient (below 4096) by 2048: the high digit is the sign bit
  have h1 := (Nat.div_add_mod v.bits F64.p52).symm
  have h2 := (Nat.div_add_mod (v.bits / F64.p52) 2048).symm
  have hs : v.bits / F64.p52 / 2048 = v.bits / F64.p63 := Nat.div_div_eq_div_mul _ _ _
  have hlt : v.bits / F64.p63 < 2 := Nat.div_lt_of_lt_mul hb
  unfold F64.sign F64.bexp F64.frac
  rw [hs] at h2
  generalize v.bits / F64.p63 = s at h2 hlt ⊢
  generalize v.bits / F64.p52 = q at h1 h2 ⊢
  generalize v.bits % F64.p52 = f at h1 ⊢
  generalize q % 2048 = e at h2 ⊢
  rw [h1, h2, aux_p63]
  obtain rfl | rfl : s = 0 ∨ s = 1 := by omega
  · show F64.p52 * (2048 * 0 + e) + f = 0 + (e * F64.p52 + f)
    ring
  · show F64.p52 * (2048 * 1 + e) + f = F64.p52 * 2048 + (e * F64.p52 + f)
    ring

/-- a finite non-zero `v` is `±mant·2^j / 2^1074` with `j = expo + 1074`, and rounding that returns `v` -/
theorem aux_roundRat_self (v : F64) (hn : v.isNaN = false) (hi : v.isInf = false) (hnz : v.isZero = false)
    (hb : v.bits < 2 ^ 64) :
    ∃ j : Nat, (v.expo - (-1074)).toNat = j ∧ 0 < v.mant * 2 ^ j ∧ F64.roundRat v.sign (v.mant * 2 ^ j) (2 ^ 1074) = v := by
  have hfin : v.bexp ≠ 2047 := by
    unfold F64.isNaN at hn
    unfold F64.isInf at hi
    intro h; rw [h] at hn hi; simp at hn hi
    exact hi hn
  have hbexp : v.bexp < 2048 := Nat.mod_lt _ (by decide)
  have hfrac : v.frac < F64.p52 := Nat.mod_lt _ (by decide)
  have hdec := aux_bits_decomp v hb
  by_cases hsub : v.bexp = 0
  · have hf0 : 0 < v.frac := by
      unfold F64.isZero at hnz; rw [hsub] at hnz; simp at hnz; omega
    refine ⟨0, by simp [F64.expo, hsub], by simp [F64.mant, hsub, hf0], ?_⟩
    simp only [F64.mant, hsub, beq_self_eq_true, ↓reduceIte, Nat.pow_zero, Nat.mul_one]
    rw [aux_roundRat_subnormal v.sign v.frac hf0 hfrac]
    exact congrArg F64.mk (by rw [hdec, hsub, Nat.zero_mul, Nat.zero_add])
  · have hm : v.mant = F64.p52 + v.frac := by simp [F64.mant, hsub]
    refine ⟨v.bexp - 1, by simp only [F64.expo, hsub, beq_iff_eq, ↓reduceIte]; omega, ?_, ?_⟩
    · rw [hm]; exact Nat.mul_pos (Nat.add_pos_left (by decide) _) (Nat.two_pow_pos _)
    · rw [hm, aux_roundRat_normal v.sign v.frac (v.bexp - 1) 1074 hfrac (by omega) (by omega),
        show v.bexp - 1 + 1075 - 1074 = v.bexp by omega]
      exact congrArg F64.mk hdec.symm

/-! ### `v + (±0) = v`, and the interpolation -/

theorem aux_signed (b : Bool) (n : Nat) (hn : 0 < n) :
    ((if b then -(n : Int) else n) == 0) = false ∧ decide ((if b then -(n : Int) else n) < 0) = b ∧
    (if b then -(n : Int) else (n : Int)).natAbs = n := by
  cases b <;> simp <;> omega

/-- `v + (±0) = v` for every finite non-zero `v` (with a 64-bit pattern): the sum is the signed magnitude of
`v` over `2^1074`, rounded -/
theorem aux_add_zero (v z : F64) (hz : z = F64.posZero ∨ z = F64.negZero)
    (hn : v.isNaN = false) (hi : v.isInf = false) (hnz : v.isZero = false) (hb : v.bits < 2 ^ 64) :
    F64.add v z = v := by
  have hzn : z.isNaN = false := by rcases hz with h | h <;> subst h <;> decide
  have hzi : z.isInf = false := by rcases hz with h | h <;> subst h <;> decide
  have hzm : z.mant = 0 := by rcases hz with h | h <;> subst h <;> decide
  have hze : z.expo = -1074 := by rcases hz with h | h <;> subst h <;> decide
  obtain ⟨j, hj, hpos, hround⟩ := aux_roundRat_self v hn hi hnz hb
  have hmin : min v.expo (-1074) = -1074 := by
    unfold F64.expo; split
    · exact min_self _
    · rename_i h
      have : v.bexp ≠ 0 := by simpa using h
      exact min_eq_right (by omega)
  obtain ⟨s0, s1, s2⟩ := aux_signed v.sign _ hpos
  unfold F64.add
  simp only [hn, hzn, hi, hzi, Bool.or_self, Bool.false_eq_true, ↓reduceIte, hzm, hze, hmin, hj, Int.sub_self,
    Int.toNat_zero, pow_zero, mul_one, Nat.cast_zero, neg_zero, ite_self, add_zero]
  rw [show (v.mant : Int) * 2 ^ j = ((v.mant * 2 ^ j : Nat) : Int) by push_cast; rfl, s0, s1, s2]
  simp only [Bool.false_eq_true, ↓reduceIte, F64.ofScaled, show ¬ ((-1074 : Int) ≥ 0) by omega,
    show (-(-1074 : Int)).toNat = 1074 from rfl]
  exact hround

/-- **`v + t·(v − v)` is `v` or NaN, for every double `t`** and every finite non-zero `v`:
`v − v = +0`; `t·(+0)` is NaN (t NaN or infinite) or `±0`; `v + NaN = NaN`, `v + (±0) = v`. -/
theorem interp_float64 (v t : F64) (hn : v.isNaN = false) (hi : v.isInf = false) (hnz : v.isZero = false)
    (hb : v.bits < 2 ^ 64) :
    F64.add v (F64.mul t (F64.sub v v)) = v ∨ (F64.add v (F64.mul t (F64.sub v v))).isNaN = true := by
  rw [aux_sub_self v hn hi]
  rcases aux_mul_posZero t with h | h | h
  · right; rw [h, aux_add_nan]; decide
  · left; rw [h]; exact aux_add_zero v _ (Or.inl rfl) hn hi hnz hb
  · left; rw [h]; exact aux_add_zero v _ (Or.inr rfl) hn hi hnz hb

end Vegeta.Proofs.QuantileF64
