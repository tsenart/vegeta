/-
Linearisation of the stream targeters at the lock (C15), and the role of the fresh copy that
`ReadBytes` returns in the JSON targeter's two-phase shape.
-/
import Vegeta.Proofs.TargeterConc
namespace Vegeta.Proofs.TargeterLin
open Vegeta.Go
open Vegeta.Model.TargeterConc
open Vegeta.Proofs.TargeterConc

variable {S R T : Type}

/-- the answers caller `c` has received, in the order it received them -/
def eventsOf (c : Nat) (log : List (Ev T)) : List (Ev T) :=
  log.filter fun
    | .exhausted c' => c' == c
    | .result c' _ => c' == c

/-- the answer caller `c` is about to receive (it has left the lock and not yet returned); unrelated to
`TargeterConc.pendingOf` of the static targeter -/
def pendingOf' (sys : Sys S R T) (c : Nat) (loc : List (Local R)) : List (Ev T) :=
  match loc[c]? with
  | some (.holding r) => [.result c (sys.dec r)]
  | _ => []

/-- the sequential schedule in lock order: every call runs to its end before the next begins -/
def seqTrace : List Nat → List Label
  | [] => []
  | c :: r => .lock c :: .finish c :: seqTrace r

theorem runLenient_append (sys : Sys S R T) (s : St S R T) (a b : List Label) :
    runLenient sys s (a ++ b) = runLenient sys (runLenient sys s a) b := by
  induction a generalizing s with
  | nil => rfl
  | cons l r ih =>
    simp only [List.cons_append, runLenient]
    split <;> exact ih _

theorem seqTrace_append (a b : List Nat) : seqTrace (a ++ b) = seqTrace a ++ seqTrace b := by
  induction a with
  | nil => rfl
  | cons c r ih => simp [seqTrace, ih]

theorem eventsOf_append (c : Nat) (a b : List (Ev T)) : eventsOf c (a ++ b) = eventsOf c a ++ eventsOf c b := by
  simp [eventsOf]

theorem eventsOf_exhausted (c c' : Nat) :
    eventsOf c' [(.exhausted c : Ev T)] = if c = c' then [.exhausted c] else [] := by
  simp [eventsOf, List.filter_cons]

theorem eventsOf_result (c c' : Nat) (o : Outcome T) :
    eventsOf c' [Ev.result c o] = if c = c' then [.result c o] else [] := by
  simp [eventsOf, List.filter_cons]

variable (sys : Sys S R T) {st : St S R T} {c : Nat} {loc : List (Local R)} {r : R}

theorem pendingOf'_idle (h : loc[c]? = some .idle) : pendingOf' sys c loc = [] := by
  simp only [pendingOf', h]

theorem pendingOf'_holding (h : loc[c]? = some (.holding r)) :
    pendingOf' sys c loc = [.result c (sys.dec r)] := by
  simp only [pendingOf', h]

theorem pendingOf'_set_ne {c' : Nat} (h : c ≠ c') (loc : List (Local R)) (x : Local R) :
    pendingOf' sys c' (loc.set c x) = pendingOf' sys c' loc := by
  simp only [pendingOf', List.getElem?_set_ne h]

theorem lt_length_of_getElem? {α} {l : List α} {c : Nat} {x : α} (h : l[c]? = some x) : c < l.length :=
  (List.getElem?_eq_some_iff.mp h).1

/-! What the three transitions do to the answers of caller `c'` (received ones, then the pending
one): `exhaust` and `take` by caller `c` append that call's answer, `finish` changes nothing. -/

theorem answers_exhaust (hidle : st.loc[c]? = some .idle) (c' : Nat) :
    eventsOf c' (st.log ++ [.exhausted c]) ++ pendingOf' sys c' st.loc =
      eventsOf c' st.log ++ pendingOf' sys c' st.loc ++ eventsOf c' [.exhausted c] := by
  rw [eventsOf_append, List.append_assoc, List.append_assoc, eventsOf_exhausted]
  by_cases hcc : c = c'
  · subst hcc; rw [pendingOf'_idle sys hidle, List.append_nil]; rfl
  · rw [if_neg hcc, List.append_nil]; rfl

theorem answers_take (r : R) (hidle : st.loc[c]? = some .idle) (c' : Nat) :
    eventsOf c' st.log ++ pendingOf' sys c' (st.loc.set c (.holding r)) =
      eventsOf c' st.log ++ pendingOf' sys c' st.loc ++ eventsOf c' [.result c (sys.dec r)] := by
  rw [List.append_assoc, eventsOf_result]
  by_cases hcc : c = c'
  · subst hcc
    rw [pendingOf'_idle sys hidle, if_pos rfl,
      pendingOf'_holding sys (List.getElem?_set_self (lt_length_of_getElem? hidle))]; rfl
  · rw [if_neg hcc, List.append_nil, pendingOf'_set_ne sys hcc]

theorem answers_finish (hhold : st.loc[c]? = some (.holding r)) (c' : Nat) :
    eventsOf c' (st.log ++ [.result c (sys.dec r)]) ++ pendingOf' sys c' (st.loc.set c .idle) =
      eventsOf c' st.log ++ pendingOf' sys c' st.loc := by
  rw [eventsOf_append, List.append_assoc, eventsOf_result]
  by_cases hcc : c = c'
  · subst hcc
    rw [pendingOf'_holding sys hhold, if_pos rfl,
      pendingOf'_idle sys (List.getElem?_set_self (lt_length_of_getElem? hhold)), List.append_nil]
  · rw [if_neg hcc, pendingOf'_set_ne sys hcc]; rfl

/-- the interleaved state `st` and the sequential state `sq` (same calls, in lock order, each
run to its end): same source, none of `st`'s callers mid-call in `sq`, and every caller has in `sq`
exactly the answers it has in `st` plus the one it is about to receive -/
structure Lin (sys : Sys S R T) (st sq : St S R T) : Prop where
  src : sq.src = st.src
  idle : ∀ c, c < st.loc.length → sq.loc[c]? = some .idle
  evs : ∀ c, eventsOf c sq.log = eventsOf c st.log ++ pendingOf' sys c st.loc

theorem lin_init (src : S) (n : Nat) : Lin sys (init src n) (init src n) := by
  refine ⟨rfl, ?_, ?_⟩
  · intro c hc
    simp only [init, List.length_replicate] at hc ⊢
    simp [hc]
  · intro c
    simp only [init, eventsOf, List.filter_nil, pendingOf', List.nil_append]
    by_cases hc : c < n <;> simp [hc]

theorem lin_step {st2 sq : St S R T} {l : Label} (lin : Lin sys st sq) (hs : Step sys st l st2) :
    Lin sys st2 (runLenient sys sq (seqTrace (lockCallers [l]))) := by
  cases hs with
  | @exhaust c src' hidle hpop =>
    -- `sq` takes the same `lock c`; its `finish c` is not enabled
    have hsq := lin.idle c (lt_length_of_getElem? hidle)
    have h1 := step_iff.mpr (Step.exhaust (sys := sys) hsq (lin.src ▸ hpop))
    simp only [lockCallers, seqTrace, runLenient, h1]
    simp only [step, hsq]
    exact ⟨rfl, lin.idle, fun c' => by rw [eventsOf_append, lin.evs c', answers_exhaust sys hidle]⟩
  | @take c r src' hidle hpop =>
    -- `sq` takes the same `lock c` and finishes the call at once
    have hsq := lin.idle c (lt_length_of_getElem? hidle)
    have hc := lt_length_of_getElem? hsq
    have h1 := step_iff.mpr (Step.take (sys := sys) hsq (lin.src ▸ hpop))
    have h2 := step_iff.mpr (Step.finish (sys := sys)
      (st := { sq with src := src', loc := sq.loc.set c (.holding r) }) (List.getElem?_set_self hc))
    simp only [lockCallers, seqTrace, runLenient, h1, h2]
    refine ⟨rfl, ?_, fun c' => by rw [eventsOf_append, lin.evs c', answers_take sys r hidle]⟩
    intro c' hc'
    rw [List.length_set] at hc'
    by_cases hcc : c = c'
    · subst hcc; exact List.getElem?_set_self (by rwa [List.length_set])
    · rw [List.getElem?_set_ne hcc, List.getElem?_set_ne hcc]; exact lin.idle c' hc'
  | @finish c r hhold =>
    show Lin sys _ sq
    exact ⟨lin.src, fun c' hc' => lin.idle c' (by rwa [List.length_set] at hc'),
      fun c' => by rw [lin.evs c', answers_finish sys hhold]⟩

/-- **Linearisation at the lock**: whatever the interleaving `tr`, the sequential schedule that
performs the same calls one after the other in the order in which they took the lock reaches
the same source state, and every caller has received the same answers in the same order — up to
the answer of a call that is still between lock and return. -/
theorem lin_run {tr : List Label} {st2 sq : St S R T} (lin : Lin sys st sq) (h : run sys st tr = some st2) :
    Lin sys st2 (runLenient sys sq (seqTrace (lockCallers tr))) := by
  induction tr generalizing st sq with
  | nil => rw [run_nil h]; exact lin
  | cons l ls ih =>
    obtain ⟨s1, hs, h⟩ := run_cons h
    have := ih (lin_step sys lin hs) h
    rwa [← runLenient_append, ← seqTrace_append, ← lockCallers_append] at this

/-- forget the buffer: a caller that owns its line holds that line -/
def projLoc : Local Line → Local Bytes
  | .idle => .idle
  | .holding (.own d) => .holding d
  | .holding .window => .idle

def OwnsOnly (loc : List (Local Line)) : Prop := ∀ l ∈ loc, l ≠ .holding .window

def proj (s : BSt) : St Bytes Bytes Vegeta.Model.JSONTargets.JRec :=
  { src := s.rest, loc := s.loc.map projLoc, log := s.log }

theorem ownsOnly_set {loc : List (Local Line)} (h : OwnsOnly loc) (c : Nat) (x : Local Line) (hx : x ≠ .holding .window) :
    OwnsOnly (loc.set c x) := by
  intro l hl
  rcases List.mem_or_eq_of_mem_set hl with h1 | h1
  · exact h l h1
  · rw [h1]; exact hx

theorem proj_loc_get {s : BSt} {c : Nat} {x : Local Line} (h : s.loc[c]? = some x) :
    (proj s).loc[c]? = some (projLoc x) := by
  simp [proj, h]

/-- **Decoding outside the lock is safe because the line is the caller's own copy**: with
`fresh = true` (`ReadBytes`) the buffer-explicit model is, step for step, the two-phase model
`jsonSys` that all C15 theorems are about — the buffer is never looked at. -/
theorem fresh_step (cfg : Vegeta.Model.JSONTargets.Cfg) (s s' : BSt) (l : Label) (ho : OwnsOnly s.loc)
    (hs : bstep cfg true s l = some s') :
    Step (jsonSys cfg) (proj s) l (proj s') ∧ OwnsOnly s'.loc := by
  cases l with
  | lock c =>
    simp only [bstep] at hs
    split at hs
    · rename_i hidle
      split at hs <;> rename_i hpop <;> cases hs
      · exact ⟨.exhaust (proj_loc_get hidle) hpop, ho⟩
      · refine ⟨?_, ownsOnly_set ho c _ (by simp)⟩
        show Step _ _ _ ⟨_, (s.loc.set c _).map projLoc, _⟩
        rw [List.map_set]
        exact .take (proj_loc_get hidle) hpop
    · cases hs
  | finish c =>
    simp only [bstep] at hs
    split at hs
    · rename_i d hhold
      cases hs
      refine ⟨?_, ownsOnly_set ho c _ (by simp)⟩
      show Step _ _ _ ⟨_, (s.loc.set c _).map projLoc, _⟩
      rw [List.map_set]
      exact .finish (proj_loc_get hhold)
    · rename_i hhold
      exact absurd rfl (ho _ (List.mem_of_getElem? hhold))
    · cases hs

theorem fresh_run (cfg : Vegeta.Model.JSONTargets.Cfg) (tr : List Label) (s s' : BSt) (ho : OwnsOnly s.loc)
    (h : brun cfg true s tr = some s') : run (jsonSys cfg) (proj s) tr = some (proj s') := by
  induction tr generalizing s with
  | nil => simp only [brun, Option.some.injEq] at h; rw [h]; rfl
  | cons l ls ih =>
    simp only [brun] at h
    split at h
    · rename_i s1 hs
      obtain ⟨h1, h2⟩ := fresh_step cfg s s1 l ho hs
      simp only [run, step_iff.mpr h1]
      exact ih s1 h2 h
    · cases h

end Vegeta.Proofs.TargeterLin
