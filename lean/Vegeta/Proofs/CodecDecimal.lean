/-
Proofs about the decimal integer text forms (`strconv.FormatInt/FormatUint`,
`strconv.ParseUint/ParseInt`) of `Vegeta.Model.CodecDecimal`, and agreement of the
spec reader's plain decimal parser (`Vegeta.Spec.Layout.specNat/specInt`).
-/
import Vegeta.Model.CodecResult
import Vegeta.Spec.Layout
namespace Vegeta.Proofs.Codec
open Vegeta.Go Vegeta.Model.Codec

theorem digitsRev_digits (fuel n : Nat) : ∀ c ∈ digitsRev fuel n, 48 ≤ c ∧ c ≤ 57 := by
  induction fuel generalizing n with
  | zero => intro c hc; simp [digitsRev] at hc
  | succ fuel ih =>
    intro c hc
    unfold digitsRev at hc
    split at hc
    · simp only [List.mem_singleton] at hc
      omega
    · simp only [List.mem_cons] at hc
      rcases hc with hc | hc
      · omega
      · exact ih _ c hc

theorem digitsRev_ne_nil (fuel n : Nat) : digitsRev (fuel + 1) n ≠ [] := by
  unfold digitsRev
  split <;> simp

theorem digitsRev_length (k f n : Nat) (hn : n < 10 ^ (k + 1)) : (digitsRev f n).length ≤ k + 1 := by
  induction k generalizing f n with
  | zero =>
    cases f with
    | zero => simp [digitsRev]
    | succ f => simp [digitsRev, show n < 10 by simpa using hn]
  | succ k ih =>
    cases f with
    | zero => simp [digitsRev]
    | succ f =>
      have := ih f (n / 10) (by rw [Nat.pow_succ] at hn; omega)
      unfold digitsRev
      split <;> simp <;> omega

theorem parseUintLoop_digit (M n d : Nat) (s : Bytes) (hd : d < 10) (h64 : n * 10 + d < two64)
    (hM : n * 10 + d ≤ M) : parseUintLoop M ((48 + d) :: s) n = parseUintLoop M s (n * 10 + d) := by
  have h1 : 48 ≤ 48 + d ∧ 48 + d ≤ 57 := by omega
  have h2 : ¬ n ≥ cutoff10 := by unfold two64 at h64; unfold cutoff10; omega
  have h3 : ¬ (n * 10 + d ≥ two64 ∨ n * 10 + d > M) := by omega
  rw [parseUintLoop, if_pos h1, if_neg h2]
  simp only [Nat.add_sub_cancel_left, if_neg h3]

theorem parseUintLoop_digitsRev (M : Nat) (fuel n : Nat) (s : Bytes)
    (hf : n < fuel) (hM : n ≤ M) (h64 : n < two64) :
    parseUintLoop M ((digitsRev fuel n).reverse ++ s) 0 = parseUintLoop M s n := by
  induction fuel generalizing n s with
  | zero => omega
  | succ fuel ih =>
    unfold digitsRev
    split
    · rw [List.reverse_singleton, List.singleton_append,
        parseUintLoop_digit M 0 n s (by omega) (by omega) (by omega), Nat.zero_mul, Nat.zero_add]
    · rw [List.reverse_cons, List.append_assoc, List.singleton_append,
        ih (n / 10) _ (by omega) (by omega) (by omega),
        parseUintLoop_digit M (n / 10) (n % 10) s (by omega) (by omega) (by omega)]
      congr 1
      omega

theorem digitsVal_digitsRev (fuel n : Nat) (hf : n < fuel) :
    Vegeta.Spec.Layout.digitsVal (digitsRev fuel n).reverse = n := by
  induction fuel generalizing n with
  | zero => omega
  | succ fuel ih =>
    unfold digitsRev
    split
    · simp [Vegeta.Spec.Layout.digitsVal]
    · have := ih (n / 10) (by omega)
      unfold Vegeta.Spec.Layout.digitsVal at this ⊢
      simp only [List.reverse_cons, List.foldl_append, List.foldl_cons, List.foldl_nil, this]
      omega

theorem fmtNat_digits (n : Nat) : ∀ c ∈ fmtNat n, 48 ≤ c ∧ c ≤ 57 := by
  intro c hc
  unfold fmtNat at hc
  exact digitsRev_digits _ _ c (List.mem_reverse.mp hc)

theorem fmtNat_ne_nil (n : Nat) : fmtNat n ≠ [] := by
  unfold fmtNat
  intro h
  exact digitsRev_ne_nil n n (List.reverse_eq_nil_iff.mp h)

theorem fmtNat_isEmpty (n : Nat) : (fmtNat n).isEmpty = false :=
  List.isEmpty_eq_false_iff.2 (fmtNat_ne_nil n)

theorem fmtInt_ne_nil (i : Int) : fmtInt i ≠ [] := by
  unfold fmtInt
  split
  · simp
  · exact fmtNat_ne_nil _

theorem fmtInt_chars (i : Int) : ∀ c ∈ fmtInt i, c = 45 ∨ (48 ≤ c ∧ c ≤ 57) := by
  intro c hc
  unfold fmtInt at hc
  split at hc
  · simp only [List.mem_cons] at hc
    rcases hc with hc | hc
    · exact Or.inl hc
    · exact Or.inr (fmtNat_digits _ c hc)
  · exact Or.inr (fmtNat_digits _ c hc)

theorem fmtNat_cons (n : Nat) :
    ∃ d r, fmtNat n = d :: r ∧ (48 ≤ d ∧ d ≤ 57) ∧ ∀ c ∈ r, 48 ≤ c ∧ c ≤ 57 := by
  have hd := fmtNat_digits n
  have hn := fmtNat_ne_nil n
  cases h : fmtNat n with
  | nil => exact absurd h hn
  | cons d r =>
    rw [h] at hd
    exact ⟨d, r, rfl, hd d (by simp), fun c hc => hd c (by simp [hc])⟩

theorem fmtInt_cons (i : Int) :
    ∃ d r, fmtInt i = d :: r ∧ (d = 45 ∨ (48 ≤ d ∧ d ≤ 57)) ∧ ∀ c ∈ r, 48 ≤ c ∧ c ≤ 57 := by
  unfold fmtInt
  split
  · exact ⟨45, fmtNat i.natAbs, rfl, Or.inl rfl, fmtNat_digits _⟩
  · obtain ⟨d, r, h, hd, hr⟩ := fmtNat_cons i.natAbs
    exact ⟨d, r, h, Or.inr hd, hr⟩

theorem two_pow_64 : (2 : Nat) ^ 64 = 18446744073709551616 := by decide

/-- strconv.ParseUint ∘ strconv.FormatUint = id -/
theorem parseUint_fmtNat (bits n : Nat) (hb : bits ≤ 64) (h : n < 2 ^ bits) :
    parseUint bits (fmtNat n) = .ok n := by
  have hp : 2 ^ bits ≤ 2 ^ 64 := Nat.pow_le_pow_right (by decide) hb
  rw [two_pow_64] at hp
  unfold parseUint
  rw [fmtNat_isEmpty]
  simp only [Bool.false_eq_true, if_false]
  have := parseUintLoop_digitsRev (2 ^ bits - 1) (n + 1) n [] (by omega) (by omega)
    (by unfold two64; omega)
  rw [List.append_nil] at this
  unfold fmtNat
  rw [this, parseUintLoop]

/-- strconv.ParseInt ∘ strconv.FormatInt = id on int64 -/
theorem parseInt_fmtInt (i : Int) (h : inS64 i) : parseInt 64 (fmtInt i) = .ok i := by
  unfold inS64 minInt64 maxInt64 at h
  have h63 : (2 : Nat) ^ (64 - 1) = 9223372036854775808 := by decide
  have hp := parseUint_fmtNat 64 i.natAbs (Nat.le_refl _) (by rw [two_pow_64]; omega)
  unfold fmtInt
  split
  · rename_i hneg
    unfold parseInt
    simp only [beq_self_eq_true, Bool.or_true, if_true, hp, h63]
    simp only [Bool.not_true, Bool.false_and, Bool.true_and, Bool.false_eq_true, if_false,
      decide_eq_true_eq]
    have : ¬ (i.natAbs > 9223372036854775808) := by omega
    simp only [this, if_false]
    congr 1
    omega
  · rename_i hnn
    obtain ⟨d, r, hdr, hd, _⟩ := fmtNat_cons i.natAbs
    rw [hdr] at hp ⊢
    unfold parseInt
    have h45 : (d == 45) = false := by
      rw [beq_eq_false_iff_ne]; omega
    have h43 : (d == 43) = false := by
      rw [beq_eq_false_iff_ne]; omega
    simp only [h45, h43, Bool.or_false, Bool.false_eq_true, if_false, hp, h63]
    simp only [Bool.not_false, Bool.true_and, Bool.false_and, Bool.false_eq_true, if_false,
      decide_eq_true_eq]
    have : ¬ (i.natAbs ≥ 9223372036854775808) := by omega
    simp only [this, if_false]
    congr 1
    omega

theorem specNat_fmtNat (n : Nat) : Vegeta.Spec.Layout.specNat (fmtNat n) = some n := by
  unfold Vegeta.Spec.Layout.specNat
  have hne := fmtNat_isEmpty n
  have hall : (fmtNat n).all isDigitB = true := by
    rw [List.all_eq_true]
    intro c hc
    have := fmtNat_digits n c hc
    unfold isDigitB
    simp [this.1, this.2]
  have hv : Vegeta.Spec.Layout.digitsVal (fmtNat n) = n := by
    unfold fmtNat
    exact digitsVal_digitsRev (n + 1) n (by omega)
  simp [hne, hall, hv]

theorem specInt_fmtInt (i : Int) : Vegeta.Spec.Layout.specInt (fmtInt i) = some i := by
  unfold fmtInt
  split
  · rename_i hneg
    unfold Vegeta.Spec.Layout.specInt
    simp only [specNat_fmtNat]
    show some (-((i.natAbs : Nat) : Int)) = some i
    congr 1
    omega
  · rename_i hnn
    obtain ⟨d, r, hdr, hd, _⟩ := fmtNat_cons i.natAbs
    have hs := specNat_fmtNat i.natAbs
    rw [hdr] at hs ⊢
    unfold Vegeta.Spec.Layout.specInt
    split
    · rename_i heq
      injection heq with h1 _
      omega
    · rw [hs]
      show some ((i.natAbs : Nat) : Int) = some i
      congr 1
      omega

example : fmtNat 0 = [48] := by decide
example : fmtNat 65535 = [54, 53, 53, 51, 53] := by decide
example : fmtInt (-120) = [45, 49, 50, 48] := by decide
example : parseUint 16 (fmtNat 65535) = .ok 65535 := by decide
example : parseUint 16 [54, 53, 53, 51, 54] = .error eRange := by decide
example : parseUint 16 [] = .error eSyntax := by decide
example : parseUint 64 [49, 95, 48] = .error eSyntax := by decide
example : parseInt 64 [45] = .error eSyntax := by decide
example : parseInt 64 (fmtInt minInt64) = .ok minInt64 := parseInt_fmtInt _ (by decide)
example : parseInt 64 (fmtInt maxInt64) = .ok maxInt64 := parseInt_fmtInt _ (by decide)

end Vegeta.Proofs.Codec
