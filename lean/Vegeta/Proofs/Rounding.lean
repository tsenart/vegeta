/-
What `F64.roundRat` (round to nearest even) computes for a ratio `1 ≤ n/d < 2^52`: with `K` the scaling exponent of
the ratio (`2^52 ≤ n·2^K/d < 2^53`) the result is the bit pattern of `rq (n·2^K) d / 2^K`, where `rq` is the integer
quotient rounded to nearest even. From that: the soft-float operations on positive normal values (`IsNorm`) as
`roundRat` of exact integer ratios, and `int(float64(j) * s)` as a floor in integer arithmetic (`TT`). Serves the
LTTB bucket arithmetic (`Buckets`, C17) and the duration round trip (`DurationRoundTrip`, C19 and C16).
-/
import Vegeta.Go.SoftF64
namespace Vegeta.Proofs.Rounding
open Vegeta.Go

/-! ### the rounded quotient `rq` -/

/-- `N / d` rounded to the nearest integer, ties to even -/
def rq (N d : Nat) : Nat :=
  if 2 * (N % d) > d then N / d + 1 else if 2 * (N % d) == d then N / d + (N / d) % 2 else N / d

theorem rq_bounds (N d : Nat) (hd : 0 < d) (hlo : F64.p52 * d ≤ N) (hhi : N < F64.p53 * d) :
    F64.p52 ≤ rq N d ∧ rq N d ≤ F64.p53 := by
  have hq1 : F64.p52 ≤ N / d := (Nat.le_div_iff_mul_le hd).mpr hlo
  have hq2 : N / d < F64.p53 := (Nat.div_lt_iff_lt_mul hd).mpr hhi
  unfold rq
  split
  · omega
  · split <;> omega

theorem rq_scale (N d g : Nat) (hg : 0 < g) : rq (N * g) (d * g) = rq N d := by
  have h1 : 2 * (N % d * g) > d * g ↔ 2 * (N % d) > d := by
    rw [← Nat.mul_assoc]; exact Nat.mul_lt_mul_right hg
  have h2 : 2 * (N % d * g) = d * g ↔ 2 * (N % d) = d := by
    rw [← Nat.mul_assoc]; exact Nat.mul_left_inj (by omega)
  simp only [rq, Nat.mul_div_mul_right _ _ hg, Nat.mul_mod_mul_right, h1, beq_iff_eq, h2]

theorem rq_err (N d : Nat) (hd : 0 < d) :
    2 * (rq N d * d) ≤ 2 * N + d ∧ 2 * N ≤ 2 * (rq N d * d) + d := by
  have hN := Nat.div_add_mod N d
  have hr := Nat.mod_lt N hd
  unfold rq
  generalize N / d = q at *
  generalize N % d = r at *
  have hqd : d * q = q * d := Nat.mul_comm _ _
  split
  · rw [Nat.add_mul, Nat.one_mul]; omega
  · split
    · rename_i h1 h2
      have h2' : 2 * r = d := by simpa using h2
      rw [Nat.add_mul]
      rcases Nat.mod_two_eq_zero_or_one q with hq | hq <;> rw [hq] <;> omega
    · omega

theorem even_succ_div (q K : Nat) (hq : q % 2 = 0) (hK : 1 ≤ K) : (q + 1) / 2 ^ K = q / 2 ^ K := by
  have e : 2 ^ K = 2 * 2 ^ (K - 1) := by
    have : K = (K - 1) + 1 := by omega
    rw [this, Nat.pow_succ, Nat.mul_comm]; simp
  rw [e, ← Nat.div_div_eq_div_mul, ← Nat.div_div_eq_div_mul]
  have : (q + 1) / 2 = q / 2 := by omega
  rw [this]

/-- nearest-even rounding followed by truncation to a multiple of `2^K` is the floor of the
ratio plus half a unit -/
theorem rq_div (N d K : Nat) (hd : 0 < d) (hK : 1 ≤ K) :
    rq N d / 2 ^ K = (2 * N + d) / (2 * d * 2 ^ K) := by
  have hN := Nat.div_add_mod N d
  have hr := Nat.mod_lt N hd
  generalize N / d = q at hN
  generalize N % d = r at hN hr
  have e1 : 2 * N + d = 2 * d * q + (2 * r + d) := by
    rw [← hN, Nat.mul_add, Nat.mul_assoc]; omega
  have h2d : 0 < 2 * d := by omega
  rw [← Nat.div_div_eq_div_mul, e1, Nat.mul_add_div h2d]
  have hq' : N / d = q := by
    rw [← hN, Nat.mul_add_div hd, Nat.div_eq_of_lt hr]; rfl
  have hr' : N % d = r := by
    rw [← hN, Nat.mul_add_mod]; exact Nat.mod_eq_of_lt hr
  unfold rq
  rw [hq', hr']
  by_cases h1 : 2 * r > d
  · have : (2 * r + d) / (2 * d) = 1 := by
      apply Nat.div_eq_of_lt_le <;> omega
    simp only [h1, ↓reduceIte, this]
  · by_cases h2 : 2 * r = d
    · have : (2 * r + d) / (2 * d) = 1 := by
        apply Nat.div_eq_of_lt_le <;> omega
      have hb : (2 * r == d) = true := by simp [h2]
      simp only [h1, ↓reduceIte, hb, this]
      rcases Nat.mod_two_eq_zero_or_one q with hq | hq
      · rw [hq, Nat.add_zero, even_succ_div q K hq hK]
      · rw [hq]
    · have : (2 * r + d) / (2 * d) = 0 := Nat.div_eq_of_lt (by omega)
      have hb : (2 * r == d) = false := by simp [h2]
      simp only [h1, ↓reduceIte, hb, this, Bool.false_eq_true, Nat.add_zero]

/-! ### the scaling exponent

In lemma names a *bracket* of `n/d` is its scaling exponent `K`: `2^52·d ≤ n·2^K < 2^53·d` (`Bracket` below: `d = 2^E`). -/

theorem exponent_antitone (n n' d K K' : Nat) (hle : n ≤ n')
    (hlo : F64.p52 * d ≤ n * 2 ^ K) (hhi : n' * 2 ^ K' < F64.p53 * d) : K' ≤ K := by
  refine Nat.not_lt.mp fun h => ?_
  have hpow : 2 ^ (K + 1) ≤ 2 ^ K' := Nat.pow_le_pow_right (by decide) h
  have h1 : n * 2 ^ (K + 1) ≤ n' * 2 ^ K' := Nat.mul_le_mul hle hpow
  rw [Nat.pow_succ, ← Nat.mul_assoc] at h1
  unfold F64.p52 F64.p53 at *
  omega

theorem bracket_unique (n d K K' : Nat)
    (h1 : F64.p52 * d ≤ n * 2 ^ K) (h2 : n * 2 ^ K < F64.p53 * d)
    (h1' : F64.p52 * d ≤ n * 2 ^ K') (h2' : n * 2 ^ K' < F64.p53 * d) : K = K' :=
  Nat.le_antisymm (exponent_antitone n n d K' K (Nat.le_refl n) h1' h2)
    (exponent_antitone n n d K K' (Nat.le_refl n) h1 h2')

/-- `roundRat`'s first guess `K0 = 52 + ⌊log2 d⌋ − ⌊log2 n⌋` of the scaling exponent is right or one too small -/
theorem guess_bracket (n d : Nat) (hd : 0 < d) (hdn : d ≤ n) (hnd : n < d * 2 ^ 52) :
    ∃ K0, K0 + n.log2 = 52 + d.log2 ∧ K0 ≤ 52 ∧ 2 ^ 51 * d ≤ n * 2 ^ K0 ∧ n * 2 ^ K0 < F64.p53 * d := by
  have ha1 : 2 ^ n.log2 ≤ n := Nat.log2_self_le (by omega)
  have ha2 : n < 2 ^ (n.log2 + 1) := Nat.lt_log2_self
  have hb1 : 2 ^ d.log2 ≤ d := Nat.log2_self_le (by omega)
  have hb2 : d < 2 ^ (d.log2 + 1) := Nat.lt_log2_self
  have hab : n.log2 ≤ d.log2 + 52 := by
    have h1 : d * 2 ^ 52 < 2 ^ (d.log2 + 1) * 2 ^ 52 := Nat.mul_lt_mul_of_lt_of_le hb2 (Nat.le_refl _) (Nat.two_pow_pos 52)
    rw [← Nat.pow_add] at h1
    have := (Nat.pow_lt_pow_iff_right (by decide : 1 < 2)).mp (show 2 ^ n.log2 < 2 ^ (d.log2 + 1 + 52) by omega)
    omega
  have hba : d.log2 ≤ n.log2 := by
    have := (Nat.pow_lt_pow_iff_right (by decide : 1 < 2)).mp (show 2 ^ d.log2 < 2 ^ (n.log2 + 1) by omega)
    omega
  refine ⟨52 + d.log2 - n.log2, by omega, by omega, ?_, ?_⟩
  · have h1 : 2 ^ n.log2 * 2 ^ (52 + d.log2 - n.log2) ≤ n * 2 ^ (52 + d.log2 - n.log2) := Nat.mul_le_mul_right _ ha1
    rw [← Nat.pow_add, show n.log2 + (52 + d.log2 - n.log2) = 51 + (d.log2 + 1) by omega, Nat.pow_add] at h1
    exact Nat.le_trans (Nat.mul_le_mul_left _ (Nat.le_of_lt hb2)) h1
  · have h1 := Nat.mul_lt_mul_of_lt_of_le ha2 (Nat.le_refl (2 ^ (52 + d.log2 - n.log2))) (Nat.two_pow_pos _)
    rw [← Nat.pow_add, show n.log2 + 1 + (52 + d.log2 - n.log2) = 53 + d.log2 by omega, Nat.pow_add] at h1
    exact Nat.lt_of_lt_of_le h1 (Nat.mul_le_mul_left _ hb1)

theorem bracket_succ (n d K0 : Nat) (hlo : 2 ^ 51 * d ≤ n * 2 ^ K0) (hlt : n * 2 ^ K0 < F64.p52 * d) :
    F64.p52 * d ≤ n * 2 ^ (K0 + 1) ∧ n * 2 ^ (K0 + 1) < F64.p53 * d := by
  rw [Nat.pow_succ, ← Nat.mul_assoc]
  unfold F64.p52 F64.p53 at *
  omega

theorem bracket_exists (n d : Nat) (hd : 0 < d) (hdn : d ≤ n) (hnd : n < d * 2 ^ 52) :
    ∃ K, 1 ≤ K ∧ K ≤ 52 ∧ F64.p52 * d ≤ n * 2 ^ K ∧ n * 2 ^ K < F64.p53 * d := by
  obtain ⟨K0, _, hK0, hlo, hhi⟩ := guess_bracket n d hd hdn hnd
  have e52 : (2:Nat) ^ 52 = F64.p52 := by decide
  by_cases hlt : n * 2 ^ K0 < F64.p52 * d
  · refine ⟨K0 + 1, by omega, ?_, bracket_succ n d K0 hlo hlt⟩
    -- K0 ≥ 52 would give n·2^52 < 2^52·d, i.e. n < d
    apply Classical.byContradiction; intro h
    have : n * 2 ^ 52 ≤ n * 2 ^ K0 := Nat.mul_le_mul_left n (Nat.pow_le_pow_right (by decide) (by omega))
    rw [e52] at this
    have h3 : F64.p52 * n < F64.p52 * d := by rw [Nat.mul_comm]; omega
    exact absurd (Nat.lt_of_mul_lt_mul_left h3) (by omega)
  · refine ⟨K0, ?_, by omega, by omega, hhi⟩
    -- K0 = 0 would give 2^52·d ≤ n
    apply Classical.byContradiction; intro h
    have h0 : K0 = 0 := by omega
    rw [h0, Nat.pow_zero, Nat.mul_one] at hlt
    rw [e52, Nat.mul_comm] at hnd
    omega

/-! ### what `roundRat` returns -/

/-- the final step of `roundRat` once the scaling exponent `K` is known -/
theorem roundRat_finish (n d K : Nat) (hd : 0 < d) (hK2 : K ≤ 52)
    (hlo : F64.p52 * d ≤ n * 2 ^ K) (hhi : n * 2 ^ K < F64.p53 * d) :
    (let k : Int := (K : Int)
     let num := if k ≥ 0 then n * 2 ^ k.toNat else n
     let den := if k ≥ 0 then d else d * 2 ^ (-k).toNat
     let q := num / den
     let r := num % den
     let q' := if 2 * r > den then q + 1 else if 2 * r == den then q + q % 2 else q
     let biased : Int := 1075 - k
     let body : Int := (biased - 1) * (F64.p52 : Int) + (q' : Int)
     if body ≥ (2047 * F64.p52 : Nat) then F64.inf false else (⟨(if false then F64.p63 else 0) + body.toNat⟩ : F64))
    = ⟨(1074 - K) * F64.p52 + rq (n * 2 ^ K) d⟩ := by
  have hk : ((K : Int) ≥ 0) := Int.natCast_nonneg K
  simp only [hk, ↓reduceIte, Int.toNat_natCast]
  have hrq := (rq_bounds (n * 2 ^ K) d hd hlo hhi).2
  have hrq' : (if 2 * (n * 2 ^ K % d) > d then n * 2 ^ K / d + 1
      else if (2 * (n * 2 ^ K % d) == d) = true then n * 2 ^ K / d + n * 2 ^ K / d % 2 else n * 2 ^ K / d)
      = rq (n * 2 ^ K) d := rfl
  rw [hrq']
  generalize rq (n * 2 ^ K) d = Q at hrq
  clear hlo hhi
  obtain ⟨a, ha1, ha2⟩ : ∃ a : Nat, 1074 - K = a ∧ 1075 - (K : Int) - 1 = a := ⟨_, rfl, by omega⟩
  rw [ha1, ha2]
  unfold F64.p52 F64.p53 at *
  rw [if_neg (by omega)]
  congr 1
  simp only [Bool.false_eq_true, ↓reduceIte]
  omega

/-- **What `roundRat` computes** for a ratio `1 ≤ n/d < 2^52` whose scaling exponent is `K`
(`2^52 ≤ n·2^K/d < 2^53`): the bit pattern with biased exponent `1075 − K` and significand the
ratio scaled by `2^K`, rounded to nearest even (a carry out of the significand increments the
exponent). -/
theorem roundRat_eq (n d K : Nat) (hd : 0 < d) (hK1 : 1 ≤ K) (hK2 : K ≤ 52)
    (hlo : F64.p52 * d ≤ n * 2 ^ K) (hhi : n * 2 ^ K < F64.p53 * d) :
    F64.roundRat false n d = ⟨(1074 - K) * F64.p52 + rq (n * 2 ^ K) d⟩ := by
  -- n/d ∈ [1, 2^52): from the bracket and 1 ≤ K ≤ 52
  have hdn : d ≤ n := by
    have : n * 2 ^ K ≤ n * 2 ^ 52 := Nat.mul_le_mul_left n (Nat.pow_le_pow_right (by decide) hK2)
    unfold F64.p52 at hlo; omega
  have hnd : n < d * 2 ^ 52 := by
    have : n * 2 ^ 1 ≤ n * 2 ^ K := Nat.mul_le_mul_left n (Nat.pow_le_pow_right (by decide) hK1)
    unfold F64.p53 at hhi; omega
  obtain ⟨K0, hK0, _, hq0lo, hq0hi⟩ := guess_bracket n d hd hdn hnd
  have hk0 : (52 : Int) - ((F64.log2 n : Int) - (F64.log2 d : Int)) = (K0 : Int) := by
    unfold F64.log2; omega
  have hq0b : ¬ (F64.p53 ≤ n * 2 ^ K0 / d) := Nat.not_le.mpr ((Nat.div_lt_iff_lt_mul hd).mpr hq0hi)
  -- the corrected guess is `K`
  have hk1 : (if n * 2 ^ K0 / d < F64.p52 then (K0 : Int) + 1 else K0) = K := by
    by_cases hlt : n * 2 ^ K0 / d < F64.p52
    · obtain ⟨b1, b2⟩ := bracket_succ n d K0 hq0lo ((Nat.div_lt_iff_lt_mul hd).mp hlt)
      have := bracket_unique n d K (K0 + 1) hlo hhi b1 b2
      rw [if_pos hlt]; omega
    · have := bracket_unique n d K K0 hlo hhi ((Nat.le_div_iff_mul_le hd).mp (by omega)) hq0hi
      rw [if_neg hlt]; omega
  have hcl : ¬ ((K : Int) > 1074) := by omega
  have hn0' : (n == 0) = false := by simp; omega
  have hd0' : (d == 0) = false := by simp; omega
  unfold F64.roundRat
  simp only [hn0', hd0', Bool.false_eq_true, ↓reduceIte, hk0, Int.natCast_nonneg K0, ge_iff_le, Int.toNat_natCast,
    hq0b, hk1, hcl]
  exact roundRat_finish n d K hd hK2 hlo hhi

theorem roundRat_eq_mul (n d K g : Nat) (hd : 0 < d) (hg : 0 < g) (hK1 : 1 ≤ K) (hK2 : K ≤ 52)
    (hlo : F64.p52 * d ≤ n * 2 ^ K) (hhi : n * 2 ^ K < F64.p53 * d) :
    F64.roundRat false (n * g) (d * g) = ⟨(1074 - K) * F64.p52 + rq (n * 2 ^ K) d⟩ := by
  rw [roundRat_eq (n * g) (d * g) K (Nat.mul_pos hd hg) hK1 hK2
    (by rw [Nat.mul_right_comm, ← Nat.mul_assoc]; exact Nat.mul_le_mul_right g hlo)
    (by rw [Nat.mul_right_comm, ← Nat.mul_assoc]; exact Nat.mul_lt_mul_of_pos_right hhi hg),
    Nat.mul_right_comm, rq_scale _ _ _ hg]

/-! ### positive normal values (`IsNorm`) -/

/-- a positive normal value `M / 2^E` with `2^52 ≤ M < 2^53` -/
structure IsNorm (x : F64) (M E : Nat) : Prop where
  sign : x.sign = false
  bexp0 : x.bexp ≠ 0
  bexpF : x.bexp ≠ 2047
  mant : x.mant = M
  expo : x.expo = -(E : Int)
  lo : F64.p52 ≤ M
  hi : M < F64.p53

theorem IsNorm.notNaN {x M E} (h : IsNorm x M E) : x.isNaN = false := by
  unfold F64.isNaN; simp [h.bexpF]
theorem IsNorm.notInf {x M E} (h : IsNorm x M E) : x.isInf = false := by
  unfold F64.isInf; simp [h.bexpF]
theorem IsNorm.notZero {x M E} (h : IsNorm x M E) : x.isZero = false := by
  unfold F64.isZero; simp [h.bexp0]
theorem IsNorm.finite {x M E} (h : IsNorm x M E) : x.isFinite = true := by
  unfold F64.isFinite; simp [h.bexpF]

/-- fields of the bit pattern `e·2^52 + f` -/
theorem fields (e f : Nat) (he : e < 2048) (hf : f < F64.p52) :
    (⟨e * F64.p52 + f⟩ : F64).sign = false ∧ (⟨e * F64.p52 + f⟩ : F64).bexp = e ∧
    (⟨e * F64.p52 + f⟩ : F64).frac = f := by
  unfold F64.sign F64.bexp F64.frac F64.p63 F64.p52 at *
  simp only []
  refine ⟨?_, ?_, ?_⟩
  · have : (e * 4503599627370496 + f) / 9223372036854775808 = 0 := by omega
    simp [this]
  · omega
  · omega

theorem isNorm_of_fields (e f : Nat) (he1 : 1 ≤ e) (he2 : e ≤ 1075) (hf : f < F64.p52) :
    IsNorm ⟨e * F64.p52 + f⟩ (F64.p52 + f) (1075 - e) := by
  obtain ⟨f1, f2, f3⟩ := fields e f (by omega) hf
  have he0 : (e == 0) = false := by simp; omega
  refine ⟨f1, by rw [f2]; omega, by rw [f2]; omega, ?_, ?_, Nat.le_add_right _ _, by unfold F64.p52 F64.p53 at *; omega⟩
  · unfold F64.mant; rw [f2, f3, he0]; rfl
  · unfold F64.expo; rw [f2, he0]
    simp only [Bool.false_eq_true, ↓reduceIte]; omega

/-- decoding of `roundRat`'s result: the value is `Q / 2^K` -/
theorem decode (K Q : Nat) (hK1 : 1 ≤ K) (hK2 : K ≤ 52) (hQ1 : F64.p52 ≤ Q) (hQ2 : Q ≤ F64.p53) :
    ∃ M E, IsNorm ⟨(1074 - K) * F64.p52 + Q⟩ M E ∧ E ≤ 52 ∧ M * 2 ^ K = Q * 2 ^ E ∧
      (Q < F64.p53 → M = Q ∧ E = K) := by
  obtain ⟨a, ha⟩ : ∃ a, 1074 - K = a ∧ a + K = 1074 := ⟨_, rfl, by omega⟩
  rw [ha.1]
  by_cases hc : Q = F64.p53
  · -- carry into the exponent: the value is 2^52 / 2^(K−1)
    subst hc
    have hN := isNorm_of_fields (a + 2) 0 (by omega) (by omega) (by decide)
    rw [show (a + 2) * F64.p52 + 0 = a * F64.p52 + F64.p53 by unfold F64.p52 F64.p53; omega,
      show 1075 - (a + 2) = K - 1 by omega] at hN
    refine ⟨_, _, hN, by omega, ?_, fun h => absurd h (Nat.lt_irrefl _)⟩
    rw [show K = (K - 1) + 1 by omega, Nat.pow_succ, Nat.add_sub_cancel]
    unfold F64.p52 F64.p53; omega
  · obtain ⟨f, rfl⟩ : ∃ f, Q = F64.p52 + f := ⟨Q - F64.p52, by omega⟩
    have hN := isNorm_of_fields (a + 1) f (by omega) (by omega) (by unfold F64.p52 F64.p53 at *; omega)
    rw [show (a + 1) * F64.p52 + f = a * F64.p52 + (F64.p52 + f) by rw [Nat.add_mul, Nat.one_mul, Nat.add_assoc],
      show 1075 - (a + 1) = K by omega] at hN
    exact ⟨_, K, hN, hK2, rfl, fun _ => ⟨rfl, rfl⟩⟩

theorem exp_within_one (M Q K E : Nat) (hM1 : F64.p52 ≤ M) (hM2 : M < F64.p53) (hQ1 : F64.p52 ≤ Q) (hQ2 : Q ≤ F64.p53)
    (h : M * 2 ^ K = Q * 2 ^ E) : E ≤ K ∧ K ≤ E + 1 := by
  have h1 : M * 2 ^ K < F64.p53 * 2 ^ K := Nat.mul_lt_mul_of_pos_right hM2 (Nat.two_pow_pos K)
  have h2 : F64.p52 * 2 ^ K ≤ M * 2 ^ K := Nat.mul_le_mul_right _ hM1
  have h3 : F64.p52 * 2 ^ E ≤ Q * 2 ^ E := Nat.mul_le_mul_right _ hQ1
  have h4 : Q * 2 ^ E ≤ F64.p53 * 2 ^ E := Nat.mul_le_mul_right _ hQ2
  rw [h] at h1 h2
  unfold F64.p52 F64.p53 at *
  constructor
  · apply Classical.byContradiction; intro hn
    have := Nat.pow_le_pow_right (show 0 < 2 by decide) (show K + 1 ≤ E by omega)
    rw [Nat.pow_succ] at this; omega
  · apply Classical.byContradiction; intro hn
    have := Nat.pow_le_pow_right (show 0 < 2 by decide) (show E + 1 + 1 ≤ K by omega)
    rw [Nat.pow_succ, Nat.pow_succ] at this; omega

theorem toInt64_norm (x : F64) (M E : Nat) (h : IsNorm x M E) (hE : E ≤ 52) :
    F64.toInt64 x = ((M / 2 ^ E : Nat) : Int) := by
  unfold F64.toInt64
  rw [h.finite]
  simp only [Bool.not_true, Bool.false_eq_true, ↓reduceIte]
  have ht : x.truncInt = ((M / 2 ^ E : Nat) : Int) := by
    unfold F64.truncInt
    simp only [h.mant, h.expo, h.sign, Bool.false_eq_true, ↓reduceIte]
    by_cases h0 : E = 0
    · subst h0; simp
    · have : ¬ (-(E : Int) ≥ 0) := by omega
      simp only [this, ↓reduceIte, Int.neg_neg, Int.toNat_natCast]
      rw [Int.natCast_ediv]; simp
  rw [ht]
  have hle : M / 2 ^ E ≤ M := Nat.div_le_self _ _
  have hM := h.hi
  unfold F64.p53 at hM
  generalize M / 2 ^ E = T at hle ⊢
  have : (minInt64 ≤ (T : Int) ∧ (T : Int) ≤ maxInt64) := by
    unfold minInt64 maxInt64; omega
  simp only [this, and_self, ↓reduceIte]

/-! ### the operations on positive normal values -/

theorem ofNat_one : IsNorm (F64.ofNat 1) F64.p52 52 := by
  rw [show F64.ofNat 1 = ⟨1023 * F64.p52 + 0⟩ by decide +kernel]
  exact isNorm_of_fields 1023 0 (by decide) (by decide) (by decide)

/-- `float64(j)` for `1 ≤ j < 2^52` is exact: `j = (j·2^K) / 2^K`. -/
theorem ofInt_norm (j : Int) (h1 : 1 ≤ j) (h2 : j < 4503599627370496) :
    ∃ K, 1 ≤ K ∧ K ≤ 52 ∧ IsNorm (F64.ofInt j) (j.toNat * 2 ^ K) K := by
  obtain ⟨K, hK1, hK2, hlo, hhi⟩ := bracket_exists j.toNat 1 (by decide) (by omega)
    (by have : (2:Nat)^52 = 4503599627370496 := by decide
        rw [this]; omega)
  refine ⟨K, hK1, hK2, ?_⟩
  unfold F64.ofInt
  have hneg : decide (j < 0) = false := by simp; omega
  have habs : j.natAbs = j.toNat := by omega
  rw [hneg, habs, roundRat_eq j.toNat 1 K (by decide) hK1 hK2 hlo hhi]
  have hrq : rq (j.toNat * 2 ^ K) 1 = j.toNat * 2 ^ K := by
    unfold rq; simp [Nat.mod_one]
  rw [hrq]
  simp only [Nat.mul_one] at hlo hhi
  obtain ⟨M, E, hN, _, _, hME⟩ := decode K (j.toNat * 2 ^ K) hK1 hK2 hlo (Nat.le_of_lt hhi)
  obtain ⟨eM, eE⟩ := hME hhi
  rw [eM, eE] at hN
  exact hN

theorem mul_norm (x y : F64) (Mx Ex My Ey : Nat) (hx : IsNorm x Mx Ex) (hy : IsNorm y My Ey)
    (hE : 1 ≤ Ex + Ey) : F64.mul x y = F64.roundRat false (Mx * My) (2 ^ (Ex + Ey)) := by
  unfold F64.mul
  simp only [hx.notNaN, hy.notNaN, hx.notInf, hy.notInf, hx.notZero, hy.notZero, hx.sign, hy.sign,
    Bool.or_self, Bool.false_eq_true, ↓reduceIte, bne_self_eq_false, hx.mant, hy.mant, hx.expo, hy.expo]
  unfold F64.ofScaled
  have hneg : ¬ (-(Ex : Int) + -(Ey : Int) ≥ 0) := by omega
  simp only [hneg, ↓reduceIte]
  congr 2
  omega

theorem div_norm (x y : F64) (Mx Ex My Ey : Nat) (hx : IsNorm x Mx Ex) (hy : IsNorm y My Ey) :
    F64.div x y = if Ex ≤ Ey then F64.roundRat false (Mx * 2 ^ (Ey - Ex)) My
                  else F64.roundRat false Mx (My * 2 ^ (Ex - Ey)) := by
  unfold F64.div
  simp only [hx.notNaN, hy.notNaN, hx.notInf, hy.notInf, hx.notZero, hy.notZero, hx.sign, hy.sign,
    Bool.or_self, Bool.false_eq_true, ↓reduceIte, bne_self_eq_false, hx.mant, hy.mant, hx.expo, hy.expo]
  by_cases h : Ex ≤ Ey
  · have : (-(Ex : Int) - -(Ey : Int) ≥ 0) := by omega
    simp only [this, h, ↓reduceIte]
    congr 3
    omega
  · have : ¬ (-(Ex : Int) - -(Ey : Int) ≥ 0) := by omega
    simp only [this, h, ↓reduceIte]
    congr 3
    omega

theorem add_one_norm (y : F64) (My Ey : Nat) (hy : IsNorm y My Ey) (hE : Ey ≤ 52) :
    F64.add (F64.ofNat 1) y = F64.roundRat false (F64.p52 + My * 2 ^ (52 - Ey)) (2 ^ 52) := by
  have hx := ofNat_one
  unfold F64.add
  simp only [hx.notNaN, hy.notNaN, hx.notInf, hy.notInf, hx.sign, hy.sign,
    Bool.or_self, Bool.false_eq_true, ↓reduceIte, hx.mant, hy.mant, hx.expo, hy.expo]
  have hmin : min (-((52 : Nat) : Int)) (-(Ey : Int)) = -((52 : Nat) : Int) := by omega
  rw [hmin]
  have e1 : (-((52 : Nat) : Int) - -((52 : Nat) : Int)).toNat = 0 := by omega
  have e2 : (-(Ey : Int) - -((52 : Nat) : Int)).toNat = 52 - Ey := by omega
  rw [e1, e2]
  simp only [Int.pow_zero, Int.mul_one]
  have hpos : (0 : Int) < (F64.p52 : Int) + (My : Int) * 2 ^ (52 - Ey) := by
    have h1 : (0 : Int) ≤ (My : Int) * 2 ^ (52 - Ey) :=
      Int.mul_nonneg (Int.natCast_nonneg _) (Int.le_of_lt (Int.pow_pos (by decide)))
    have : (0:Int) < (F64.p52 : Int) := by unfold F64.p52; decide
    omega
  have hne : ((F64.p52 : Int) + (My : Int) * 2 ^ (52 - Ey) == 0) = false := by
    simp; omega
  simp only [hne, Bool.false_eq_true, ↓reduceIte]
  unfold F64.ofScaled
  have hneg : ¬ (-((52 : Nat) : Int) ≥ 0) := by omega
  have hlt : decide ((F64.p52 : Int) + (My : Int) * 2 ^ (52 - Ey) < 0) = false := by simp; omega
  simp only [hneg, ↓reduceIte, hlt]
  have e3 : (- -((52 : Nat) : Int)).toNat = 52 := by omega
  have e4 : ((F64.p52 : Int) + (My : Int) * 2 ^ (52 - Ey)).natAbs = F64.p52 + My * 2 ^ (52 - Ey) := by
    have : ((F64.p52 : Int) + (My : Int) * 2 ^ (52 - Ey)) = ((F64.p52 + My * 2 ^ (52 - Ey) : Nat) : Int) := by
      simp
    rw [this, Int.natAbs_natCast]
  rw [e3, e4]

/-! ### `int(float64(j) * s)` in integer arithmetic -/

/-- **`int64(roundRat (n·g) (d·g))`** for a ratio `n/d` in `[1, 2^52)` with scaling exponent `K`:
`⌊n/d + 2^-(K+1)⌋`. -/
theorem toInt64_roundRat (n d K g : Nat) (hd : 0 < d) (hg : 0 < g) (hK1 : 1 ≤ K) (hK2 : K ≤ 52)
    (hlo : F64.p52 * d ≤ n * 2 ^ K) (hhi : n * 2 ^ K < F64.p53 * d) :
    F64.toInt64 (F64.roundRat false (n * g) (d * g)) = (((2 * (n * 2 ^ K) + d) / (2 * d * 2 ^ K) : Nat) : Int) := by
  rw [roundRat_eq_mul n d K g hd hg hK1 hK2 hlo hhi]
  obtain ⟨hb1, hb2⟩ := rq_bounds (n * 2 ^ K) d hd hlo hhi
  obtain ⟨M, E, hN, hE, hME, _⟩ := decode K (rq (n * 2 ^ K) d) hK1 hK2 hb1 hb2
  rw [toInt64_norm _ M E hN hE, ← rq_div (n * 2 ^ K) d K hd hK1]
  congr 1
  -- M / 2^E = Q / 2^K from M·2^K = Q·2^E
  rw [← Nat.mul_div_mul_right M (2 ^ E) (Nat.two_pow_pos K), hME, Nat.mul_comm _ (2 ^ E),
    Nat.mul_div_mul_left _ _ (Nat.two_pow_pos E)]

/-- `⌊X / 2^E + 2^-(K+1)⌋` -/
def TT (X E K : Nat) : Nat := (2 * (X * 2 ^ K) + 2 ^ E) / (2 * 2 ^ E * 2 ^ K)

/-- `K` is the scaling exponent of `X / 2^E` -/
def Bracket (X E K : Nat) : Prop := F64.p52 * 2 ^ E ≤ X * 2 ^ K ∧ X * 2 ^ K < F64.p53 * 2 ^ E

/-- **`int(float64(j) * s)`** for a positive normal `s = M / 2^E` and `1 ≤ j`, `j·s < 2^52`. -/
theorem toInt64_mul_ofInt (s : F64) (M E : Nat) (hs : IsNorm s M E) (hE : E ≤ 52)
    (j : Int) (hj1 : 1 ≤ j) (hj2 : j < 4503599627370496) (hx : j.toNat * M < 2 ^ E * 2 ^ 52) :
    ∃ K, 1 ≤ K ∧ K ≤ 52 ∧ Bracket (j.toNat * M) E K ∧
      F64.toInt64 (F64.mul (F64.ofInt j) s) = ((TT (j.toNat * M) E K : Nat) : Int) := by
  have hpE : 0 < 2 ^ E := Nat.two_pow_pos E
  have hge : 2 ^ E ≤ j.toNat * M := by
    have h1 : 2 ^ E ≤ 2 ^ 52 := Nat.pow_le_pow_right (by decide) hE
    have h2 : (2:Nat) ^ 52 = F64.p52 := by decide
    have h3 := hs.lo
    have h4 : 1 * M ≤ j.toNat * M := Nat.mul_le_mul_right M (by omega)
    omega
  obtain ⟨K, hK1, hK2, hlo, hhi⟩ := bracket_exists (j.toNat * M) (2 ^ E) hpE hge hx
  refine ⟨K, hK1, hK2, ⟨hlo, hhi⟩, ?_⟩
  obtain ⟨Kj, hKj1, hKj2, hNj⟩ := ofInt_norm j hj1 hj2
  rw [mul_norm _ _ _ _ _ _ hNj hs (by omega), Nat.mul_right_comm, Nat.pow_add, Nat.mul_comm (2 ^ Kj)]
  exact toInt64_roundRat (j.toNat * M) (2 ^ E) K (2 ^ Kj) hpE (Nat.two_pow_pos Kj) hK1 hK2 hlo hhi

theorem bracket_antitone (X X' E K K' : Nat) (hb : Bracket X E K) (hb' : Bracket X' E K')
    (hle : X ≤ X') : K' ≤ K :=
  exponent_antitone X X' (2 ^ E) K K' hle hb.1 hb'.2

/-- If `X' / 2^E ≥ X / 2^E + c` for an integer `c`, then `⌊fl(X'/2^E)⌋ ≥ ⌊fl(X/2^E)⌋ + c`: the half unit added by
the rounding is not smaller for the larger value. -/
theorem TT_add (c X X' E K K' : Nat) (hb : Bracket X E K) (hb' : Bracket X' E K')
    (hstep : X + c * 2 ^ E ≤ X') : TT X E K + c ≤ TT X' E K' := by
  have hKK : K' ≤ K := bracket_antitone X X' E K K' hb hb' (Nat.le_trans (Nat.le_add_right _ _) hstep)
  obtain ⟨w, hw, hw1⟩ : ∃ w, 2 ^ K = 2 ^ K' * w ∧ 1 ≤ w :=
    ⟨2 ^ (K - K'), by rw [← Nat.pow_add]; congr 1; omega, Nat.two_pow_pos _⟩
  have ha : 0 < 2 ^ K' := Nat.two_pow_pos K'
  have he : 0 < 2 ^ E := Nat.two_pow_pos E
  unfold TT
  generalize hB : (2 * (X * 2 ^ K) + 2 ^ E) / (2 * 2 ^ E * 2 ^ K) = B
  have h1 : B * (2 * 2 ^ E * 2 ^ K) ≤ 2 * (X * 2 ^ K) + 2 ^ E := by
    rw [← hB]; exact Nat.div_mul_le_self _ _
  have hpos : 0 < 2 * 2 ^ E * 2 ^ K' := Nat.mul_pos (Nat.mul_pos (by decide) he) ha
  rw [Nat.le_div_iff_mul_le hpos]
  apply Nat.le_of_mul_le_mul_right _ hw1
  rw [hw] at h1
  generalize 2 ^ K' = a at *
  generalize 2 ^ E = e at *
  -- linear in the atoms B·e·a·w, c·e·a·w, X·a·w, X'·a·w, e·w, e
  have e1 : B * (2 * e * (a * w)) = 2 * (B * (e * (a * w))) := by ac_rfl
  have e3 : (B + c) * (2 * e * a) * w = 2 * (B * (e * (a * w))) + 2 * (c * e * (a * w)) := by
    rw [Nat.add_mul, Nat.add_mul]; congr 1 <;> ac_rfl
  have e4 : (2 * (X' * a) + e) * w = 2 * (X' * (a * w)) + e * w := by
    rw [Nat.add_mul]; congr 1; ac_rfl
  have h2 : X * (a * w) + c * e * (a * w) ≤ X' * (a * w) := by
    rw [← Nat.add_mul]; exact Nat.mul_le_mul_right _ hstep
  have h3 : e ≤ e * w := Nat.le_mul_of_pos_right e hw1
  rw [e1] at h1
  rw [e3, e4]
  omega

/-- monotone: a larger value does not get a smaller boundary -/
theorem TT_mono (X X' E K K' : Nat) (hb : Bracket X E K) (hb' : Bracket X' E K')
    (hle : X ≤ X') : TT X E K ≤ TT X' E K' :=
  TT_add 0 X X' E K K' hb hb' (by rw [Nat.zero_mul]; exact hle)

theorem TT_ge_floor (X E K : Nat) : X / 2 ^ E ≤ TT X E K := by
  unfold TT
  have hK : 0 < 2 ^ K := Nat.two_pow_pos K
  have he : 0 < 2 ^ E := Nat.two_pow_pos E
  have e1 : X / 2 ^ E = (2 * (X * 2 ^ K)) / (2 * 2 ^ E * 2 ^ K) := by
    have : 2 * (X * 2 ^ K) = (2 * 2 ^ K) * X := by ac_rfl
    rw [this]
    have : 2 * 2 ^ E * 2 ^ K = (2 * 2 ^ K) * 2 ^ E := by ac_rfl
    rw [this, Nat.mul_div_mul_left _ _ (by omega)]
  rw [e1]
  exact Nat.div_le_div_right (by omega)

end Vegeta.Proofs.Rounding
