/-
The CSV result codec round trip (lib/results.go `NewCSVEncoder` / `NewCSVDecoder`) on the domain
`ReprCSVResult`, at the level of one record and of whole streams, and the agreement of the independent
reader of the documented twelve columns (Vegeta/Spec/Layout.lean) with the decoder on encoder output.
-/
import Vegeta.Proofs.CodecDomain
import Vegeta.Proofs.CodecDecimal
import Vegeta.Proofs.CodecBase64
import Vegeta.Proofs.CodecCSV
import Vegeta.Proofs.ResultKit
import Vegeta.Spec.Layout
namespace Vegeta.Proofs.Codec
open Vegeta.Go Vegeta.Model.Codec

theorem outcome_bind_ok {α β} (a : α) (f : α → Outcome β) : (Outcome.ok a >>= f) = f a := ok_bind a f
theorem outcome_pure {α} (a : α) : (pure a : Outcome α) = .ok a := pure_eq_ok a

theorem ReprNumbers.tsS64 {r : Result} (h : ReprNumbers r) : inS64 r.timestamp := by
  have h0 := h.ts0
  have h1 := h.ts1
  unfold tsLimit at h1
  unfold inS64 minInt64 maxInt64
  omega

theorem headerBlock_lt (h : Header) (hr : ReprHeaders h)
    (hb : ∀ kv ∈ h, ∀ v ∈ kv.2, ∀ c ∈ v, c < 256) :
    ∀ x ∈ headerWrite h ++ [13, 10], x < 256 := by
  intro x hx
  simp only [List.mem_append, List.mem_cons, List.not_mem_nil, or_false] at hx
  rcases hx with hx | hx | hx
  · unfold headerWrite at hx
    rw [List.mem_flatMap] at hx
    obtain ⟨kv, hkv, hx⟩ := hx
    have hkv' : kv ∈ h := (sortKV_perm h).mem_iff.1 hkv
    obtain ⟨k, vs⟩ := kv
    obtain ⟨hk, _, hvs⟩ := hr.2 (k, vs) hkv'
    rw [writeKV_repr hk vs hvs, List.mem_flatMap] at hx
    obtain ⟨v, hv, hx⟩ := hx
    simp only [List.mem_append, List.mem_cons, List.not_mem_nil, or_false] at hx
    rcases hx with ((hx | hx | hx) | hx) | hx | hx
    · have := hk.tok x hx
      simp [isTokenByte] at this
      omega
    · omega
    · omega
    · exact hb (k, vs) hkv' v hv x hx
    · omega
    · omega
  · omega
  · omega

/-- the header column of a non-nil map is not the empty text (which reads back as nil) and decodes to the block -/
theorem headerColumn (h : Header) (hr : ReprHeaders h) (hb : ∀ kv ∈ h, ∀ v ∈ kv.2, ∀ c ∈ v, c < 256) :
    (b64Encode (headerWrite h ++ [13, 10])).isEmpty = false ∧
    b64Decode (b64Encode (headerWrite h ++ [13, 10])) = .ok (headerWrite h ++ [13, 10]) := by
  refine ⟨?_, b64Decode_b64Encode _ (headerBlock_lt h hr hb)⟩
  cases hc : b64Encode (headerWrite h ++ [13, 10]) with
  | nil => rw [b64Encode_eq_nil] at hc; simp at hc
  | cons _ _ => rfl

theorem resultOfRecord_csvFields (r : Result) (hr : ReprCSVResult r) :
    resultOfRecord (csvFields r) = .ok (csvDecoded r) := by
  have hn := hr.num
  have e0 : parseInt 64 (fmtInt (wrapS64 r.timestamp)) = .ok r.timestamp := by
    rw [wrapS64_id hn.tsS64]; exact parseInt_fmtInt _ hn.tsS64
  have e1 : parseUint 16 (fmtNat r.code) = .ok r.code :=
    parseUint_fmtNat 16 _ (by decide) (by have := hn.code; omega)
  have e2 : parseInt 64 (fmtInt r.latency) = .ok r.latency := parseInt_fmtInt _ hn.latency
  have e3 : parseUint 64 (fmtNat r.bytesOut) = .ok r.bytesOut :=
    parseUint_fmtNat 64 _ (by decide) hn.bytesOut
  have e4 : parseUint 64 (fmtNat r.bytesIn) = .ok r.bytesIn :=
    parseUint_fmtNat 64 _ (by decide) hn.bytesIn
  have e6 : b64Decode (b64Encode (r.body.getD [])) = .ok (r.body.getD []) :=
    b64Decode_b64Encode _ hr.body
  have e8 : parseUint 64 (fmtNat r.seq) = .ok r.seq :=
    parseUint_fmtNat 64 _ (by decide) hn.seq
  unfold resultOfRecord csvFields
  simp only [getField, List.getD_cons_zero, List.getD_cons_succ, e0, e1, e2, e3, e4, e6, e8,
    outcome_bind_ok]
  cases hh : r.headers with
  | none =>
    simp [headerBytes, b64Encode, outcome_pure, outcome_bind_ok, csvDecoded, hh]
  | some h =>
    obtain ⟨hrh, hb⟩ := hr.headers h hh
    obtain ⟨hne, ed⟩ := headerColumn h hrh hb
    simp [headerBytes, hne, ed, readMIMEHeader_headerWrite h hrh, outcome_pure, outcome_bind_ok,
      csvDecoded, hh]

/-- what comes back is `Equal` to what was written (in both argument orders) -/
theorem csvDecoded_equal (r : Result) (hr : ReprCSVResult r) :
    (csvDecoded r).equal r = true ∧ r.equal (csvDecoded r) = true := by
  have hh : headerEqual (r.headers.map sortKV) r.headers = true ∧
      headerEqual r.headers (r.headers.map sortKV) = true := by
    cases hh : r.headers with
    | none => exact ⟨rfl, rfl⟩
    | some h => exact headerEqual_sortKV h (hr.headers h hh).1.1
  simp [Result.equal, csvDecoded, hh.1, hh.2]

theorem csvFields_length (r : Result) : (csvFields r).length = 12 := rfl

theorem csvFields_noCR (r : Result) (hr : ReprCSVResult r) : ∀ f ∈ csvFields r, 13 ∉ f := by
  have hI : ∀ i : Int, 13 ∉ fmtInt i := fun i h => by have := fmtInt_chars i 13 h; omega
  have hN : ∀ n : Nat, 13 ∉ fmtNat n := fun n h => by have := fmtNat_digits n 13 h; omega
  have hB : ∀ b : Bytes, 13 ∉ b64Encode b := fun b h => (b64Encode_safe b 13 h).2.1 rfl
  intro f hf
  simp only [csvFields, List.mem_cons, List.not_mem_nil, or_false] at hf
  rcases hf with rfl | rfl | rfl | rfl | rfl | rfl | rfl | rfl | rfl | rfl | rfl | rfl
  · exact hI _
  · exact hN _
  · exact hI _
  · exact hN _
  · exact hN _
  · exact hr.error
  · exact hB _
  · exact hr.attack
  · exact hN _
  · exact hr.method
  · exact hr.url
  · exact hB _

theorem encodeCSVAll_noCR (rs : List Result) (hrs : ∀ r ∈ rs, ReprCSVResult r) : 13 ∉ encodeCSVAll rs := by
  unfold encodeCSVAll
  rw [List.mem_flatMap]
  rintro ⟨r, hr, h⟩
  exact writeRecord_noCR _ (csvFields_noCR r (hrs r hr)) h

theorem encodeCSVAll_cons (r : Result) (rs : List Result) :
    encodeCSVAll (r :: rs) = writeRecord (csvFields r) ++ encodeCSVAll rs := by
  simp [encodeCSVAll, encodeCSV]

theorem encodeCSVAll_take (rs : List Result) (m : Nat) :
    (encodeCSVAll rs).take (encodeCSVAll (rs.take m)).length = encodeCSVAll (rs.take m) := by
  have h : encodeCSVAll rs = encodeCSVAll (rs.take m) ++ encodeCSVAll (rs.drop m) := by
    unfold encodeCSVAll
    rw [← List.flatMap_append, List.take_append_drop]
  rw [h, List.take_left']
  rfl

theorem length_le_encodeCSVAll (rs : List Result) : rs.length ≤ (encodeCSVAll rs).length := by
  induction rs with
  | nil => simp
  | cons r rs ih =>
    rw [encodeCSVAll_cons]
    simp only [writeRecord, List.length_append, List.length_cons, List.length_nil]
    omega

theorem decodeCSVF_encodeCSVAll (rs : List Result) (hrs : ∀ r ∈ rs, ReprCSVResult r) :
    ∀ fuel, rs.length < fuel → decodeCSVF fuel (encodeCSVAll rs) = (rs.map csvDecoded, .eof) := by
  induction rs with
  | nil =>
    intro fuel hf
    cases fuel with
    | zero => simp at hf
    | succ n => simp [encodeCSVAll, decodeCSVF, readRecord_nil]
  | cons r rs ih =>
    intro fuel hf
    cases fuel with
    | zero => simp at hf
    | succ n =>
      have hl := csvFields_length r
      rw [encodeCSVAll_cons, decodeCSVF, readRecord_writeRecord _ (by omega) _]
      simp only [hl, ne_eq, not_true_eq_false, if_false,
        resultOfRecord_csvFields r (hrs r (by simp)),
        ih (fun x hx => hrs x (by simp [hx])) n (by simp at hf; omega), List.map_cons]

/-- **CSV round trip on streams**: decoding the concatenation of the encoded records returns, for every
list of results of the domain, the list of decoded results and then end-of-stream -/
theorem decodeCSV_encodeCSVAll (rs : List Result) (hrs : ∀ r ∈ rs, ReprCSVResult r) :
    decodeCSV (encodeCSVAll rs) = (rs.map csvDecoded, .eof) := by
  unfold decodeCSV
  simp only [normCRLF_id _ (encodeCSVAll_noCR rs hrs)]
  exact decodeCSVF_encodeCSVAll rs hrs _ (by have := length_le_encodeCSVAll rs; omega)

theorem equalAll_map_csvDecoded (rs : List Result) (hrs : ∀ r ∈ rs, ReprCSVResult r) :
    equalAll (rs.map csvDecoded) rs = true := by
  induction rs with
  | nil => rfl
  | cons r rs ih =>
    simp only [List.map_cons, equalAll, Bool.and_eq_true]
    exact ⟨(csvDecoded_equal r (hrs r (by simp))).1, ih (fun x hx => hrs x (by simp [hx]))⟩

/-- the CSV round trip on streams up to `Result.Equal`: what is decoded is pointwise `Equal` to what was written -/
theorem csv_roundtrip_equal (rs : List Result) (hrs : ∀ r ∈ rs, ReprCSVResult r) :
    ∃ out, decodeCSV (encodeCSVAll rs) = (out, .eof) ∧ equalAll out rs = true :=
  ⟨_, decodeCSV_encodeCSVAll rs hrs, equalAll_map_csvDecoded rs hrs⟩

open Vegeta.Spec.Layout

theorem addValue_eq_headerAdd (k v : Bytes) (m : Header) : addValue k v m = headerAdd k v m := by
  induction m with
  | nil => rfl
  | cons x m ih => simp only [addValue, headerAdd, ih]

theorem cutCRLF_line (l r : Bytes) (h : 13 ∉ l) : cutCRLF (l ++ 13 :: 10 :: r) = some (l, r) := by
  induction l with
  | nil => simp [cutCRLF]
  | cons c l ih =>
    simp only [List.mem_cons, not_or] at h
    have hc : c ≠ 13 := fun e => h.1 e.symm
    simp only [List.cons_append]
    simp [cutCRLF, hc, ih h.2]

theorem specHeaderBlock_line (k v rest : Bytes) (m : Header) (f : Nat) (hk : ReprKey k)
    (hv : ReprValue v) :
    specHeaderBlock (f + 1) (k ++ [58, 32] ++ v ++ [13, 10] ++ rest) m =
      specHeaderBlock f rest (headerAdd k v m) := by
  have hline : k ++ [58, 32] ++ v ++ [13, 10] ++ rest = (k ++ 58 :: 32 :: v) ++ 13 :: 10 :: rest := by
    simp
  have h13 : 13 ∉ k ++ 58 :: 32 :: v := by
    intro hc
    simp only [List.mem_append, List.mem_cons] at hc
    rcases hc with hc | hc | hc | hc
    · exact (tok_facts (hk.tok 13 hc)).2.2.2.2 rfl
    · omega
    · omega
    · exact (val_facts (hv.1 13 hc)).2.2.1 rfl
  obtain ⟨hs1, hs3⟩ := split_key hk (32 :: v)
  have hE : (k ++ 58 :: 32 :: v).isEmpty = false := by cases k <;> simp
  have hd : (32 :: v).dropWhile (· == 32) = v := by
    have : ((32 : Nat) == 32) = true := rfl
    simp only [List.dropWhile, this]
    apply dropWhile_head
    intro c hc
    have : c ≠ 32 := fun e => hv.2.1 (e ▸ hc)
    simp [this]
  rw [hline, specHeaderBlock, cutCRLF_line _ _ h13]
  simp only [hE, hs1, hs3, hd, addValue_eq_headerAdd]
  simp

theorem specHeaderBlock_reader : LineReader specHeaderBlock (fun _ => True) some where
  line k v rest m f hk hv _ := specHeaderBlock_line k v rest m f hk hv
  key _ _ _ := trivial
  blankOk := trivial
  blank f m := by simp [specHeaderBlock, cutCRLF]

/-- the spec reader's header-block parser reads the written block back to the sorted map, exactly like
`ReadMIMEHeader` -/
theorem specHeaderBlock_headerWrite (h : Header) (hr : ReprHeaders h) :
    specHeaderBlock ((headerWrite h ++ [13, 10]).length + 1) (headerWrite h ++ [13, 10]) [] =
      some (sortKV h) := by
  have hp := sortKV_perm h
  have hall : ∀ kv ∈ sortKV h, ReprEntry kv :=
    fun kv hkv => hr.2 kv (hp.mem_iff.1 hkv)
  have hnd : ((sortKV h).map (·.1)).Nodup := (hp.map (·.1)).nodup_iff.2 hr.1
  have hle := nLines_le _ hall
  unfold headerWrite
  rw [specHeaderBlock_reader.block (sortKV h) [] _ (by simp only [List.length_append]; omega) hall
    (by simpa using hnd)]
  simp

theorem specRecord_csvFields (r : Result) (hr : ReprCSVResult r) :
    specRecord (csvFields r) = some (csvDecoded r) := by
  have hn := hr.num
  have e0 : specInt (fmtInt (wrapS64 r.timestamp)) = some r.timestamp := by
    rw [wrapS64_id hn.tsS64]; exact specInt_fmtInt _
  have e6 : b64Decode (b64Encode (r.body.getD [])) = .ok (r.body.getD []) :=
    b64Decode_b64Encode _ hr.body
  have hcode := hn.code
  unfold specRecord csvFields
  simp only [e0, specNat_fmtNat, specInt_fmtInt, e6, optOutcome]
  cases hh : r.headers with
  | none =>
    simp [headerBytes, b64Encode, csvDecoded, hh, hcode]
  | some h =>
    obtain ⟨hrh, hb⟩ := hr.headers h hh
    obtain ⟨hne, ed⟩ := headerColumn h hrh hb
    simp only [headerBytes, Option.getD_some, hne, ed, specHeaderBlock_headerWrite h hrh]
    simp [csvDecoded, hh, hcode]

theorem specReadCSVF_encodeCSVAll (rs : List Result) (hrs : ∀ r ∈ rs, ReprCSVResult r) :
    ∀ fuel, rs.length < fuel → specReadCSVF fuel (encodeCSVAll rs) = (rs.map csvDecoded, .eof) := by
  induction rs with
  | nil =>
    intro fuel hf
    cases fuel with
    | zero => simp at hf
    | succ n => simp [encodeCSVAll, specReadCSVF, readRecord_nil]
  | cons r rs ih =>
    intro fuel hf
    cases fuel with
    | zero => simp at hf
    | succ n =>
      have hl := csvFields_length r
      rw [encodeCSVAll_cons, specReadCSVF, readRecord_writeRecord _ (by omega) _]
      simp only [specRecord_csvFields r (hrs r (by simp)),
        ih (fun x hx => hrs x (by simp [hx])) n (by simp at hf; omega), List.map_cons]

/-- **the independent reader of the documented twelve columns agrees**: it reads the encoder's output
back to the same results as the decoder -/
theorem specReadCSV_encodeCSVAll (rs : List Result) (hrs : ∀ r ∈ rs, ReprCSVResult r) :
    Vegeta.Spec.Layout.specReadCSV (encodeCSVAll rs) = (rs.map csvDecoded, .eof) := by
  unfold specReadCSV
  simp only [normCRLF_id _ (encodeCSVAll_noCR rs hrs)]
  exact specReadCSVF_encodeCSVAll rs hrs _ (by have := length_le_encodeCSVAll rs; omega)

/-- attack `x`, error `a,"⏎b` (comma, quote, newline), body `01 02 ff`, `GET http://a/`,
headers `X-A: 1`, `X-A: b c` -/
def exampleResult : Result :=
  { attack := [120], seq := 7, code := 200, timestamp := 1700000000123456789, latency := 1500000,
    bytesOut := 3, bytesIn := 42, error := [97, 44, 34, 10, 98], body := some [1, 2, 255],
    method := [71, 69, 84], url := [104, 116, 116, 112, 58, 47, 47, 97, 47],
    headers := some [([88, 45, 65], [[49], [98, 32, 99]])] }

theorem exampleResult_repr : ReprCSVResult exampleResult where
  num := by constructor <;> decide +kernel
  attack := by decide +kernel
  error := by decide +kernel
  method := by decide +kernel
  url := by decide +kernel
  body := by decide +kernel
  headers := by
    intro h hh
    cases hh
    unfold ReprHeaders ReprKey ReprValue
    decide +kernel

set_option maxRecDepth 100000 in
example : decodeCSV (encodeCSV exampleResult ++ encodeCSV exampleResult) =
    ([csvDecoded exampleResult, csvDecoded exampleResult], .eof) := by decide +kernel

set_option maxRecDepth 100000 in
example : Vegeta.Spec.Layout.specReadCSV (encodeCSV exampleResult ++ encodeCSV exampleResult) =
    ([csvDecoded exampleResult, csvDecoded exampleResult], .eof) := by decide +kernel

example : (csvDecoded exampleResult).equal exampleResult = true :=
  (csvDecoded_equal _ exampleResult_repr).1

end Vegeta.Proofs.Codec
