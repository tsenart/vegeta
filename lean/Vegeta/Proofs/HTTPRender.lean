/-
The lines `bufio.ScanLines` makes of a rendered document of
`Spec.TargetGrammar` are classified as the grammar says (request line, header line, body line,
comment, blank), so the results of `HTTPGrammar` apply; an unterminated empty last line changes
nothing (`NormalEnd`).  At the end the vocabulary of C14's statements: `Matches`, `ListRel`, `defaultsOf`.
-/
import Vegeta.Proofs.HTTPGrammar
namespace Vegeta.Proofs.HTTPRender
open Vegeta.Go
open Vegeta.Model.Histogram (trimSpace)
open Vegeta.Model.HTTPTargets
open Vegeta.Proofs.HTTPTargetsL Vegeta.Proofs.HTTPHeap Vegeta.Proofs.TargetText Vegeta.Proofs.HTTPGrammar
open Vegeta.Spec.TargetGrammar hiding Bytes

/-- `l` is `s`, which begins and ends with a plain byte, between paddings: the shape of the request,
header and body lines -/
def Padded (l s : Bytes) : Prop := ∃ pre post, IsPad pre ∧ IsPad post ∧ EdgePlain s ∧ l = pre ++ s ++ post

theorem Padded.trim {l s : Bytes} (h : Padded l s) : trimSpace (dropCR l) = s := by
  obtain ⟨pre, post, hpre, hpost, hs, rfl⟩ := h
  obtain ⟨d, hd1, hd2⟩ := hs.2.1
  have h13 : (pre ++ s).getLast? ≠ some 13 := by
    rw [List.getLast?_append, hd1]
    intro h; cases h; exact absurd (plain_bounds hd2) (by omega)
  rw [dropCR_append (pre ++ s) post h13]
  exact trimSpace_edgePlain pre _ s hpre (dropCR_pad post hpost) hs

theorem Padded.no_nl {l s : Bytes} (h : Padded l s) : 10 ∉ l := by
  obtain ⟨pre, post, hpre, hpost, hs, rfl⟩ := h
  simp only [List.mem_append, not_or]
  exact ⟨⟨pad_ne_10 hpre, hs.2.2⟩, pad_ne_10 hpost⟩

theorem req_padded {v : Bytes → Bool} {fs : Bytes → Option Bytes} {b : Block} (hb : b.Legal v fs) :
    Padded b.reqLine (b.method ++ 32 :: b.url) := by
  obtain ⟨_, hpre, hpost, hm, hup, hu, _⟩ := hb
  refine ⟨b.pre, b.post, hpre, hpost, ?_, by simp [Block.reqLine]⟩
  have h10 : 10 ∉ b.method ++ [32] := by
    intro hin
    rcases List.mem_append.mp hin with h | h
    · exact absurd (hup 10 h) (by omega)
    · simp at h
  obtain ⟨c, t, hmm⟩ := List.exists_cons_of_ne_nil hm
  have := edgePlain_append (a := b.method ++ [32]) (c := c) (by rw [hmm]; rfl) (upper_plain (hup c (by simp [hmm]))) h10 hu
  simpa using this

theorem hdr_padded {h : HeaderLine} (hl : h.Legal) : Padded h.line (h.key ++ 58 :: (h.mid ++ h.value)) := by
  obtain ⟨hk, hplain, _, _, hval, hpre, hmid, hpost⟩ := hl
  refine ⟨h.pre, h.post, hpre, hpost, ?_, by simp [HeaderLine.line]⟩
  have h10 : 10 ∉ h.key ++ 58 :: h.mid := by
    intro hin
    rcases List.mem_append.mp hin with hin | hin
    · exact plain_ne_10 (hplain 10 hin).1 rfl
    · rcases List.mem_cons.mp hin with hin | hin
      · cases hin
      · exact pad_ne_10 hmid hin
  obtain ⟨c, t, hkk⟩ := List.exists_cons_of_ne_nil hk
  have := edgePlain_append (a := h.key ++ 58 :: h.mid) (c := c) (by rw [hkk]; rfl) (hplain c (by simp [hkk])).1 h10 hval
  simpa using this

theorem body_padded {fs : Bytes → Option Bytes} {bl : BodyLine} (hl : bl.Legal fs) : Padded bl.line (64 :: bl.path) :=
  ⟨bl.pre, bl.post, hl.2.1, hl.2.2.1, edgePlain_append (a := [64]) rfl (by decide) (by decide) hl.1, by simp [BodyLine.line]⟩

theorem comment_class (c : Comment) (h : c.Legal) : IsComment (dropCR c.line) := by
  rw [Comment.line, dropCR_comment]
  exact trimSpace_head c.pre 35 _ h.1 (by decide)

theorem blank_class (ws : Bytes) (h : IsPad ws) : IsBlank (dropCR ws) := trimSpace_pad _ (dropCR_pad ws h)

theorem filler_class (f : Filler) (h : f.Legal) : IsFiller (dropCR f.line) := by
  cases f with
  | blank ws => exact Or.inl (blank_class ws h)
  | comment c => exact Or.inr (comment_class c h)

theorem req_class (cfg : Cfg) (b : Block) (hb : b.Legal cfg.validURI cfg.fs) :
    IsReq cfg (dropCR b.reqLine) b.method b.url :=
  ⟨(req_padded hb).trim, hb.2.2.2.1, hb.2.2.2.2.1, hb.2.2.2.2.2.2.1⟩

theorem hdr_class (h : HeaderLine) (hl : h.Legal) : IsHdr (dropCR h.line) h.key h.value := by
  have ⟨hk, hplain, h35, h64, hval, _, hmid, _⟩ := hl
  refine ⟨h.mid, (hdr_padded hl).trim, hk, hplain, h35, h64, ?_, ?_, edgePlain_ne_nil hval⟩
  · simpa using trimSpace_edgePlain [] [] h.key isPad_nil isPad_nil (edgePlain_allPlain _ hk (fun c hc => (hplain c hc).1))
  · simpa using trimSpace_edgePlain h.mid [] h.value hmid isPad_nil hval

theorem body_class (cfg : Cfg) (bl : BodyLine) (hl : bl.Legal cfg.fs) :
    IsBody cfg (dropCR bl.line) bl.path ((cfg.fs bl.path).getD []) := by
  refine ⟨(body_padded hl).trim, ?_⟩
  cases hf : cfg.fs bl.path with
  | none => have := hl.2.2.2; rw [hf] at this; cases this
  | some c => rfl

def toAItem : Item → AItem
  | .header h => .hdr (dropCR h.line) h.key h.value
  | .comment c => .cmt (dropCR c.line)

theorem toAItem_line (it : Item) : (toAItem it).line = dropCR it.line := by cases it <;> rfl

theorem toAItem_isHdr (it : Item) : (toAItem it).isHdr = it.isHeader := by cases it <;> rfl

def toABlock (cfg : Cfg) (b : Block) : ABlock :=
  { lead := b.lead.map fun f => dropCR f.line
    req := dropCR b.reqLine
    m := b.method
    u := b.url
    items := b.items.map toAItem
    body := b.body.map fun bl => (dropCR bl.line, bl.path, (cfg.fs bl.path).getD []) }

theorem toABlock_ok (cfg : Cfg) (b : Block) (hb : b.Legal cfg.validURI cfg.fs) : (toABlock cfg b).OK cfg := by
  refine ⟨?_, req_class cfg b hb, ?_, ?_⟩
  · intro l hl
    simp only [toABlock, List.mem_map] at hl
    obtain ⟨f, hf, rfl⟩ := hl
    exact filler_class f (hb.1 f hf)
  · intro it hit
    simp only [toABlock, List.mem_map] at hit
    obtain ⟨i, hi, rfl⟩ := hit
    have := hb.2.2.2.2.2.2.2.1 i hi
    cases i with
    | header h => exact hdr_class h this
    | comment c => exact comment_class c this
  · intro x hx
    simp only [toABlock, Option.map_eq_some_iff] at hx
    obtain ⟨bl, hbl, rfl⟩ := hx
    exact body_class cfg bl (hb.2.2.2.2.2.2.2.2 bl hbl)

theorem ownOf_toAItem (items : List Item) :
    ownOf (items.map toAItem) = (items.filterMap fun
      | .header h => some (h.key, h.value)
      | .comment _ => none) := by
  induction items with
  | nil => rfl
  | cons it r ih =>
    cases it with
    | header h => simp [toAItem, ownOf, ih]
    | comment c => simp [toAItem, ownOf, ih]

theorem block_lines_map (cfg : Cfg) (b : Block) :
    b.lines.map dropCR = (toABlock cfg b).lead ++ (toABlock cfg b).reqOn := by
  simp only [Block.lines, toABlock, ABlock.reqOn, ABlock.bodyLines, List.map_append, List.map_cons, List.map_map,
    Option.toList_map, Function.comp_def, toAItem_line]

theorem filler_no_nl (f : Filler) (h : f.Legal) : 10 ∉ f.line := by
  cases f with
  | blank ws => exact pad_ne_10 h
  | comment c =>
    intro hin
    simp [Filler.line, Comment.line] at hin
    rcases hin with hin | hin
    · exact pad_ne_10 h.1 hin
    · exact h.2 hin

theorem block_no_nl {v : Bytes → Bool} {fs : Bytes → Option Bytes} (b : Block) (hb : b.Legal v fs) : ∀ l ∈ b.lines, 10 ∉ l := by
  intro l hl
  simp only [Block.lines, List.mem_append, List.mem_map, List.mem_cons, Option.mem_toList] at hl
  rcases hl with ⟨f, hf, rfl⟩ | rfl | ⟨it, hit, rfl⟩ | ⟨bl, hbl, rfl⟩
  · exact filler_no_nl f (hb.1 f hf)
  · exact (req_padded hb).no_nl
  · have hl := hb.2.2.2.2.2.2.2.1 it hit
    cases it with
    | header h => exact (hdr_padded hl).no_nl
    | comment c => exact filler_no_nl (.comment c) hl
  · exact (body_padded (hb.2.2.2.2.2.2.2.2 bl hbl)).no_nl

theorem doc_no_nl (d : Doc) (hb : ∀ b ∈ d.blocks, ∃ v fs, b.Legal v fs) (ht : ∀ f ∈ d.trail, f.Legal) :
    ∀ l ∈ d.lines, 10 ∉ l := by
  intro l hl
  simp only [Doc.lines, List.mem_append, List.mem_flatMap, List.mem_map] at hl
  rcases hl with ⟨b, hbm, hl⟩ | ⟨f, hf, rfl⟩
  · obtain ⟨v, fs, hbl⟩ := hb b hbm
    exact block_no_nl b hbl l hl
  · exact filler_no_nl f (ht f hf)

/-- The file ends in a line terminator, or its last line is not empty.  (An unterminated
empty last line is no line at all: such a file is byte for byte the file with one line less
and `finalNewline = true`.) -/
def NormalEnd (d : Doc) : Prop := d.finalNewline = true ∨ d.lines.getLast? ≠ some []

theorem srcLines_render (d : Doc) (hno : ∀ l ∈ d.lines, 10 ∉ l) (hend : NormalEnd d) :
    srcLines (render d) = d.lines.map dropCR := by
  rw [srcLines, render, scanLines_join _ _ hno, if_neg]
  rintro ⟨hf, hlast⟩
  exact hend.elim (fun h => by rw [hf] at h; cases h) (fun h => h hlast)

/-- `Separated`, read on the classified blocks: behind a block with header lines and no body line, the
next block's lead has a blank line -/
theorem lead_blank (c c' : Cfg) (b b' : Block) (hlead : ∀ f ∈ b'.lead, f.Legal)
    (hs : (b.hasHeader = true ∧ b.body = none) → b'.lead.any Filler.isBlank = true)
    (hbody : (toABlock c b).body = none) (hhdr : ∃ it ∈ (toABlock c b).items, it.isHdr = true) :
    ∃ l ∈ (toABlock c' b').lead, IsBlank l := by
  obtain ⟨it, hit, hi⟩ := hhdr
  obtain ⟨i, hi', rfl⟩ := List.mem_map.mp hit
  rw [toAItem_isHdr] at hi
  obtain ⟨f, hf, hbl⟩ := List.any_eq_true.mp
    (hs ⟨List.any_eq_true.mpr ⟨i, hi', hi⟩, Option.map_eq_none_iff.mp hbody⟩)
  cases f with
  | blank ws => exact ⟨dropCR ws, List.mem_map.mpr ⟨.blank ws, hf, rfl⟩, blank_class ws (hlead _ hf)⟩
  | comment c => cases hbl

/-! ### an unterminated empty last line -/

theorem joinLines_snoc_nil : ∀ (L : List Bytes), L ≠ [] → joinLines (L ++ [[]]) false = joinLines L true := by
  intro L
  induction L with
  | nil => intro h; exact absurd rfl h
  | cons l r ih =>
    intro _
    cases r with
    | nil => simp [joinLines]
    | cons l2 r2 =>
      have := ih (by simp)
      simp only [List.cons_append, joinLines] at this ⊢
      rw [this]

/-- from the request line on, every line of a block has at least one byte (` `, `:`, `#`, `@`) -/
theorem block_last_ne_nil (b : Block) : b.lines.getLast? ≠ some [] := by
  intro h
  rw [Block.lines, getLast?_append_ne _ _ (by simp)] at h
  have hmem := List.mem_of_getLast? h
  simp only [List.mem_cons, List.mem_append, List.mem_map] at hmem
  rcases hmem with hreq | ⟨it, _, hl⟩ | ⟨bl, _, hl⟩
  · simp [Block.reqLine] at hreq
  · cases it <;> simp [Item.line, HeaderLine.line, Comment.line] at hl
  · simp [BodyLine.line] at hl

theorem render_normal (d : Doc) :
    ∃ d' : Doc, d'.blocks = d.blocks ∧ (∀ f ∈ d'.trail, f ∈ d.trail) ∧ NormalEnd d' ∧ render d' = render d := by
  by_cases hend : NormalEnd d
  · exact ⟨d, rfl, fun _ h => h, hend, rfl⟩
  · have hfn : d.finalNewline = false := by
      cases hf : d.finalNewline with
      | true => exact absurd (Or.inl hf) hend
      | false => rfl
    have hlast : d.lines.getLast? = some [] := Classical.not_not.mp fun h => hend (Or.inr h)
    -- the empty last line is a blank line of the trail, since no block ends in one
    obtain ⟨T, f, ht, hf⟩ : ∃ T f, d.trail = T ++ [f] ∧ f.line = [] := by
      rcases eq_nil_or_snoc d.trail with ht | ⟨T, f, ht⟩
      · exfalso
        simp only [Doc.lines, ht, List.map_nil, List.append_nil] at hlast
        rcases eq_nil_or_snoc d.blocks with hb | ⟨bs, b, hb⟩
        · rw [hb] at hlast; cases hlast
        · rw [hb, List.flatMap_append, List.flatMap_singleton, getLast?_append_ne _ _ (by simp [Block.lines])] at hlast
          exact block_last_ne_nil b hlast
      · refine ⟨T, f, ht, ?_⟩
        simp only [Doc.lines, ht, List.map_append, List.map_cons, List.map_nil, ← List.append_assoc] at hlast
        rw [List.getLast?_concat] at hlast
        exact Option.some.inj hlast
    refine ⟨{ blocks := d.blocks, trail := T, finalNewline := true }, rfl, ?_, Or.inl rfl, ?_⟩
    · intro x hx; rw [ht]; exact List.mem_append_left _ hx
    · simp only [render, Doc.lines, hfn, ht, List.map_append, List.map_cons, List.map_nil, hf, ← List.append_assoc]
      generalize d.blocks.flatMap Block.lines ++ T.map Filler.line = L
      by_cases hL : L = []
      · subst hL; rfl
      · exact (joinLines_snoc_nil L hL).symm

/-- every legal document renders to the same bytes as one with the same blocks that ends
normally (drop an unterminated empty last line of the trail, terminate the file instead) -/
theorem render_normalize (cfg : Cfg) (d : Doc) (hd : d.Legal cfg.validURI cfg.fs) :
    ∃ d' : Doc, d'.blocks = d.blocks ∧ d'.Legal cfg.validURI cfg.fs ∧ NormalEnd d' ∧ render d' = render d := by
  obtain ⟨d', hb, ht, hend, hr⟩ := render_normal d
  exact ⟨d', hb, ⟨hb ▸ hd.1, fun f hf => hd.2.1 f (ht f hf), hb ▸ hd.2.2⟩, hend, hr⟩

/-- what the caller sees of a returned target in heap `h` agrees with the description -/
def Matches (h : Heap) (t : Target) (d : Described) : Prop :=
  t.method = d.method ∧ t.url = d.url ∧ t.body = d.body ∧ ∀ k, (hlookup t.header k).map (view h) = d.header k

/-- two lists of equal length whose elements are related position by position -/
inductive ListRel {α β : Type} (R : α → β → Prop) : List α → List β → Prop where
  | nil : ListRel R [] []
  | cons {a : α} {b : β} {as : List α} {bs : List β} : R a b → ListRel R as bs → ListRel R (a :: as) (b :: bs)

theorem ListRel.length_eq {α β : Type} {R : α → β → Prop} {as : List α} {bs : List β} (h : ListRel R as bs) :
    as.length = bs.length := by
  induction h with
  | nil => rfl
  | cons _ _ ih => simp [ih]

/-- the default header values as a function of the key -/
def defaultsOf (cfg : Cfg) (h : Heap) : Bytes → Option (List Bytes) := fun k => (hlookup cfg.hdr k).map (view h)

theorem defaultsOf_extends {cfg : Cfg} {h h' : Heap} (e : Extends h h') (wf : WfDefaults cfg h) (k : Bytes) :
    defaultsOf cfg h' k = defaultsOf cfg h k := by
  simp only [defaultsOf]
  cases hk : hlookup cfg.hdr k with
  | none => rfl
  | some s0 => simp [view_extends e (wf.ok k s0 hk)]

end Vegeta.Proofs.HTTPRender
