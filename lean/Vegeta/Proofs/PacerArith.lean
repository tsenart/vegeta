/-
Field arithmetic behind the linear pacer (C01): a rate `a·x + b` (hits per second at `x` seconds),
its integral `a·x²/2 + b·x`, and one first-order step of the pacer, in which the wait is the
exact one truncated to a whole tick (`c` ticks per second; the code has `c = 1e9`).
-/
import Mathlib.Tactic.Linarith
import Mathlib.Tactic.Ring
import Mathlib.Tactic.FieldSimp
import Mathlib.Algebra.Order.Field.Basic
import Mathlib.Algebra.Order.Floor.Ring
namespace Vegeta.Proofs.PacerArith

variable {K : Type} [Field K] [LinearOrder K] [IsStrictOrderedRing K]

/-- The schedule is the mean of start rate and present rate times the time passed: it is
non-negative, and at most `c·x`, when both rates lie in `[0, c]`. -/
theorem quad_bounds {a b c x : K} (hx : 0 ≤ x) (hb : 0 ≤ b ∧ b ≤ c)
    (hr : 0 ≤ a * x + b ∧ a * x + b ≤ c) :
    0 ≤ a * x ^ 2 / 2 + b * x ∧ a * x ^ 2 / 2 + b * x ≤ x * c := by
  have e : a * x ^ 2 / 2 + b * x = x * ((a * x + b + b) / 2) := by ring
  rw [e]
  exact ⟨mul_nonneg hx (div_nonneg (add_nonneg hr.1 hb.1) zero_le_two),
    mul_le_mul_of_nonneg_left
      ((div_le_iff₀ zero_lt_two).2 (by rw [mul_two]; exact add_le_add hr.2 hb.2)) hx⟩

/-- Trapezoid rule: the schedule does not fall between two instants of non-negative rate. -/
theorem quad_mono {a b x y : K} (hxy : x ≤ y) (hx : 0 ≤ a * x + b) (hy : 0 ≤ a * y + b) :
    a * x ^ 2 / 2 + b * x ≤ a * y ^ 2 / 2 + b * y := by
  have e : a * y ^ 2 / 2 + b * y - (a * x ^ 2 / 2 + b * x)
      = (y - x) * ((a * x + b + (a * y + b)) / 2) := by ring
  rw [← sub_nonneg, e]
  exact mul_nonneg (sub_nonneg.2 hxy) (div_nonneg (add_nonneg hx hy) zero_le_two)

section floor
variable [FloorRing K]

/-- The wait `δ/r` seconds, truncated to whole ticks, is `u = ⌊c/r·δ⌋/c` seconds; at rate `r` it
covers `u·r ≤ δ` hits and falls short of `δ` by less than the `r/c` hits of one tick. -/
theorem floor_wait {c r δ : K} (hc : 0 < c) (hr : 0 < r) (hδ : 0 ≤ δ) :
    0 ≤ ((⌊c / r * δ⌋ : Int) : K) / c ∧ ((⌊c / r * δ⌋ : Int) : K) / c * r ≤ δ ∧
      δ - r / c < ((⌊c / r * δ⌋ : Int) : K) / c * r := by
  have hk : 0 < r / c := div_pos hr hc
  have hW0 : 0 ≤ c / r * δ := mul_nonneg (le_of_lt (div_pos hc hr)) hδ
  have hWk : c / r * δ * (r / c) = δ := by field_simp
  have hfl0 : (0 : K) ≤ ((⌊c / r * δ⌋ : Int) : K) := by exact_mod_cast Int.floor_nonneg.2 hW0
  have e : ((⌊c / r * δ⌋ : Int) : K) / c * r = ((⌊c / r * δ⌋ : Int) : K) * (r / c) := by ring
  rw [e]
  refine ⟨div_nonneg hfl0 (le_of_lt hc), ?_, sub_lt_iff_lt_add.2 ?_⟩
  · exact le_of_le_of_eq (mul_le_mul_of_nonneg_right (Int.floor_le _) (le_of_lt hk)) hWk
  · calc δ = c / r * δ * (r / c) := hWk.symm
      _ < (((⌊c / r * δ⌋ : Int) : K) + 1) * (r / c) :=
        mul_lt_mul_of_pos_right (Int.lt_floor_add_one _) hk
      _ = ((⌊c / r * δ⌋ : Int) : K) * (r / c) + r / c := add_one_mul _ _

end floor

/-- One first-order step while the rate does not fall (`a ≥ 0`): the schedule advances by
`u·r + a·u²/2 ≥ u·r`, and truncation loses less than `r/c ≤ 1` hit. -/
theorem step_rising {a c r u δ : K} (ha : 0 ≤ a) (hc : 0 < c) (hrc : r ≤ c)
    (hu : δ - r / c < u * r) : δ - 1 ≤ u * r + a * u ^ 2 / 2 := by
  calc δ - 1 ≤ δ - r / c := sub_le_sub_left ((div_le_one hc).2 hrc) δ
    _ ≤ u * r := le_of_lt hu
    _ ≤ u * r + a * u ^ 2 / 2 :=
      le_add_of_nonneg_right (div_nonneg (mul_nonneg ha (sq_nonneg u)) zero_le_two)

/-- One first-order step with room left at the horizon (the case of a falling rate): the wait
covers `u·r ≤ δ ≤ 2` hits, so `−2a·u² ≤ rT²(1 − b/c)·u² ≤ (1 − b/c)(u·r)² ≤ 4(1 − b/c)` by the room
the rate at the horizon leaves, and the quadratic term takes back at most the `1 − b/c` of a hit
that truncation spares. -/
theorem step_falling {a b c r rT u δ : K} (hc : 0 < c) (hrT : 0 < rT) (hrTr : rT ≤ r)
    (hrb : r ≤ b) (hbc : b ≤ c) (hδ2 : δ ≤ 2) (hu0 : 0 ≤ u)
    (hu1 : u * r ≤ δ) (hu2 : δ - r / c < u * r)
    (hroom : -(2 * a) ≤ rT ^ 2 * (1 - b / c)) :
    δ - 1 ≤ u * r + a * u ^ 2 / 2 := by
  have hq : 0 ≤ 1 - b / c := sub_nonneg.2 ((div_le_one hc).2 hbc)
  have h1 : rT * u ≤ 2 :=
    le_trans (mul_le_mul_of_nonneg_right hrTr hu0) (le_trans (le_of_eq_of_le (mul_comm r u) hu1) hδ2)
  have h2 : -(2 * a) * u ^ 2 ≤ rT ^ 2 * (1 - b / c) * u ^ 2 :=
    mul_le_mul_of_nonneg_right hroom (sq_nonneg u)
  have h3 : rT ^ 2 * (1 - b / c) * u ^ 2 ≤ (1 - b / c) * 2 ^ 2 :=
    calc rT ^ 2 * (1 - b / c) * u ^ 2 = (1 - b / c) * (rT * u) ^ 2 := by ring
      _ ≤ (1 - b / c) * 2 ^ 2 :=
        mul_le_mul_of_nonneg_left (pow_le_pow_left₀ (mul_nonneg (le_of_lt hrT) hu0) h1 2) hq
  have h4 : r / c ≤ b / c := div_le_div_of_nonneg_right hrb (le_of_lt hc)
  linarith only [hu2, h2, h3, h4]

end Vegeta.Proofs.PacerArith
