/-
The maps of the plot model (`Plot.series`: attack → labeledSeries, `labeledSeries.series`:
label → timeSeries) are association lists with `Bytes` keys, written out twice in the model.
Both are instances of `alLookup`/`alSet`; what is proved here about those is used for both.
-/
import Vegeta.Model.Plot
namespace Vegeta.Proofs.AssocList
open Vegeta.Go Vegeta.Model.Plot

def alLookup {β} : List (Bytes × β) → Bytes → Option β
  | [], _ => none
  | (k', v) :: rest, k => if k' == k then some v else alLookup rest k

def alSet {β} : List (Bytes × β) → Bytes → β → List (Bytes × β)
  | [], k, v => [(k, v)]
  | (k', v') :: rest, k, v => if k' == k then (k, v) :: rest else (k', v') :: alSet rest k v

theorem seriesLookup_eq (ss : List (Bytes × TimeSeries)) (l : Bytes) : seriesLookup ss l = alLookup ss l := by
  induction ss with
  | nil => rfl
  | cons e rest ih => obtain ⟨k, v⟩ := e; simp only [seriesLookup, alLookup, ih]

theorem seriesSet_eq (ss : List (Bytes × TimeSeries)) (l : Bytes) (s : TimeSeries) : seriesSet ss l s = alSet ss l s := by
  induction ss with
  | nil => rfl
  | cons e rest ih => obtain ⟨k, v⟩ := e; simp only [seriesSet, alSet, ih]

theorem plotLookup_eq (p : Plot) (a : Bytes) : plotLookup p a = alLookup p a := by
  induction p with
  | nil => rfl
  | cons e rest ih => obtain ⟨k, v⟩ := e; simp only [plotLookup, alLookup, ih]

theorem plotSet_eq (p : Plot) (a : Bytes) (ls : LabeledSeries) : plotSet p a ls = alSet p a ls := by
  induction p with
  | nil => rfl
  | cons e rest ih => obtain ⟨k, v⟩ := e; simp only [plotSet, alSet, ih]

theorem alLookup_cons {β} (k' : Bytes) (v : β) (rest : List (Bytes × β)) (k : Bytes) :
    alLookup ((k', v) :: rest) k = if k' = k then some v else alLookup rest k := by
  simp only [alLookup, beq_iff_eq]

theorem alLookup_set {β} (xs : List (Bytes × β)) (k : Bytes) (v : β) (k' : Bytes) :
    alLookup (alSet xs k v) k' = if k' = k then some v else alLookup xs k' := by
  induction xs with
  | nil => simp only [alSet, alLookup_cons, alLookup, eq_comm]
  | cons e rest ih =>
    obtain ⟨ke, ve⟩ := e
    simp only [alSet, beq_iff_eq]
    by_cases h : ke = k
    · subst h
      rw [if_pos rfl, alLookup_cons, alLookup_cons]
      by_cases h' : ke = k'
      · rw [if_pos h', if_pos h'.symm]
      · rw [if_neg h', if_neg (Ne.symm h'), if_neg h']
    · rw [if_neg h, alLookup_cons, alLookup_cons, ih]
      by_cases h' : ke = k'
      · subst h'; rw [if_pos rfl, if_neg h, if_pos rfl]
      · rw [if_neg h', if_neg h']

theorem alSet_absent {β} (xs : List (Bytes × β)) (k : Bytes) (v : β) (h : alLookup xs k = none) :
    alSet xs k v = xs ++ [(k, v)] := by
  induction xs with
  | nil => rfl
  | cons e rest ih =>
    obtain ⟨ke, ve⟩ := e
    rw [alLookup_cons] at h
    split at h
    · cases h
    · rename_i hk
      rw [alSet, if_neg (by simpa using hk), ih h, List.cons_append]

theorem alLookup_append_new {β} (xs : List (Bytes × β)) (k : Bytes) (v : β) (k' : Bytes)
    (hnone : alLookup xs k = none) :
    alLookup (xs ++ [(k, v)]) k' = if k' = k then some v else alLookup xs k' := by
  rw [← alSet_absent xs k v hnone, alLookup_set]

theorem alLookup_none {β} (xs : List (Bytes × β)) (k : Bytes) : alLookup xs k = none ↔ k ∉ xs.map (·.1) := by
  induction xs with
  | nil => simp [alLookup]
  | cons e rest ih =>
    obtain ⟨k', v⟩ := e
    rw [alLookup_cons, List.map_cons, List.mem_cons, not_or]
    by_cases h : k' = k
    · subst h; simp
    · rw [if_neg h, ih]
      exact ⟨fun hh => ⟨Ne.symm h, hh⟩, fun hh => hh.2⟩

theorem alSet_keys {β} (xs : List (Bytes × β)) (k : Bytes) (v : β) :
    (alSet xs k v).map (·.1) = if k ∈ xs.map (·.1) then xs.map (·.1) else xs.map (·.1) ++ [k] := by
  induction xs with
  | nil => simp [alSet]
  | cons e rest ih =>
    obtain ⟨k', v'⟩ := e
    simp only [alSet, List.map_cons, List.mem_cons, beq_iff_eq]
    by_cases h : k' = k
    · subst h; simp
    · rw [if_neg h, List.map_cons, ih]
      simp only [Ne.symm h, false_or]
      split <;> rfl

theorem alSet_nodup {β} (xs : List (Bytes × β)) (k : Bytes) (v : β) (h : (xs.map (·.1)).Nodup) :
    ((alSet xs k v).map (·.1)).Nodup := by
  rw [alSet_keys]
  split
  · exact h
  · rename_i hk
    exact (List.perm_append_singleton _ _).nodup_iff.mpr (List.nodup_cons.mpr ⟨hk, h⟩)

theorem alLookup_mem {β} (xs : List (Bytes × β)) (h : (xs.map (·.1)).Nodup) (k : Bytes) (v : β) :
    (k, v) ∈ xs ↔ alLookup xs k = some v := by
  induction xs with
  | nil => simp [alLookup]
  | cons e rest ih =>
    obtain ⟨k', v'⟩ := e
    rw [List.map_cons, List.nodup_cons] at h
    rw [List.mem_cons, alLookup_cons, Prod.mk.injEq, ih h.2]
    by_cases hk : k' = k
    · -- the key of the head occurs nowhere in the rest
      subst hk
      rw [if_pos rfl, (alLookup_none rest k').mpr h.1]
      simp [eq_comm]
    · rw [if_neg hk]
      simp [Ne.symm hk]

theorem seriesLookup_set (ss : List (Bytes × TimeSeries)) (l : Bytes) (s : TimeSeries) (l' : Bytes) :
    seriesLookup (seriesSet ss l s) l' = if l' = l then some s else seriesLookup ss l' := by
  simp only [seriesSet_eq, seriesLookup_eq, alLookup_set]

theorem seriesLookup_append_new (ss : List (Bytes × TimeSeries)) (l : Bytes) (s : TimeSeries) (l' : Bytes)
    (hnone : seriesLookup ss l = none) :
    seriesLookup (ss ++ [(l, s)]) l' = if l' = l then some s else seriesLookup ss l' := by
  rw [seriesLookup_eq] at hnone
  simp only [seriesLookup_eq, alLookup_append_new _ _ _ _ hnone]

theorem plotLookup_set (p : Plot) (a : Bytes) (ls : LabeledSeries) (a' : Bytes) :
    plotLookup (plotSet p a ls) a' = if a' = a then some ls else plotLookup p a' := by
  simp only [plotSet_eq, plotLookup_eq, alLookup_set]

end Vegeta.Proofs.AssocList
