/-
The parser on files of the documented grammar, in terms of *classified lines* (what a raw line
is after `TrimSpace`).  `HTTPRender` shows that the lines of `Spec.TargetGrammar.render` are
classified as the grammar says.
-/
import Vegeta.Proofs.TargetText
import Vegeta.Proofs.HTTPTargetsL
import Vegeta.Proofs.HTTPHeap
namespace Vegeta.Proofs.HTTPGrammar
open Vegeta.Go
open Vegeta.Model.Histogram (trimSpace)
open Vegeta.Model.HTTPTargets
open Vegeta.Proofs.HTTPTargetsL Vegeta.Proofs.HTTPHeap Vegeta.Proofs.TargetText
open Vegeta.Spec.TargetGrammar (isPlain IsPad EdgePlain)

def IsBlank (l : Bytes) : Prop := trimSpace l = []
def IsComment (l : Bytes) : Prop := ∃ t, trimSpace l = 35 :: t
def IsFiller (l : Bytes) : Prop := IsBlank l ∨ IsComment l

/-- `l` trims to the request line `m u` -/
structure IsReq (cfg : Cfg) (l m u : Bytes) : Prop where
  trim : trimSpace l = m ++ 32 :: u
  mne : m ≠ []
  upper : ∀ c ∈ m, 65 ≤ c ∧ c ≤ 90
  valid : cfg.validURI u = true

/-- `l` trims to the header line `k:` `mid` `v` ("M": the padding `mid` is named; `IsHdr` hides it) -/
structure IsHdrM (l k mid v : Bytes) : Prop where
  trim : trimSpace l = k ++ 58 :: (mid ++ v)
  kne : k ≠ []
  plain : ∀ c ∈ k, isPlain c = true ∧ c ≠ 58
  h35 : k.head? ≠ some 35
  h64 : k.head? ≠ some 64
  ktrim : trimSpace k = k
  vtrim : trimSpace (mid ++ v) = v
  vne : v ≠ []

def IsHdr (l k v : Bytes) : Prop := ∃ mid, IsHdrM l k mid v

def IsBody (cfg : Cfg) (l p content : Bytes) : Prop := trimSpace l = 64 :: p ∧ cfg.fs p = some content

theorem blank_not_comment {l : Bytes} (hb : IsBlank l) (hc : IsComment l) : False := by
  obtain ⟨t, ht⟩ := hc
  rw [hb] at ht; cases ht

theorem skipL_filler (l : Bytes) (rest : List Bytes) (h : IsFiller l) : skipL (l :: rest) = skipL rest := by
  simp only [skipL]
  rcases h with hb | ⟨t, ht⟩
  · simp [show trimSpace l = [] from hb]
  · simp [ht]

theorem skipL_fillers (F rest : List Bytes) (h : ∀ l ∈ F, IsFiller l) : skipL (F ++ rest) = skipL rest := by
  induction F with
  | nil => rfl
  | cons l F ih =>
    rw [List.cons_append, skipL_filler l _ (h l (by simp)), ih (fun x hx => h x (by simp [hx]))]

theorem req_head {cfg : Cfg} {l m u : Bytes} (h : IsReq cfg l m u) : ∃ c t, m = c :: t ∧ 65 ≤ c ∧ c ≤ 90 := by
  obtain ⟨c, t, rfl⟩ := List.exists_cons_of_ne_nil h.mne
  exact ⟨c, t, rfl, h.upper c (by simp)⟩

theorem skipL_req {cfg : Cfg} {l m u : Bytes} (rest : List Bytes) (h : IsReq cfg l m u) :
    skipL (l :: rest) = some (m ++ 32 :: u, rest) := by
  obtain ⟨c, t, hm, hc⟩ := req_head h
  simp only [skipL, h.trim]
  subst hm
  have : ¬ c = 35 := by omega
  simp [this]

theorem requestLine_req {cfg : Cfg} {l m u : Bytes} (hdr : HMap) (h : IsReq cfg l m u) :
    requestLine cfg (m ++ 32 :: u) hdr = .ok { method := m, url := u, body := cfg.body, header := hdr } := by
  have hs : splitFirst 32 (m ++ 32 :: u) = some (m, u) := by
    apply splitFirst_append
    intro hin; have := h.upper 32 hin; omega
  simp [requestLine, hs, startsWithHTTPMethod_request m u h.mne h.upper, h.valid]

theorem returns_blank {p : Bytes} (h : IsBlank p) : returnsAfterPeek (trimSpace p) = true := by
  simp [returnsAfterPeek, show trimSpace p = [] from h]

theorem returns_req {cfg : Cfg} {p m u : Bytes} (h : IsReq cfg p m u) : returnsAfterPeek (trimSpace p) = true := by
  simp [returnsAfterPeek, h.trim, startsWithHTTPMethod_request m u h.mne h.upper]

theorem returns_hdr {p k v : Bytes} (h' : IsHdr p k v) : returnsAfterPeek (trimSpace p) = false := by
  obtain ⟨mid, h⟩ := h'
  simp [returnsAfterPeek, h.trim, startsWithHTTPMethod_key k _ (fun c hc => (h.plain c hc).1)]

theorem returns_body {cfg : Cfg} {p q content : Bytes} (h : IsBody cfg p q content) :
    returnsAfterPeek (trimSpace p) = false := by
  simp [returnsAfterPeek, h.1, startsWithHTTPMethod, isUpper]

theorem req_trim_head {cfg : Cfg} {l m u : Bytes} (h : IsReq cfg l m u) : ∃ c t, trimSpace l = c :: t ∧ c ≠ 35 := by
  obtain ⟨c, t, hm, hc⟩ := req_head h
  exact ⟨c, t ++ 32 :: u, by rw [h.trim, hm]; rfl, by omega⟩

theorem hdr_trim_head {l k v : Bytes} (h : IsHdr l k v) : ∃ c t, trimSpace l = c :: t ∧ c ≠ 35 := by
  obtain ⟨mid, hm⟩ := h
  obtain ⟨c, t, rfl⟩ := List.exists_cons_of_ne_nil hm.kne
  exact ⟨c, t ++ 58 :: (mid ++ v), hm.trim, by simpa using hm.h35⟩

theorem peekL_comment {c : Bytes} (r : List Bytes) (lastc : Bytes) (h : IsComment c) : peekL (c :: r) lastc = peekL r c := by
  obtain ⟨t, ht⟩ := h
  simp [peekL, ht]

theorem peekL_stays {p : Bytes} {c : Nat} {t : Bytes} (r : List Bytes) (lastc : Bytes) (h : trimSpace p = c :: t) (hc : c ≠ 35) :
    peekL (p :: r) lastc = (trimSpace p, p :: r) := by
  have hne : p ≠ [] := by rintro rfl; cases h
  simp [peekL, h, hc, afterPeek, hne]

theorem peekL_comments (C : List Bytes) (hC : ∀ c ∈ C, IsComment c) (T : List Bytes) (lastc : Bytes) :
    peekL (C ++ T) lastc = peekL T (C.getLast?.getD lastc) := by
  induction C generalizing lastc with
  | nil => rfl
  | cons c r ih =>
    rw [List.cons_append, peekL_comment _ _ (hC c (by simp)), ih (fun x hx => hC x (by simp [hx]))]
    cases r <;> simp [List.getLast?_cons]

/-- after a bare request line: filler lines, then nothing or a request line — the call returns,
and only filler lines (possibly none) are left in front of what follows -/
theorem peekL_fillers {cfg : Cfg} (F X : List Bytes) (hF : ∀ l ∈ F, IsFiller l)
    (hX : X = [] ∨ ∃ l m' u' rest, X = l :: rest ∧ IsReq cfg l m' u') :
    ∀ lastc, (lastc = [] ∨ IsFiller lastc) →
      ∃ G', (∀ l ∈ G', IsFiller l) ∧ (peekL (F ++ X) lastc).2 = G' ++ X ∧
        returnsAfterPeek (peekL (F ++ X) lastc).1 = true := by
  induction F with
  | nil =>
    intro lastc hl
    rcases hX with rfl | ⟨l, m', u', rest, rfl, hreq⟩
    · -- end of input: the comment peeked last, if any, stays behind
      refine ⟨if lastc = [] then [] else [lastc], ?_, by simp [peekL], rfl⟩
      intro l hl'
      split at hl'
      · cases hl'
      · rename_i hne
        rw [List.mem_singleton] at hl'
        exact hl' ▸ hl.resolve_left hne
    · obtain ⟨c, t, ht, hc⟩ := req_trim_head hreq
      rw [List.nil_append, peekL_stays _ _ ht hc]
      exact ⟨[], nofun, rfl, returns_req hreq⟩
  | cons f F1 ih =>
    intro lastc _
    have hF1 : ∀ l ∈ F1, IsFiller l := fun l hl => hF l (by simp [hl])
    rcases hF f (by simp) with hb | hc
    · -- a blank line: the call returns; consumed when exactly empty, else delivered again
      have hp : peekL (f :: (F1 ++ X)) lastc = (trimSpace f, afterPeek (f :: (F1 ++ X))) := by
        simp [peekL, show trimSpace f = [] from hb]
      rw [List.cons_append, hp]
      by_cases h0 : f = []
      · exact ⟨F1, hF1, by simp [afterPeek, h0], returns_blank hb⟩
      · exact ⟨f :: F1, hF, by simp [afterPeek, h0], returns_blank hb⟩
    · rw [List.cons_append, peekL_comment _ _ hc]
      exact ih hF1 f (Or.inr (Or.inr hc))

theorem step_blank {cfg : Cfg} {l : Bytes} (tgt : Target) (h : Heap) (hb : IsBlank l) :
    headerStep cfg (trimSpace l) tgt h = .stop none tgt h := by
  simp [headerStep, show trimSpace l = [] from hb]

theorem step_comment {cfg : Cfg} {l : Bytes} (tgt : Target) (h : Heap) (hc : IsComment l) :
    headerStep cfg (trimSpace l) tgt h = .next tgt h := by
  obtain ⟨t, ht⟩ := hc
  simp [headerStep, ht]

theorem step_body {cfg : Cfg} {l p content : Bytes} (tgt : Target) (h : Heap) (hb : IsBody cfg l p content) :
    headerStep cfg (trimSpace l) tgt h = .stop none { tgt with body := content } h := by
  simp [headerStep, hb.1, hb.2]

theorem step_hdr {cfg : Cfg} {l k v : Bytes} (tgt : Target) (h : Heap) (hh : IsHdr l k v) :
    headerStep cfg (trimSpace l) tgt h =
      .next { tgt with header := (addHeader tgt.header h k v).1 } (addHeader tgt.header h k v).2 := by
  obtain ⟨mid, hh⟩ := hh
  have hs := splitFirst_append 58 k (mid ++ v) (fun hin => (hh.plain 58 hin).2 rfl)
  obtain ⟨c, t, rfl⟩ := List.exists_cons_of_ne_nil hh.kne
  have h35 : c ≠ 35 := by simpa using hh.h35
  have h64 : c ≠ 64 := by simpa using hh.h64
  rw [hh.trim]
  simp only [headerStep, List.cons_append, List.cons_ne_nil, ↓reduceIte, List.head?_cons, Option.some.injEq, h35, h64]
  rw [← List.cons_append, hs]
  simp only [hh.ktrim, hh.vtrim, hh.vne, List.cons_ne_nil, or_self, ↓reduceIte]

/-! ### blocks of classified lines ("A": a `Spec.TargetGrammar` item or block as the parser sees it) -/

inductive AItem where
  | hdr : Bytes → Bytes → Bytes → AItem       -- raw line, key, value
  | cmt : Bytes → AItem

def AItem.line : AItem → Bytes
  | .hdr l _ _ => l
  | .cmt l => l

def AItem.OK : AItem → Prop
  | .hdr l k v => IsHdr l k v
  | .cmt l => IsComment l

def AItem.isHdr : AItem → Bool
  | .hdr _ _ _ => true
  | .cmt _ => false

def ownOf : List AItem → List (Bytes × Bytes)
  | [] => []
  | .hdr _ k v :: r => (k, v) :: ownOf r
  | .cmt _ :: r => ownOf r

theorem headerL_items (cfg : Cfg) (items : List AItem) (hok : ∀ it ∈ items, it.OK) :
    ∀ (tail : List Bytes) (tgt : Target) (h : Heap),
      headerL cfg (items.map AItem.line ++ tail) tgt h =
        headerL cfg tail { tgt with header := (applyOwn tgt.header h (ownOf items)).1 } (applyOwn tgt.header h (ownOf items)).2 := by
  induction items with
  | nil => intro tail tgt h; rfl
  | cons it r ih =>
    intro tail tgt h
    have hr : ∀ x ∈ r, x.OK := fun x hx => hok x (by simp [hx])
    cases it with
    | hdr l k v =>
      have hh : IsHdr l k v := hok (.hdr l k v) (by simp)
      simp only [List.map_cons, List.cons_append, headerL, AItem.line, step_hdr tgt h hh, ownOf, applyOwn]
      rw [ih hr]
    | cmt l =>
      have hc : IsComment l := hok (.cmt l) (by simp)
      simp only [List.map_cons, List.cons_append, headerL, AItem.line, step_comment tgt h hc, ownOf]
      rw [ih hr]

theorem headerL_fillers (cfg : Cfg) (G X : List Bytes) (hG : ∀ l ∈ G, IsFiller l)
    (hsep : X = [] ∨ ∃ l ∈ G, IsBlank l) (tgt : Target) (h : Heap) :
    ∃ G', (∀ l ∈ G', IsFiller l) ∧ headerL cfg (G ++ X) tgt h = (none, G' ++ X, tgt, h) := by
  induction G with
  | nil =>
    rcases hsep with hx | ⟨l, hl, _⟩
    · subst hx; exact ⟨[], by simp, rfl⟩
    · cases hl
  | cons g G1 ih =>
    rcases hG g (by simp) with hb | hc
    · exact ⟨G1, fun l hl => hG l (by simp [hl]), by simp [headerL, step_blank tgt h hb]⟩
    · have hsep' : X = [] ∨ ∃ l ∈ G1, IsBlank l := by
        rcases hsep with hx | ⟨l, hl, hbl⟩
        · exact Or.inl hx
        · simp at hl
          rcases hl with rfl | hl
          · exact (blank_not_comment hbl hc).elim
          · exact Or.inr ⟨l, hl, hbl⟩
      obtain ⟨G', g1, g2⟩ := ih (fun l hl => hG l (by simp [hl])) hsep'
      exact ⟨G', g1, by simp only [List.cons_append, headerL, step_comment tgt h hc]; exact g2⟩

theorem ownOf_cmts (C : List Bytes) (its : List AItem) : ownOf (C.map AItem.cmt ++ its) = ownOf its := by
  induction C with
  | nil => rfl
  | cons c r ih => exact ih

theorem items_split (items : List AItem) :
    ∃ (C : List Bytes) (its : List AItem), items = C.map AItem.cmt ++ its ∧
      (its = [] ∨ ∃ l k v its2, its = AItem.hdr l k v :: its2) := by
  induction items with
  | nil => exact ⟨[], [], rfl, Or.inl rfl⟩
  | cons it r ih =>
    cases it with
    | hdr l k v => exact ⟨[], _, rfl, Or.inr ⟨l, k, v, r, rfl⟩⟩
    | cmt l =>
      obtain ⟨C, its, h1, h3⟩ := ih
      exact ⟨l :: C, its, by rw [h1]; rfl, h3⟩

structure ABlock where
  lead  : List Bytes                          -- raw filler lines before the request line
  req   : Bytes
  m     : Bytes
  u     : Bytes
  items : List AItem
  body  : Option (Bytes × Bytes × Bytes)      -- raw line, path, content

def ABlock.bodyLines (b : ABlock) : List Bytes := b.body.toList.map (·.1)

def ABlock.reqOn (b : ABlock) : List Bytes := b.req :: (b.items.map AItem.line ++ b.bodyLines)

structure ABlock.OK (cfg : Cfg) (b : ABlock) : Prop where
  lead : ∀ l ∈ b.lead, IsFiller l
  req : IsReq cfg b.req b.m b.u
  items : ∀ it ∈ b.items, it.OK
  body : ∀ x, b.body = some x → IsBody cfg x.1 x.2.1 x.2.2

/-- the target a block yields when decoded in heap `h`, and the heap afterwards -/
def ABlock.result (cfg : Cfg) (b : ABlock) (h : Heap) : Target × Heap :=
  ({ method := b.m, url := b.u,
     body := match b.body with
       | some x => x.2.2
       | none => cfg.body
     header := (built cfg h (ownOf b.items)).1 },
   (built cfg h (ownOf b.items)).2)

theorem headerL_tail {cfg : Cfg} {b : ABlock} (hb : b.OK cfg) (G X : List Bytes) (hG : ∀ l ∈ G, IsFiller l)
    (hcond : b.body ≠ none ∨ X = [] ∨ ∃ l ∈ G, IsBlank l) (tgt : Target) (hh : Heap) :
    ∃ G', (∀ l ∈ G', IsFiller l) ∧
      headerL cfg (b.bodyLines ++ (G ++ X)) tgt hh =
        (none, G' ++ X, { tgt with body := match b.body with | some x => x.2.2 | none => tgt.body }, hh) := by
  cases hbody : b.body with
  | some x =>
    refine ⟨G, hG, ?_⟩
    simp [ABlock.bodyLines, hbody, headerL, step_body tgt hh (hb.body x hbody)]
  | none =>
    obtain ⟨G', g1, g2⟩ := headerL_fillers cfg G X hG (hcond.resolve_left (fun hn => hn hbody)) tgt hh
    exact ⟨G', g1, by simpa [ABlock.bodyLines, hbody] using g2⟩

/-- **One block**: in front any filler lines `F`, behind the block filler lines `G` and then
either nothing or a request line.  If the block has header lines but no body line and
something follows, `G` has a blank line. -/
theorem callL_block (cfg : Cfg) (b : ABlock) (hb : b.OK cfg) (F G X : List Bytes) (h : Heap)
    (hF : ∀ l ∈ F, IsFiller l) (hG : ∀ l ∈ G, IsFiller l)
    (hX : X = [] ∨ ∃ l m' u' rest, X = l :: rest ∧ IsReq cfg l m' u')
    (hsep : b.body = none → (∃ it ∈ b.items, it.isHdr = true) → X ≠ [] → ∃ l ∈ G, IsBlank l) :
    ∃ G', (∀ l ∈ G', IsFiller l) ∧
      callL cfg (F ++ (b.reqOn ++ (G ++ X))) h = (.ok (b.result cfg h).1, G' ++ X, (b.result cfg h).2) := by
  -- the peek loop swallows the comment lines `C` in front of the first header line
  obtain ⟨C, its, hitems, hits⟩ := items_split b.items
  have hCl : ∀ l ∈ C, IsComment l :=
    fun l hl => hb.items (.cmt l) (hitems ▸ List.mem_append_left _ (List.mem_map_of_mem hl))
  have hCm : (C.map AItem.cmt).map AItem.line = C := by rw [List.map_map]; exact List.map_id C
  have hown : ownOf b.items = ownOf its := by rw [hitems, ownOf_cmts]
  have hs : skipL (F ++ (b.reqOn ++ (G ++ X))) =
      some (b.m ++ 32 :: b.u, C ++ (its.map AItem.line ++ (b.bodyLines ++ (G ++ X)))) := by
    rw [skipL_fillers F _ hF, ABlock.reqOn, List.cons_append, skipL_req _ hb.req, hitems, List.map_append, hCm,
      List.append_assoc, List.append_assoc]
  have hq := requestLine_req (copyDefaults cfg.hdr h).1 hb.req
  by_cases hbare : its = [] ∧ b.body = none
  · -- nothing but filler lines up to `X`: the call returns the bare request
    obtain ⟨rfl, hbody⟩ := hbare
    have hfill : ∀ l ∈ C ++ G, IsFiller l :=
      fun l hl => (List.mem_append.mp hl).elim (fun hl => Or.inr (hCl l hl)) (hG l)
    obtain ⟨G', g1, g2, g3⟩ := peekL_fillers (cfg := cfg) _ X hfill hX [] (Or.inl rfl)
    rw [ABlock.bodyLines, hbody, List.map_nil, List.nil_append, Option.toList_none, List.map_nil, List.nil_append,
      ← List.append_assoc C] at hs
    refine ⟨G', g1, ?_⟩
    rw [callL_returns hs hq g3, g2]
    simp only [ABlock.result, hown, hbody, built, applyOwn, ownOf]
  · -- the peek loop stops at `p`, the first header line or the body line, and the header loop starts there
    obtain ⟨p, rest, hp, c, t, ht, hc, hnot⟩ : ∃ p rest, its.map AItem.line ++ (b.bodyLines ++ (G ++ X)) = p :: rest ∧
        ∃ c t, trimSpace p = c :: t ∧ c ≠ 35 ∧ returnsAfterPeek (trimSpace p) = false := by
      rcases hits with rfl | ⟨l, k, v, its2, rfl⟩
      · cases hbody : b.body with
        | none => exact absurd ⟨rfl, hbody⟩ hbare
        | some x =>
          have hx := hb.body x hbody
          exact ⟨x.1, G ++ X, by rw [ABlock.bodyLines, hbody]; rfl, 64, x.2.1, hx.1, by decide, returns_body hx⟩
      · have hh : IsHdr l k v := hb.items (.hdr l k v) (hitems ▸ List.mem_append_right _ (List.mem_cons_self ..))
        obtain ⟨c, t, ht, hc⟩ := hdr_trim_head hh
        exact ⟨l, _, rfl, c, t, ht, hc, returns_hdr hh⟩
    have hpeek : peekL (C ++ (its.map AItem.line ++ (b.bodyLines ++ (G ++ X)))) [] =
        (trimSpace p, its.map AItem.line ++ (b.bodyLines ++ (G ++ X))) := by
      rw [peekL_comments _ hCl, hp, peekL_stays _ _ ht hc]
    have hcond : b.body ≠ none ∨ X = [] ∨ ∃ l ∈ G, IsBlank l := by
      by_cases hbn : b.body = none
      · by_cases hx : X = []
        · exact Or.inr (Or.inl hx)
        · rcases hits with rfl | ⟨l, k, v, its2, rfl⟩
          · exact absurd ⟨rfl, hbn⟩ hbare
          · exact Or.inr (Or.inr (hsep hbn ⟨.hdr l k v, hitems ▸ List.mem_append_right _ (List.mem_cons_self ..), rfl⟩ hx))
      · exact Or.inl hbn
    obtain ⟨G', g1, g2⟩ := headerL_tail hb G X hG hcond
      { method := b.m, url := b.u, body := cfg.body, header := (built cfg h (ownOf its)).1 } (built cfg h (ownOf its)).2
    refine ⟨G', g1, (callL_headers (e := none) hs hq (by rw [hpeek]; exact hnot) ?_).trans (by rw [ABlock.result, hown])⟩
    rw [hpeek, headerL_items cfg its (fun it hit => hb.items it (hitems ▸ List.mem_append_right _ hit))]
    exact g2

theorem callL_exhausted (cfg : Cfg) (F : List Bytes) (h : Heap) (hF : ∀ l ∈ F, IsFiller l) :
    callL cfg F h = (.error eNoTargets, [], h) :=
  callL_none (by simpa [skipL] using skipL_fillers F [] hF)

end Vegeta.Proofs.HTTPGrammar
