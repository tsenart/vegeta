/-
Proofs about the `encoding/base64.StdEncoding` model: alphabet inversion, the character
set of encoded text, and `DecodeString ∘ EncodeToString = id` on byte strings.
-/
import Vegeta.Model.CodecResult
namespace Vegeta.Proofs.Codec
open Vegeta.Go Vegeta.Model.Codec

def isB64Char (c : Nat) : Bool :=
  (65 ≤ c && c ≤ 90) || (97 ≤ c && c ≤ 122) || (48 ≤ c && c ≤ 57) || c == 43 || c == 47 || c == 61

theorem b64Val_b64Char (v : Nat) (h : v < 64) : b64Val (b64Char v) = some v := by
  have key : ∀ v, v < 64 → b64Val (b64Char v) = some v := by decide
  exact key v h

theorem b64Char_range (v : Nat) :
    (65 ≤ b64Char v ∧ b64Char v ≤ 90) ∨ (97 ≤ b64Char v ∧ b64Char v ≤ 122) ∨
    (48 ≤ b64Char v ∧ b64Char v ≤ 57) ∨ b64Char v = 43 ∨ b64Char v = 47 := by
  unfold b64Char
  repeat' split
  all_goals omega

theorem b64Char_ne_pad (v : Nat) : b64Char v ≠ 61 := by
  have := b64Char_range v
  omega

theorem isB64Char_b64Char (v : Nat) : isB64Char (b64Char v) = true := by
  have h := b64Char_range v
  unfold isB64Char
  simp only [Bool.or_eq_true, Bool.and_eq_true, decide_eq_true_eq, beq_iff_eq]
  omega

theorem isB64Char_pad : isB64Char 61 = true := by decide

theorem b64Encode_chars (b : Bytes) : ∀ c ∈ b64Encode b, isB64Char c = true := by
  fun_induction b64Encode b with
  | case1 => exact fun _ h => nomatch h
  | case2 a =>
    simp only [List.forall_mem_cons]
    exact ⟨isB64Char_b64Char _, isB64Char_b64Char _, isB64Char_pad, isB64Char_pad, fun _ h => nomatch h⟩
  | case3 a b =>
    simp only [List.forall_mem_cons]
    exact ⟨isB64Char_b64Char _, isB64Char_b64Char _, isB64Char_b64Char _, isB64Char_pad,
      fun _ h => nomatch h⟩
  | case4 a b c r ih =>
    simp only [List.forall_mem_cons]
    exact ⟨isB64Char_b64Char _, isB64Char_b64Char _, isB64Char_b64Char _, isB64Char_b64Char _, ih⟩

theorem b64Encode_eq_nil (b : Bytes) : b64Encode b = [] ↔ b = [] := by
  constructor
  · intro h
    match b, h with
    | [], _ => rfl
    | [_], h => simp [b64Encode] at h
    | [_, _], h => simp [b64Encode] at h
    | _ :: _ :: _ :: _, h => simp [b64Encode] at h
  · intro h; subst h; rfl

theorem isB64Char_safe (c : Nat) (h : isB64Char c = true) :
    c ≠ 10 ∧ c ≠ 13 ∧ c ≠ 34 ∧ c ≠ 44 ∧ c ≠ 92 ∧ 32 ≤ c ∧ c < 128 := by
  unfold isB64Char at h
  simp only [Bool.or_eq_true, Bool.and_eq_true, decide_eq_true_eq, beq_iff_eq] at h
  omega

/-- no byte of base64 text is CR/LF, a quote, a comma, a backslash or below 0x20 -/
theorem b64Encode_safe (b : Bytes) :
    ∀ c ∈ b64Encode b, c ≠ 10 ∧ c ≠ 13 ∧ c ≠ 34 ∧ c ≠ 44 ∧ c ≠ 92 ∧ 32 ≤ c ∧ c < 128 :=
  fun c hc => isB64Char_safe c (b64Encode_chars b c hc)

/-- base64 text is a JSON string body as it stands -/
theorem b64Encode_plain (b : Bytes) : ∀ c ∈ b64Encode b, c ≠ 34 ∧ c ≠ 92 :=
  fun c hc => ⟨(b64Encode_safe b c hc).2.2.1, (b64Encode_safe b c hc).2.2.2.2.1⟩

/-- encoded text contains no CR/LF, so the CR/LF filter of `Decode` leaves it unchanged -/
theorem b64Encode_filter_notCRLF (b : Bytes) : (b64Encode b).filter notCRLF = b64Encode b := by
  rw [List.filter_eq_self]
  intro c hc
  have h := b64Encode_safe b c hc
  simp only [notCRLF, Bool.and_eq_true, bne_iff_ne, ne_eq]
  exact ⟨h.1, h.2.1⟩

/-- three bytes make four sextets, from which they are recovered; a final group of one or two bytes is the
case `b = c = 0` resp. `c = 0` -/
theorem b64_sextets (a b c : Nat) (ha : a < 256) (hb : b < 256) (hc : c < 256) :
    a / 4 < 64 ∧ a % 4 * 16 + b / 16 < 64 ∧ b % 16 * 4 + c / 64 < 64 ∧ c % 64 < 64 ∧
    a / 4 * 4 + (a % 4 * 16 + b / 16) / 16 = a ∧
    (a % 4 * 16 + b / 16) % 16 * 16 + (b % 16 * 4 + c / 64) / 4 = b ∧
    (b % 16 * 4 + c / 64) % 4 * 64 + c % 64 = c := by
  omega

theorem b64DecodeQ_b64Encode (b : Bytes) (h : ∀ x ∈ b, x < 256) :
    b64DecodeQ (b64Encode b) = .ok b := by
  fun_induction b64Encode b with
  | case1 => rfl
  | case2 a =>
    obtain ⟨h0, h1, _, _, e1, _⟩ := b64_sextets a 0 0 (h a (by simp)) (by decide) (by decide)
    simp only [Nat.zero_div, Nat.add_zero] at h1 e1
    simp only [b64DecodeQ, b64Val_b64Char _ h0, b64Val_b64Char _ h1, and_self, if_true, e1]
  | case3 a b =>
    obtain ⟨h0, h1, h2, _, e1, e2, _⟩ := b64_sextets a b 0 (h a (by simp)) (h b (by simp)) (by decide)
    simp only [Nat.zero_div, Nat.add_zero] at h2 e2
    simp only [b64DecodeQ, b64Val_b64Char _ h0, b64Val_b64Char _ h1, b64Val_b64Char _ h2,
      b64Char_ne_pad, if_false, if_true, e1, e2]
  | case4 a b c r ih =>
    obtain ⟨h0, h1, h2, h3, e1, e2, e3⟩ :=
      b64_sextets a b c (h a (by simp)) (h b (by simp)) (h c (by simp))
    simp only [b64DecodeQ, b64Val_b64Char _ h0, b64Val_b64Char _ h1, b64Val_b64Char _ h2,
      b64Val_b64Char _ h3, b64Char_ne_pad, if_false, ih fun x hx => h x (by simp [hx]), e1, e2, e3]

/-- base64.StdEncoding: DecodeString ∘ EncodeToString = id -/
theorem b64Decode_b64Encode (b : Bytes) (h : ∀ x ∈ b, x < 256) :
    b64Decode (b64Encode b) = .ok b := by
  unfold b64Decode
  rw [b64Encode_filter_notCRLF]
  exact b64DecodeQ_b64Encode b h

-- "aGVsbG8=" ↦ "hello"
example : b64Decode [97, 71, 86, 115, 98, 71, 56, 61] = .ok [104, 101, 108, 108, 111] := by decide
-- "hello" ↦ "aGVsbG8="
example : b64Encode [104, 101, 108, 108, 111] = [97, 71, 86, 115, 98, 71, 56, 61] := by decide
-- "aGVs\r\nbG8=" ↦ "hello" (embedded CR LF is ignored)
example : b64Decode [97, 71, 86, 115, 13, 10, 98, 71, 56, 61] = .ok [104, 101, 108, 108, 111] := by
  decide
-- "aGVsbG=" : input ends inside a quantum
example : b64Decode [97, 71, 86, 115, 98, 71, 61] = .error eBase64 := by decide
-- "aA==" ↦ "h" ; "aGk=" ↦ "hi"
example : b64Decode [97, 65, 61, 61] = .ok [104] := by decide
example : b64Decode [97, 71, 107, 61] = .ok [104, 105] := by decide
-- "aA==aA==" : padding must end the input
example : b64Decode [97, 65, 61, 61, 97, 65, 61, 61] = .error eBase64 := by decide
-- "a!==" : character outside the alphabet
example : b64Decode [97, 33, 61, 61] = .error eBase64 := by decide
-- empty input
example : b64Decode [] = .ok [] := by decide
example : b64Encode [255, 254, 253] = [47, 47, 55, 57] := by decide

end Vegeta.Proofs.Codec
