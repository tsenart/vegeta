/-
The order `Vegeta.Go.F64.le` (core Lean only): on finite values it is the order of the represented numbers, seen by
scaling both to a common exponent (`le_fin`), hence transitive; and comparing any value — NaN and ±Inf included —
against finite bounds is monotone in the bound (`le_mono_right`, what Props/C20 needs for cumulative buckets).
-/
import Vegeta.Go.SoftF64
namespace Vegeta.Proofs.F64Order
open Vegeta.Go Vegeta.Go.F64

/-- signed significand -/
def sm (x : F64) : Int := if x.sign then -(x.mant : Int) else (x.mant : Int)

/-- the finite value `x`, scaled by `2^(-E)` (an integer when `E ≤ x.expo`) -/
def sc (x : F64) (E : Int) : Int := sm x * 2 ^ (x.expo - E).toNat

theorem sc_rescale (x : F64) (E m : Int) (h1 : E ≤ m) (h2 : m ≤ x.expo) :
    sc x E = sc x m * 2 ^ (m - E).toNat := by
  unfold sc
  have : (x.expo - E).toNat = (x.expo - m).toNat + (m - E).toNat := by omega
  rw [this, Int.pow_add, Int.mul_assoc]

theorem le_fin (x y : F64) (hx : x.isFinite = true) (hy : y.isFinite = true) (E : Int)
    (h1 : E ≤ x.expo) (h2 : E ≤ y.expo) : F64.le x y = true ↔ sc x E ≤ sc y E := by
  have hx' : (x.bexp == 2047) = false := by simpa [isFinite] using hx
  have hy' : (y.bexp == 2047) = false := by simpa [isFinite] using hy
  have hm1 : min x.expo y.expo ≤ x.expo := Int.min_le_left _ _
  have hm2 : min x.expo y.expo ≤ y.expo := Int.min_le_right _ _
  have hE : E ≤ min x.expo y.expo := by omega
  rw [sc_rescale x E _ hE hm1, sc_rescale y E _ hE hm2, Int.mul_le_mul_iff_of_pos_right (Int.pow_pos (by decide))]
  -- both sides compare the signed significands scaled to the exponent `min x.expo y.expo`
  have hs : ∀ (s : Bool) (m p : Int), (if s = true then -m else m) * p = if s = true then -(m * p) else m * p := by
    intro s m p; cases s <;> simp [Int.neg_mul]
  simp only [F64.le, isNaN, isInf, hx', hy', Bool.false_and, Bool.or_self, Bool.false_eq_true, ↓reduceIte, cmpKey,
    sc, sm, hs]
  exact decide_eq_true_iff

theorem le_trans_fin (x a b : F64) (hx : x.isFinite = true) (ha : a.isFinite = true) (hb : b.isFinite = true)
    (h1 : F64.le x a = true) (h2 : F64.le a b = true) : F64.le x b = true := by
  have e1 : min x.expo (min a.expo b.expo) ≤ x.expo := Int.min_le_left _ _
  have e2 : min x.expo (min a.expo b.expo) ≤ a.expo := Int.le_trans (Int.min_le_right _ _) (Int.min_le_left _ _)
  have e3 : min x.expo (min a.expo b.expo) ≤ b.expo := Int.le_trans (Int.min_le_right _ _) (Int.min_le_right _ _)
  rw [le_fin x a hx ha _ e1 e2] at h1
  rw [le_fin a b ha hb _ e2 e3] at h2
  rw [le_fin x b hx hb _ e1 e3]
  exact Int.le_trans h1 h2

/-- `≤` against finite bounds is monotone in the bound, for every left operand (NaN and ±Inf included). -/
theorem le_mono_right (x a b : F64) (ha : a.isFinite = true) (hb : b.isFinite = true)
    (hab : F64.le a b = true) (h : F64.le x a = true) : F64.le x b = true := by
  by_cases hx : x.isFinite = true
  · exact le_trans_fin x a b hx ha hb h hab
  · have hx' : (x.bexp == 2047) = true := by simpa [isFinite] using hx
    have ha' : (a.bexp == 2047) = false := by simpa [isFinite] using ha
    have hb' : (b.bexp == 2047) = false := by simpa [isFinite] using hb
    simp only [F64.le, isNaN, isInf, hx', ha', hb', Bool.true_and, Bool.false_and, Bool.or_false] at h ⊢
    by_cases hf : (x.frac != 0) = true
    · simp [hf] at h
    · have hfz : x.frac = 0 := by simpa using hf
      simp [hfz] at h ⊢
      exact h

end Vegeta.Proofs.F64Order
