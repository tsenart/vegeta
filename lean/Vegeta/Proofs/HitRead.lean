/-
What the functions of `Model/Hit` do, case by case, so that proofs about `hit` need not unfold them:
one `Read` on a response body, one round of the read loop `pump`, `Header.Set` on the association
list that stands for a header map, `Target.Request`, the length of `hitMany`.  Stated in the
functions' namespace.
-/
import Vegeta.Model.Hit
namespace Vegeta.Model.Hit
open Vegeta.Go

theorem read_nil (s : BodySt) (want : Option Nat) (hd : s.data = []) :
    s.read want = (([], some s.fails), { s with log := s.log ++ [termEv s.fails] }) := by
  rw [BodySt.read, if_pos (by rw [hd]; rfl)]

theorem read_last (s : BodySt) (want : Option Nat) (hd : s.data ≠ [])
    (hn : s.readLen want = s.data.length) (he : s.endWithData = true) :
    s.read want = ((s.data, some s.fails),
      { s with data := [], chunks := s.chunks.tail,
               log := s.log ++ [.read (s.readLen want), termEv s.fails] }) := by
  rw [BodySt.read, if_neg (mt List.eq_nil_of_length_eq_zero hd), if_pos ⟨hn, he⟩]

theorem read_part (s : BodySt) (want : Option Nat) (hd : s.data ≠ [])
    (h : ¬(s.readLen want = s.data.length ∧ s.endWithData = true)) :
    s.read want = ((s.data.take (s.readLen want), none),
      { s with data := s.data.drop (s.readLen want), chunks := s.chunks.tail,
               log := s.log ++ [.read (s.readLen want)] }) := by
  rw [BodySt.read, if_neg (mt List.eq_nil_of_length_eq_zero hd), if_neg h]

theorem readLen_bounds (s : BodySt) (want : Option Nat) (hw : want ≠ some 0) (hd : s.data ≠ []) :
    1 ≤ s.readLen want ∧ s.readLen want ≤ s.data.length ∧ ∀ w, want = some w → s.readLen want ≤ w := by
  have hlen : 1 ≤ s.data.length := List.length_pos_iff.mpr hd
  have hc : 1 ≤ s.chunk := by
    unfold BodySt.chunk; split
    · exact hlen
    · split
      · exact Nat.le_refl 1
      · exact Nat.pos_of_ne_zero ‹_›
  cases want with
  | none => exact ⟨Nat.le_min.mpr ⟨hc, hlen⟩, Nat.min_le_right _ _, fun w h => absurd h.symm (Option.some_ne_none w)⟩
  | some w =>
    have hw1 : 1 ≤ w := Nat.pos_of_ne_zero fun h => hw (h ▸ rfl)
    refine ⟨Nat.le_min.mpr ⟨Nat.le_min.mpr ⟨hc, hw1⟩, hlen⟩, Nat.min_le_right _ _, fun w' h => ?_⟩
    cases h
    exact Nat.le_trans (Nat.min_le_left _ _) (Nat.min_le_right _ _)

theorem pump_lim_zero (fuel : Nat) (s : BodySt) (acc : Bytes) :
    pump (fuel + 1) (some 0) s acc = ((acc, false), s) := by
  rw [pump, if_pos rfl]

theorem pump_done {fuel : Nat} {lim : Option Nat} {s s' : BodySt} {acc bs : Bytes} {e : Bool}
    (h0 : lim ≠ some 0) (hr : s.read lim = ((bs, some e), s')) :
    pump (fuel + 1) lim s acc = ((acc ++ bs, e), s') := by
  rw [pump, if_neg h0, hr]

theorem pump_more {fuel : Nat} {lim : Option Nat} {s s' : BodySt} {acc bs : Bytes}
    (h0 : lim ≠ some 0) (hr : s.read lim = ((bs, none), s')) :
    pump (fuel + 1) lim s acc = pump fuel (lim.map (· - bs.length)) s' (acc ++ bs) := by
  rw [pump, if_neg h0, hr]

theorem lookup_hSet (h : Header) (k k2 v : Bytes) :
    hLookup (hSet h k v) k2 = if k = k2 then some [v] else hLookup h k2 := by
  induction h with
  | nil => rfl
  | cons e r ih =>
    unfold hSet
    by_cases hk : e.1 = k
    · rw [if_pos hk]; unfold hLookup; rw [hk]
      by_cases hk2 : k = k2
      · rw [if_pos hk2, if_pos hk2]
      · rw [if_neg hk2, if_neg hk2, if_neg hk2]
    · rw [if_neg hk]; unfold hLookup; rw [ih]
      by_cases hk2 : e.1 = k2
      · rw [if_pos hk2, if_pos hk2, if_neg (hk2 ▸ Ne.symm hk)]
      · rw [if_neg hk2, if_neg hk2]

theorem mem_hSet (h : Header) (k v : Bytes) (e : Bytes × List Bytes) :
    (e ∈ h → e.1 ≠ k → e ∈ hSet h k v) ∧ (e ∈ hSet h k v → e ∈ h ∨ e = (k, [v])) := by
  induction h with
  | nil => exact ⟨fun hm => absurd hm List.not_mem_nil, fun hm => Or.inr (List.mem_singleton.mp hm)⟩
  | cons a r ih =>
    unfold hSet
    split
    · next hk =>
      simp only [List.mem_cons]
      exact ⟨fun hm hne => hm.elim (fun h1 => absurd (h1 ▸ hk) hne) Or.inr,
        fun hm => hm.elim Or.inr fun h1 => Or.inl (Or.inr h1)⟩
    · simp only [List.mem_cons]
      exact ⟨fun hm hne => hm.imp id fun h1 => ih.1 h1 hne,
        fun hm => hm.elim (fun h1 => Or.inl (Or.inl h1)) fun h1 => (ih.2 h1).imp Or.inr id⟩

theorem hSet_absent (h : Header) (k v : Bytes) (hk : hLookup h k = none) : hSet h k v = h ++ [(k, [v])] := by
  induction h with
  | nil => rfl
  | cons e r ih =>
    obtain ⟨k', vs⟩ := e
    unfold hLookup at hk
    by_cases hkk : k' = k
    · rw [if_pos hkk] at hk; cases hk
    · rw [if_neg hkk] at hk
      unfold hSet
      rw [if_neg hkk, ih hk]; rfl

/-- the request `Target.Request` returns when it succeeds (`request_ok`) -/
def built (t : Target) (u : UrlInfo) : RequestSeen :=
  { method := if t.method.isEmpty then methodGet else t.method, url := u.str,
    host := if hGet t.header keyHost ≠ [] then hGet t.header keyHost else u.host,
    body := if t.body.length ≠ 0 then some t.body else none,
    contentLength := t.body.length, transferEncoding := [], header := t.header }

theorem request_cases (t : Target) (u : UrlInfo) :
    request t u = .error u.errText ∨ request t u = .ok (built t u) := by
  have hmap : t.header.map (fun (x : Bytes × List Bytes) => (x.fst, x.snd)) = t.header := List.map_id' _
  unfold request
  simp only [hmap]
  by_cases h1 : (!validMethod (if t.method.isEmpty = true then methodGet else t.method)) = true
  · rw [if_pos h1]; exact Or.inl rfl
  · rw [if_neg h1]
    by_cases h2 : (!u.ok) = true
    · rw [if_pos h2]; exact Or.inl rfl
    · rw [if_neg h2]; exact Or.inr rfl

theorem request_ok {t : Target} {u : UrlInfo} {req0 : RequestSeen} (h : request t u = .ok req0) :
    req0 = built t u := by
  rcases request_cases t u with h' | h' <;> rw [h'] at h
  · cases h
  · exact (Except.ok.inj h).symm

theorem hitMany_length (cfg : Cfg) : ∀ (calls : List Call) (start : Nat),
    (hitMany cfg start calls).length = calls.length := by
  intro calls
  induction calls with
  | nil => intro _; rfl
  | cons a r ih => intro start; exact congrArg (· + 1) (ih _)

end Vegeta.Model.Hit
