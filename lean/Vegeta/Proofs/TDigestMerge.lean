/-
What `process` and `Add` of Model/TDigestMerge.lean do to the sizes of the digest, in any arithmetic and for any
limit function: `process` leaves the two buffer bounds alone and, with a sort that keeps the length, never
lengthens the centroid list; `Add` lengthens it by at most one.  Core Lean only.
-/
import Vegeta.Model.TDigestMerge
namespace Vegeta.Proofs.TDigestMerge
open Vegeta.Go Vegeta.Model.Quantile Vegeta.Model.TDigestMerge

variable {F : Type} [QOps F]

theorem mergeLoop_length_le (next : F → F → F) (W : F) : ∀ (rest acc : List (Centroid F)) (cur : Centroid F) (soFar limit : F),
    (mergeLoop next W acc cur soFar limit rest).length ≤ acc.length + 1 + rest.length := by
  intro rest
  induction rest with
  | nil => intro acc cur _ _; simp [mergeLoop]
  | cons c rest ih =>
    intro acc cur soFar limit
    simp only [mergeLoop]
    split
    · have := ih acc (centroidAdd cur c) (QOps.add soFar c.weight) limit
      simp only [List.length_cons]; omega
    · have := ih (cur :: acc) c (QOps.add soFar c.weight) (next soFar W)
      simp only [List.length_cons] at this ⊢; omega

theorem process_sizes (lim : Lim F) (sortBy : List (Centroid F) → List (Centroid F)) (s s' : TD F)
    (h : process lim sortBy s = .ok s') : s'.maxProcessed = s.maxProcessed ∧ s'.maxUnprocessed = s.maxUnprocessed := by
  unfold process at h
  split at h
  · split at h
    · cases h
    · simp only at h
      split at h
      · cases h; exact ⟨rfl, rfl⟩
      · cases h
  · cases h; exact ⟨rfl, rfl⟩

theorem process_count_le (lim : Lim F) (sortBy : List (Centroid F) → List (Centroid F))
    (hlen : ∀ l, (sortBy l).length = l.length) (t t' : TD F) (h : process lim sortBy t = .ok t') :
    t'.processed.length + t'.unprocessed.length ≤ t.processed.length + t.unprocessed.length := by
  unfold process at h
  split at h
  · have hl := hlen (t.unprocessed ++ t.processed)
    split at h
    · cases h
    · rename_i c0 rest hall
      have hm := mergeLoop_length_le lim.next (QOps.add t.processedWeight t.unprocessedWeight) rest [] c0 c0.weight
        (lim.init (QOps.add t.processedWeight t.unprocessedWeight))
      rw [hall, List.length_cons, List.length_append] at hl
      simp only at h
      split at h
      · cases h
        simp only [List.length_nil] at hm ⊢
        omega
      · cases h
  · cases h; exact Nat.le_refl _

theorem add_count_le (lim : Lim F) (sortBy : List (Centroid F) → List (Centroid F))
    (hlen : ∀ l, (sortBy l).length = l.length) (s t : TD F) (x w : F) (h : add lim sortBy s x w = .ok t) :
    t.processed.length + t.unprocessed.length ≤ s.processed.length + s.unprocessed.length + 1 := by
  unfold add at h
  split at h
  · cases h; omega
  · simp only at h
    split at h
    · have := process_count_le lim sortBy hlen _ t h
      simp only [List.length_append, List.length_singleton] at this
      omega
    · cases h
      simp only [List.length_append, List.length_singleton]
      omega

end Vegeta.Proofs.TDigestMerge
