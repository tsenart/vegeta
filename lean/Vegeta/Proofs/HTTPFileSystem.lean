/-
Body files are read at decode time: the http targeter as a function of the targets file and
of the file system state AT EACH CALL.  `fss i` is the file system call number `i` sees; a file
system that does not change is the instance `fss = fun _ => cfg.fs`.
-/
import Vegeta.Proofs.HTTPRender
namespace Vegeta.Proofs.HTTPFileSystem
open Vegeta.Go
open Vegeta.Model.Histogram (trimSpace)
open Vegeta.Model.HTTPTargets
open Vegeta.Proofs.HTTPTargetsL Vegeta.Proofs.HTTPHeap Vegeta.Proofs.TargetText Vegeta.Proofs.HTTPGrammar
open Vegeta.Proofs.HTTPRender
open Vegeta.Spec.TargetGrammar hiding Bytes

abbrev FS := Bytes → Option Bytes

/-- the same targeter configuration, looking at file system `fs` -/
def withFS (cfg : Cfg) (fs : FS) : Cfg := { cfg with fs := fs }

/-- `n` calls starting with call number `i`; call `j` reads body files from `fss j` -/
def callsHF (cfg : Cfg) (fss : Nat → FS) : Nat → Nat → St → List (Outcome Target × Heap) × St
  | _, 0, st => ([], st)
  | i, n + 1, st =>
    let (r, st1) := call (withFS cfg (fss i)) st
    let (rs, st2) := callsHF cfg fss (i + 1) n st1
    ((r, st1.heap) :: rs, st2)

/-- with an unchanging file system this is `callsH` -/
theorem callsHF_const (cfg : Cfg) : ∀ (n i : Nat) (st : St), callsHF cfg (fun _ => cfg.fs) i n st = callsH cfg n st := by
  intro n
  induction n with
  | zero => intro i st; rfl
  | succ n ih => intro i st; simp only [callsHF, callsH, withFS, ih]

theorem isReq_withFS {cfg : Cfg} {fs : FS} {l m u : Bytes} (h : IsReq (withFS cfg fs) l m u) (fs' : FS) :
    IsReq (withFS cfg fs') l m u := ⟨h.trim, h.mne, h.upper, h.valid⟩

theorem result_withFS (cfg : Cfg) (fs : FS) (b : ABlock) (h : Heap) : b.result (withFS cfg fs) h = b.result cfg h := rfl

theorem callsHF_step {cfg : Cfg} {fss : Nat → FS} {i : Nat} {st : St} {ls ls1 : List Bytes} {h1 : Heap} {r : Outcome Target}
    (n : Nat) (he : eff st.ps = ls) (hc : callL (withFS cfg (fss i)) ls st.heap = (r, ls1, h1)) :
    ∃ ps', (callsHF cfg fss i (n + 1) st).1 = (r, h1) :: (callsHF cfg fss (i + 1) n { ps := ps', heap := h1 }).1 ∧
      eff ps' = ls1 := by
  obtain ⟨ps', c1, c2⟩ := call_refines (withFS cfg (fss i)) st
  rw [he, hc] at c1 c2
  exact ⟨ps', by simp only [callsHF, c1], c2⟩

theorem callsHF_exhausted (cfg : Cfg) (fss : Nat → FS) : ∀ (k i : Nat) (st : St), (∀ l ∈ eff st.ps, IsFiller l) →
    (callsHF cfg fss i k st).1 = List.replicate k (.error eNoTargets, st.heap) := by
  intro k
  induction k with
  | zero => intro i st _; rfl
  | succ k ih =>
    intro i st hF
    obtain ⟨ps', h1, h2⟩ := callsHF_step k rfl (callL_exhausted (withFS cfg (fss i)) _ st.heap hF)
    rw [h1, ih (i + 1) _ (by rw [h2]; nofun), List.replicate_succ]

/-- block `j` is legal with respect to the file system call `i + j` sees (its body file exists then) -/
def LegalFrom (cfg : Cfg) (fss : Nat → FS) : Nat → List Block → Prop
  | _, [] => True
  | i, b :: r => b.Legal cfg.validURI (fss i) ∧ LegalFrom cfg fss (i + 1) r

theorem legalFrom_mem (cfg : Cfg) (fss : Nat → FS) : ∀ (bs : List Block) (i : Nat), LegalFrom cfg fss i bs →
    ∀ b ∈ bs, ∃ v fs, b.Legal v fs := by
  intro bs
  induction bs with
  | nil => intro i _ b hb; cases hb
  | cons x r ih =>
    intro i hl b hb
    rcases List.mem_cons.mp hb with rfl | hb
    · exact ⟨_, _, hl.1⟩
    · exact ih (i + 1) hl.2 b hb

theorem legalFrom_const (cfg : Cfg) : ∀ (bs : List Block) (i : Nat), (∀ b ∈ bs, b.Legal cfg.validURI cfg.fs) →
    LegalFrom cfg (fun _ => cfg.fs) i bs := by
  intro bs
  induction bs with
  | nil => intro i _; trivial
  | cons b r ih => intro i h; exact ⟨h b (by simp), ih (i + 1) (fun x hx => h x (by simp [hx]))⟩

/-- result `j` is an ok target that matches block `j` described with the file system of call `i + j` -/
def DescribedFrom (cfg : Cfg) (h0 : Heap) (fss : Nat → FS) : Nat → List (Outcome Target × Heap) → List Block → Prop
  | _, [], [] => True
  | i, r :: rs, b :: bs =>
    (∃ t, r.1 = .ok t ∧ Matches r.2 t (describe (defaultsOf cfg h0) cfg.body (fss i) b)) ∧ DescribedFrom cfg h0 fss (i + 1) rs bs
  | _, _, _ => False

theorem describedFrom_const (cfg : Cfg) (h0 : Heap) (fs : FS) : ∀ (rs : List (Outcome Target × Heap)) (bs : List Block) (i : Nat),
    DescribedFrom cfg h0 (fun _ => fs) i rs bs →
    ListRel (fun r b => ∃ t, r.1 = .ok t ∧ Matches r.2 t (describe (defaultsOf cfg h0) cfg.body fs b)) rs bs := by
  intro rs
  induction rs with
  | nil => intro bs i h; cases bs with
    | nil => exact ListRel.nil
    | cons b r => exact h.elim
  | cons r rs ih => intro bs i h; cases bs with
    | nil => exact h.elim
    | cons b bs => exact ListRel.cons h.1 (ih bs (i + 1) h.2)

theorem result_matches (cfg : Cfg) (h0 h : Heap) (fs : FS) (b : Block) (wf : WfDefaults cfg h)
    (hdv : ∀ k, defaultsOf cfg h k = defaultsOf cfg h0 k) :
    Matches ((toABlock (withFS cfg fs) b).result cfg h).2 ((toABlock (withFS cfg fs) b).result cfg h).1
      (describe (defaultsOf cfg h0) cfg.body fs b) := by
  refine ⟨rfl, rfl, ?_, fun k => ?_⟩
  · simp only [ABlock.result, toABlock, describe, withFS]
    cases b.body <;> rfl
  · have h2 : ownVals (ownOf (toABlock (withFS cfg fs) b).items) k = ownValues b.headers k := by
      simp only [toABlock, ownOf_toAItem]; rfl
    rw [ABlock.result, built_merge cfg h wf _ k, h2, show (hlookup cfg.hdr k).map (view h) = _ from hdv k]
    rfl

/-- the induction behind `callsHF_render`: the scanner stands at block `b` of call `i`, behind filler lines `F` -/
theorem callsHF_blocks (cfg : Cfg) (h0 : Heap) (fss : Nat → FS) (trail : List Bytes) (htrail : ∀ l ∈ trail, IsFiller l)
    (k : Nat) : ∀ (bs : List Block) (b : Block) (i : Nat) (F : List Bytes) (st : St),
      LegalFrom cfg fss i (b :: bs) → Separated (b :: bs) → (∀ l ∈ F, IsFiller l) →
      WfDefaults cfg st.heap → (∀ key, defaultsOf cfg st.heap key = defaultsOf cfg h0 key) →
      eff st.ps = F ++ ((toABlock (withFS cfg (fss i)) b).reqOn ++ ((bs.flatMap Block.lines).map dropCR ++ trail)) →
      ∃ rs hEnd, (callsHF cfg fss i (k + bs.length + 1) st).1 = rs ++ List.replicate k (.error eNoTargets, hEnd) ∧
        DescribedFrom cfg h0 fss i rs (b :: bs) := by
  intro bs
  induction bs with
  | nil =>
    intro b i F st hl _ hF wf hdv he
    rw [List.length_nil, Nat.add_zero]
    obtain ⟨G', g1, g2⟩ := callL_block _ _ (toABlock_ok (withFS cfg (fss i)) b hl.1) F trail [] st.heap hF htrail
      (Or.inl rfl) (fun _ _ hx => absurd rfl hx)
    simp only [List.append_nil] at g2
    simp only [List.flatMap_nil, List.map_nil, List.nil_append] at he
    obtain ⟨ps', h1, h2⟩ := callsHF_step k he g2
    exact ⟨[(.ok _, _)], _, h1.trans (by rw [callsHF_exhausted cfg fss k (i + 1) _ (by rw [h2]; exact g1)]; rfl),
      ⟨_, rfl, result_matches cfg h0 st.heap (fss i) b wf hdv⟩, trivial⟩
  | cons b' bs' ih =>
    intro b i F st hl hsep hF wf hdv he
    rw [List.length_cons, ← Nat.add_assoc]
    have hb' := toABlock_ok (withFS cfg (fss (i + 1))) b' hl.2.1
    rw [List.flatMap_cons, List.map_append, block_lines_map (withFS cfg (fss (i + 1))) b', List.append_assoc,
      List.append_assoc] at he
    obtain ⟨G', g1, g2⟩ := callL_block _ _ (toABlock_ok (withFS cfg (fss i)) b hl.1) F (toABlock (withFS cfg (fss (i + 1))) b').lead
      ((toABlock (withFS cfg (fss (i + 1))) b').reqOn ++ ((bs'.flatMap Block.lines).map dropCR ++ trail)) st.heap hF hb'.lead
      (Or.inr ⟨_, _, _, _, List.cons_append, isReq_withFS hb'.req _⟩)
      (fun hbn hh _ => lead_blank _ _ b b' hl.2.1.1 hsep.1 hbn hh)
    obtain ⟨ps', h1, h2⟩ := callsHF_step (k + bs'.length + 1) he g2
    have hext : Extends st.heap ((toABlock (withFS cfg (fss i)) b).result (withFS cfg (fss i)) st.heap).2 :=
      (built_inv cfg st.heap _).ext
    obtain ⟨rs, hEnd, r1, r2⟩ := ih b' (i + 1) G' { ps := ps', heap := _ } hl.2 hsep.2 g1 (wf_extends hext wf)
      (fun key => (defaultsOf_extends hext wf key).trans (hdv key)) h2
    exact ⟨(.ok _, _) :: rs, hEnd, h1.trans (by rw [r1]; rfl), ⟨_, rfl, result_matches cfg h0 st.heap (fss i) b wf hdv⟩, r2⟩

/-- **Rendered documents**: call `j` returns block `j`'s target as described with the file system of
that call; the calls after the last block report `ErrNoTargets`. -/
theorem callsHF_render (cfg : Cfg) (h0 : Heap) (d : Doc) (k : Nat) (fss : Nat → FS)
    (hl : LegalFrom cfg fss 0 d.blocks) (htr : ∀ f ∈ d.trail, f.Legal) (hsep : Separated d.blocks)
    (wf : WfDefaults cfg h0) :
    ∃ rs hEnd,
      (callsHF cfg fss 0 (d.blocks.length + k) { ps := PS.init (render d), heap := h0 }).1 =
        rs ++ List.replicate k (.error eNoTargets, hEnd) ∧
      DescribedFrom cfg h0 fss 0 rs d.blocks := by
  obtain ⟨d', hb, ht, hend, hr⟩ := render_normal d
  have htr' : ∀ f ∈ d'.trail, f.Legal := fun f hf => htr f (ht f hf)
  have htrail : ∀ l ∈ (d'.trail.map fun f => dropCR f.line), IsFiller l := by
    intro l hl'
    obtain ⟨f, hf, rfl⟩ := List.mem_map.mp hl'
    exact filler_class f (htr' f hf)
  have he : eff (PS.init (render d)) = (d.blocks.flatMap Block.lines).map dropCR ++ d'.trail.map fun f => dropCR f.line := by
    rw [eff_init, ← hr, srcLines_render d' (doc_no_nl d' (hb ▸ legalFrom_mem cfg fss d.blocks 0 hl) htr') hend,
      Doc.lines, List.map_append, List.map_map, hb]
    rfl
  cases hbs : d.blocks with
  | nil =>
    rw [hbs] at he
    exact ⟨[], h0, by rw [List.length_nil, Nat.zero_add]; exact callsHF_exhausted cfg fss k 0 _ (by rw [he]; exact htrail),
      trivial⟩
  | cons b bs =>
    rw [hbs] at hl hsep he
    rw [List.flatMap_cons, List.map_append, block_lines_map (withFS cfg (fss 0)) b, List.append_assoc, List.append_assoc] at he
    rw [List.length_cons, Nat.add_right_comm, Nat.add_comm bs.length k]
    exact callsHF_blocks cfg h0 fss _ htrail k bs b 0 _ _ hl hsep (toABlock_ok _ b hl.1).lead wf (fun _ => rfl) he

end Vegeta.Proofs.HTTPFileSystem
