/-
The layers of the gob value codec (`Vegeta.Model.GobValue`), each read back by its decoder:
unsigned varints, zig-zag integers, length-prefixed bytes, `Time.MarshalBinary`, `[]string` and
`map[string][]string`.
-/
import Vegeta.Model.GobValue
import Vegeta.Proofs.GobFrame
import Vegeta.Proofs.ResultKit
namespace Vegeta.Proofs.Gob
open Vegeta.Go Vegeta.Model.Codec Vegeta.Model.GobFrame Vegeta.Model.GobValue Vegeta.Proofs.GobFrame

theorem decUint_encodeUint (n : Nat) (h : n < 2 ^ 64) (rest : Bytes) :
    decUint (encodeUint n ++ rest) = some (n, rest) := by
  unfold encodeUint
  split
  · rename_i hlt
    simp only [List.cons_append, List.nil_append, decUint]
    rw [if_pos (by omega)]
  · rename_i hge
    have h1 := beBytes_length_pos n (by omega)
    have h8 := beBytes_length_le n h
    simp only [List.cons_append, decUint]
    rw [if_neg (by omega)]
    have e : 256 - (256 - (beBytes n).length) = (beBytes n).length := by omega
    simp only [e]
    rw [if_neg (by simp; omega)]
    simp [beValue_beBytes]

theorem decInt_gInt (i : Int) (h : inS64 i) (rest : Bytes) : decInt (gInt i ++ rest) = some (i, rest) := by
  unfold inS64 minInt64 maxInt64 at h
  unfold gInt decInt
  split
  · rename_i hneg
    rw [decUint_encodeUint _ (by omega)]
    simp only [Option.map_some]
    rw [if_pos (by omega)]
    congr 2
    omega
  · rename_i hpos
    rw [decUint_encodeUint _ (by omega)]
    simp only [Option.map_some]
    rw [if_neg (by omega)]
    congr 2
    omega

theorem decBytes_gBytes (b rest : Bytes) (h : b.length < 2 ^ 64) : decBytes (gBytes b ++ rest) = some (b, rest) := by
  unfold gBytes decBytes
  rw [List.append_assoc, decUint_encodeUint _ h]
  simp

theorem beFixed_length : ∀ (w n : Nat), (beFixed w n).length = w := by
  intro w
  induction w with
  | zero => intro n; rfl
  | succ w ih => intro n; simp [beFixed, ih]

theorem beValue_beFixed : ∀ (w n : Nat), beValue (beFixed w n) = n % 256 ^ w := by
  intro w
  induction w with
  | zero => intro n; simp [beFixed, beValue, Nat.mod_one]
  | succ w ih =>
    intro n
    simp only [beFixed]
    rw [beValue_snoc, ih, Nat.pow_succ, Nat.mul_comm (256 ^ w) 256, Nat.mod_mul]
    omega

theorem beValue_beFixed_of_lt (w n : Nat) (h : n < 256 ^ w) : beValue (beFixed w n) = n := by
  rw [beValue_beFixed, Nat.mod_eq_of_lt h]

/-- `Time.MarshalBinary` writes 15 bytes (version 1) or 16 (version 2) -/
theorem timeBinary_length {z : Zone} {ts : Int} {b : Bytes} (h : timeBinary z ts = some b) :
    b.length = 15 ∨ b.length = 16 := by
  unfold timeBinary at h
  cases z with
  | utc =>
    cases h
    exact .inl (by simp [beFixed_length])
  | fixed off =>
    simp only at h
    split at h
    · cases h
    · split at h
      · cases h
        exact .inl (by simp [beFixed_length])
      · cases h
        exact .inr (by simp [beFixed_length])

theorem timeBinary_fixed (off ts : Int)
    (hz : -32768 ≤ Int.tdiv off 60 ∧ Int.tdiv off 60 ≤ 32767 ∧ Int.tdiv off 60 ≠ -1) :
    ∃ b, timeBinary (.fixed off) ts = some b := by
  simp only [timeBinary]
  rw [if_neg (by omega)]
  split
  · exact ⟨_, rfl⟩
  · exact ⟨_, rfl⟩

theorem decTimeBinary_shape (v : Nat) (A B Z : Bytes) (hA : A.length = 8) (hB : B.length = 4)
    (hv : (v = 1 ∧ Z.length = 2) ∨ (v = 2 ∧ Z.length = 3)) :
    decTimeBinary (v :: (A ++ (B ++ Z))) =
      some (((if beValue A ≥ 9223372036854775808 then (beValue A : Int) - 18446744073709551616
              else (beValue A : Int)) - unixToInternal) * 1000000000 + (beValue B : Int)) := by
  have hlen : (A ++ (B ++ Z)).length = 12 + Z.length := by simp; omega
  have ht : (A ++ (B ++ Z)).take 8 = A := by rw [← hA]; exact List.take_left' rfl
  have hd : ((A ++ (B ++ Z)).drop 8).take 4 = B := by
    rw [← hA, List.drop_left' rfl, ← hB]; exact List.take_left' rfl
  simp only [decTimeBinary]
  rw [if_pos (by omega), ht, hd]

/-- reading an int64 back from its two's-complement image -/
theorem s64_of_image (S : Int) (h : -9223372036854775808 ≤ S ∧ S < 9223372036854775808) :
    (if (S % 18446744073709551616).toNat ≥ 9223372036854775808
      then (((S % 18446744073709551616).toNat : Nat) : Int) - 18446744073709551616
      else (((S % 18446744073709551616).toNat : Nat) : Int)) = S := by
  split <;> omega

theorem decTimeBinary_timeBinary (z : Zone) (ts : Int) (b : Bytes)
    (hs : -9223372036854775808 ≤ ts / 1000000000 + unixToInternal ∧ ts / 1000000000 + unixToInternal < 9223372036854775808)
    (h : timeBinary z ts = some b) : decTimeBinary b = some ts := by
  have key : ∀ (v : Nat) (Z : Bytes), ((v = 1 ∧ Z.length = 2) ∨ (v = 2 ∧ Z.length = 3)) →
      decTimeBinary (v :: (beFixed 8 ((ts / 1000000000 + unixToInternal) % 18446744073709551616).toNat ++
        (beFixed 4 (ts % 1000000000).toNat ++ Z))) = some ts := by
    intro v Z hv
    have h8 : ((ts / 1000000000 + unixToInternal) % 18446744073709551616).toNat < 256 ^ 8 := by
      clear hs hv; omega
    have h4 : (ts % 1000000000).toNat < 256 ^ 4 := by clear hs hv; omega
    rw [decTimeBinary_shape v _ _ Z (beFixed_length _ _) (beFixed_length _ _) hv,
      beValue_beFixed_of_lt _ _ h8, beValue_beFixed_of_lt _ _ h4, s64_of_image _ hs]
    congr 1
    clear hs hv h8 h4
    omega
  unfold timeBinary at h
  cases z with
  | utc =>
    simp only [Option.some.injEq] at h
    subst h
    rw [List.append_assoc]
    exact key 1 _ (Or.inl ⟨rfl, rfl⟩)
  | fixed off =>
    simp only at h
    split at h
    · exact absurd h (by simp)
    · split at h
      · simp only [Option.some.injEq] at h
        subst h
        rw [List.append_assoc]
        exact key 1 _ (Or.inl ⟨rfl, beFixed_length _ _⟩)
      · simp only [Option.some.injEq] at h
        subst h
        simp only [List.append_assoc]
        exact key 2 _ (Or.inr ⟨rfl, by simp [beFixed_length]⟩)

theorem decStrings_flatMap (vs : List Bytes) (rest : Bytes) (hv : ∀ v ∈ vs, v.length < 2 ^ 64) :
    decStrings vs.length (vs.flatMap gBytes ++ rest) = some (vs, rest) := by
  induction vs with
  | nil => simp [decStrings]
  | cons v vs ih =>
    simp only [List.flatMap_cons, List.length_cons, List.append_assoc, decStrings]
    rw [decBytes_gBytes v _ (hv v (by simp))]
    simp only
    rw [ih (fun w hw => hv w (by simp [hw]))]
    simp

theorem decStringSlice_gStrings (vs : List Bytes) (rest : Bytes) (hn : vs.length < 2 ^ 64)
    (hv : ∀ v ∈ vs, v.length < 2 ^ 64) : decStringSlice (gStrings vs ++ rest) = some (vs, rest) := by
  unfold gStrings decStringSlice
  rw [List.append_assoc, decUint_encodeUint _ hn]
  exact decStrings_flatMap vs rest hv

theorem decEntries_flatMap (h : Header) (rest : Bytes) (m : Header)
    (hd : ((m ++ h).map (·.1)).Nodup)
    (hk : ∀ kv ∈ h, kv.1.length < 2 ^ 64 ∧ kv.2.length < 2 ^ 64 ∧ ∀ v ∈ kv.2, v.length < 2 ^ 64) :
    decEntries h.length (h.flatMap (fun kv => gBytes kv.1 ++ gStrings kv.2) ++ rest) m
      = some (m ++ h, rest) := by
  induction h generalizing m with
  | nil => simp [decEntries]
  | cons kv h ih =>
    obtain ⟨hk1, hk2, hk3⟩ := hk kv (by simp)
    simp only [List.flatMap_cons, List.length_cons, List.append_assoc, decEntries]
    rw [decBytes_gBytes kv.1 _ hk1]
    simp only
    rw [decStringSlice_gStrings kv.2 _ hk2 hk3]
    simp only
    have hfresh : kv.1 ∉ m.map (·.1) := by
      intro hmem
      rw [List.map_append, List.nodup_append] at hd
      exact hd.2.2 _ hmem kv.1 (by simp) rfl
    rw [Vegeta.Proofs.Codec.headerSet_new _ _ _ hfresh]
    have := ih (m ++ [kv]) (by simpa [List.append_assoc] using hd) (fun x hx => hk x (by simp [hx]))
    rw [this]
    simp [List.append_assoc]

theorem decHeader_gHeader (h : Header) (rest : Bytes) (hn : h.length < 2 ^ 64) (hd : (h.map (·.1)).Nodup)
    (hk : ∀ kv ∈ h, kv.1.length < 2 ^ 64 ∧ kv.2.length < 2 ^ 64 ∧ ∀ v ∈ kv.2, v.length < 2 ^ 64) :
    decHeader (gHeader h ++ rest) = some (h, rest) := by
  unfold gHeader decHeader
  rw [List.append_assoc, decUint_encodeUint _ hn]
  simp only
  rw [decEntries_flatMap h rest [] (by simpa using hd) hk]
  simp

example : gInt (-5) = [9] := by decide +kernel
example : gInt 0 = [0] := by decide +kernel
example : gInt 5 = [10] := by decide +kernel
example : encodeUint 300 = [254, 1, 44] := by decide +kernel
example : decInt [9] = some (-5, []) := by decide +kernel
example : decInt [0, 77] = some (0, [77]) := by decide +kernel
example : decUint [254, 1, 44, 7] = some (300, [7]) := by decide +kernel
example : decUint [254, 1] = none := by decide +kernel
example : decUint [247, 1, 2, 3, 4, 5, 6, 7, 8, 9] = none := by decide +kernel
example : gBytes [104, 105] = [2, 104, 105] := by decide +kernel
example : decBytes [2, 104, 105, 0] = some ([104, 105], [0]) := by decide +kernel
example : timeBinary .utc 1600000000000000123 = some [1,0,0,0,14,214,240,7,0,0,0,0,123,255,255] := by decide +kernel
example : timeBinary (.fixed 3630) 1600000000000000000 = some [2,0,0,0,14,214,240,7,0,0,0,0,0,0,60,30] := by
  decide +kernel
example : timeBinary (.fixed 3600) 1600000000000000000 = some [1,0,0,0,14,214,240,7,0,0,0,0,0,0,60] := by
  decide +kernel
example : timeBinary (.fixed (-60)) 0 = none := by decide +kernel
example : decTimeBinary [1,0,0,0,14,214,240,7,0,0,0,0,123,255,255] = some 1600000000000000123 := by decide +kernel
example : decTimeBinary [2,0,0,0,14,214,240,7,0,0,0,0,0,0,60,30] = some 1600000000000000000 := by decide +kernel
example : decTimeBinary [1,0,0,0,14,214,240,7,0,0,0,0,123,255] = none := by decide +kernel
example : gStrings [[97], [98, 99]] = [2, 1, 97, 2, 98, 99] := by decide +kernel
example : decStringSlice [2, 1, 97, 2, 98, 99, 5] = some ([[97], [98, 99]], [5]) := by decide +kernel
example : gHeader [([75], [[97]]), ([76], [])] = [2, 1, 75, 1, 1, 97, 1, 76, 0] := by decide +kernel
example : decHeader [2, 1, 75, 1, 1, 97, 1, 76, 0] = some ([([75], [[97]]), ([76], [])], []) := by decide +kernel

end Vegeta.Proofs.Gob
