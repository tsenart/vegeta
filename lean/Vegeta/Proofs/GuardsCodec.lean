/-
The result decoders of `Vegeta.Model.Codec` (C07's models of encoding/csv, jlexer and the generated
easyjson code) never panic, every step that returns consumed input, and the fuel the loops carry
is never what ends them (`readHeaderLoop` and `trimLeadF` excepted: no fuel lemma). First strconv,
base64, the MIME header and `Time.UnmarshalJSON`. JSON: per parser one fact,
`Ensures (less input left) (parser l)`, proved along the parser's `do` block; the rest is read off
it. CSV: `_len` lemmas for the scanners, the field loop round by round (`Round`).
-/
import Vegeta.Proofs.Guards
import Vegeta.Model.CodecResult
namespace Vegeta.Proofs.Guards
open Vegeta.Go Vegeta.Model.Codec

/-! ### the small parsers never panic -/

theorem parseUintLoop_np (maxVal : Nat) : ∀ s n, parseUintLoop maxVal s n ≠ .panic
  | [], _ => nofun
  | c :: r, n => by
    unfold parseUintLoop
    exact ite_ne (ite_ne nofun (ite_ne nofun (parseUintLoop_np maxVal r _))) nofun

theorem parseUint_np (bits : Nat) (s : Bytes) : parseUint bits s ≠ .panic :=
  ite_ne nofun (parseUintLoop_np _ _ _)

theorem parseInt_np (bits : Nat) (s : Bytes) : parseInt bits s ≠ .panic := by
  unfold parseInt
  split
  · nofun
  · dsimp only
    split
    · exact ite_ne nofun (ite_ne nofun nofun)
    · nofun
    · rename_i h; exact absurd h (parseUint_np _ _)

theorem b64DecodeQ_np (s : Bytes) : b64DecodeQ s ≠ .panic := by
  fun_induction b64DecodeQ s <;> simp_all

theorem b64Decode_np (s : Bytes) : b64Decode s ≠ .panic := b64DecodeQ_np _

theorem readHeaderLoop_np : ∀ (fuel : Nat) (s : Bytes) (m : Header), readHeaderLoop fuel s m ≠ .panic
  | 0, _, _ => nofun
  | fuel+1, s, m => by
    unfold readHeaderLoop
    split
    · nofun
    · refine ite_ne nofun (ite_ne nofun ?_)
      split
      dsimp only
      split
      · nofun
      · exact ite_ne nofun (readHeaderLoop_np fuel _ _)

theorem readMIMEHeader_np (s : Bytes) : readMIMEHeader s ≠ .panic := by
  unfold readMIMEHeader
  split
  · exact ite_ne nofun (readHeaderLoop_np _ _ _)
  · exact readHeaderLoop_np _ _ _

theorem timeUnmarshalJSON_np (d : Bytes) : timeUnmarshalJSON d ≠ .panic := by
  unfold timeUnmarshalJSON
  split
  · refine ite_ne nofun ?_
    split
    · split <;> nofun
    · nofun
  · nofun

theorem resultOfRecord_np (fields : List Bytes) : resultOfRecord fields ≠ .panic := by
  unfold resultOfRecord
  refine bind_np (parseInt_np _ _) fun _ => ?_
  refine bind_np (parseUint_np _ _) fun _ => ?_
  refine bind_np (parseInt_np _ _) fun _ => ?_
  refine bind_np (parseUint_np _ _) fun _ => ?_
  refine bind_np (parseUint_np _ _) fun _ => ?_
  refine bind_np (b64Decode_np _) fun _ => ?_
  refine bind_np (parseUint_np _ _) fun _ => ?_
  refine bind_np (ite_ne (pure_np _) ?_) fun _ => pure_np _
  exact bind_np (b64Decode_np _) fun _ => bind_np (readMIMEHeader_np _) fun _ => pure_np _

/-! ### JSON: every step consumes -/

/-- the scanners put the byte they have read in front of the token and pass the rest through -/
theorem map_consFst_eq_some {c : Nat} {o : Option (Bytes × Bytes)} {a b : Bytes}
    (h : o.map (fun p => (c :: p.1, p.2)) = some (a, b)) : ∃ a', o = some (a', b) := by
  cases o with
  | none => cases h
  | some p => cases h; exact ⟨p.1, rfl⟩

theorem splitLine_len : ∀ {s line rest : Bytes}, splitLine s = some (line, rest) → rest.length < s.length
  | [], _, _, h => by cases h
  | c :: r, _, _, h => by
    unfold splitLine at h
    split at h
    · cases h; exact Nat.lt_succ_self _
    · obtain ⟨_, h'⟩ := map_consFst_eq_some h
      exact Nat.lt_succ_of_lt (splitLine_len h')

theorem fetchStringP_len : ∀ {s : Bytes} {odd raw rest}, fetchStringP odd s = some (raw, rest) → rest.length < s.length
  | [], _, _, _, h => by cases h
  | c :: r, _, _, _, h => by
    unfold fetchStringP at h
    split at h
    · cases h; exact Nat.lt_succ_self _
    · obtain ⟨_, h'⟩ := map_consFst_eq_some h
      exact Nat.lt_succ_of_lt (fetchStringP_len h')

theorem fetchNumberP_len {a b c s raw rest} (h : fetchNumberP a b c s = some (raw, rest)) :
    rest.length ≤ s.length := by
  fun_induction fetchNumberP a b c s generalizing raw
  case case1 => cases h; exact Nat.le_refl _     -- end of input
  case case6 => cases h; exact Nat.le_refl _     -- a token end: nothing consumed
  case case7 => cases h                          -- syntax error
  all_goals                                      -- one more byte of the number
    rename_i ih
    obtain ⟨_, h'⟩ := map_consFst_eq_some h
    exact Nat.le_succ_of_le (ih h')

theorem fetchKeyword_len {kw s rest : Bytes} (h : fetchKeyword kw s = some rest) : rest.length ≤ s.length := by
  unfold fetchKeyword at h
  split at h
  · have hd : (s.drop kw.length).length ≤ s.length := by simp
    split at h
    · cases h; exact Nat.zero_le _
    · rename_i c r hc
      split at h
      · cases h; rw [← hc]; exact hd
      · cases h
  · cases h

theorem skipNested_len {a b lvl q e s r} (h : skipNested a b lvl q e s = some r) : r.length < s.length := by
  fun_induction skipNested a b lvl q e s
  case case1 => cases h                          -- input ends inside the value
  case case3 => cases h; exact Nat.lt_succ_self _   -- the matching close
  all_goals                                      -- any other byte: the scan goes on
    rename_i ih
    exact Nat.lt_succ_of_lt (ih h)

theorem fetchToken_consumes (s : Bytes) (ws : Nat) (fe : Bool) :
    Ensures (fun p => p.2.rest.length < s.length) (fetchToken s ws fe) := by
  fun_induction fetchToken s ws fe <;> simp only [Ensures, List.length_cons]
  -- left are the branches that return a token, and the two that skip a byte
  next ih => exact ih.mono fun _ h => Nat.lt_succ_of_lt h
  next ih => exact ih.mono fun _ h => Nat.lt_succ_of_lt h
  · exact Nat.lt_succ_of_lt (fetchStringP_len ‹_›)
  · exact Nat.lt_succ_self _
  · exact Nat.lt_succ_self _
  · exact Nat.lt_succ_of_le (fetchNumberP_len ‹_›)
  all_goals exact Nat.lt_succ_of_le (fetchKeyword_len ‹_›)    -- `null`, `true`, `false`

abbrev Shorter (l : Lex) (l' : Lex) : Prop := l'.rest.length < l.rest.length

theorem next_consumes (l : Lex) : Ensures (fun p => Shorter l p.2) l.next := fetchToken_consumes _ _ _

theorem next_shorter {l l' : Lex} {t : Tok} (h : l.next = .ok (t, l')) : Shorter l l' := (next_consumes l).of_ok h

theorem lexString_consumes (l : Lex) : Ensures (fun p => Shorter l p.2) (lexString l) := by
  unfold lexString
  split
  · split
    · exact next_shorter ‹_›
    · trivial
  · trivial
  · trivial
  · exact absurd ‹_› (next_consumes l).ne_panic

theorem lexNumber_consumes (l : Lex) : Ensures (fun p => Shorter l p.2) (lexNumber l) := by
  unfold lexNumber
  split
  · exact next_shorter ‹_›
  · trivial
  · trivial
  · exact absurd ‹_› (next_consumes l).ne_panic

theorem lexDelim_consumes (c : Nat) (l : Lex) : Ensures (Shorter l) (lexDelim c l) := by
  unfold lexDelim
  split
  · exact .ite (fun _ => next_shorter ‹_›) fun _ => trivial
  · trivial
  · trivial
  · exact absurd ‹_› (next_consumes l).ne_panic

theorem lexRawString_consumes (l : Lex) : Ensures (fun p => Shorter l p.2) (lexRawString l) := by
  unfold lexRawString
  split
  · exact next_shorter ‹_›
  · trivial
  · trivial
  · exact absurd ‹_› (next_consumes l).ne_panic

theorem lexSkip_consumes (l : Lex) : Ensures (Shorter l) (lexSkip l) := by
  unfold lexSkip
  split
  · split
    · exact Nat.lt_trans (skipNested_len ‹_›) (next_shorter ‹_›)
    · trivial
  · split
    · exact Nat.lt_trans (skipNested_len ‹_›) (next_shorter ‹_›)
    · trivial
  · exact next_shorter ‹_›
  · trivial
  · exact absurd ‹_› (next_consumes l).ne_panic

theorem lexUint_consumes (bits : Nat) (l : Lex) : Ensures (fun p => Shorter l p.2) (lexUint bits l) :=
  (lexNumber_consumes l).bind fun (_, _) h => (Ensures.of_ne_panic (parseUint_np _ _)).bind fun _ _ => .pure h

theorem lexInt_consumes (bits : Nat) (l : Lex) : Ensures (fun p => Shorter l p.2) (lexInt bits l) :=
  (lexNumber_consumes l).bind fun (_, _) h => (Ensures.of_ne_panic (parseInt_np _ _)).bind fun _ _ => .pure h

theorem lexBytes_consumes (l : Lex) : Ensures (fun p => Shorter l p.2) (lexBytes l) :=
  (lexString_consumes l).bind fun (_, _) h => (Ensures.of_ne_panic (b64Decode_np _)).bind fun _ _ => .pure h

theorem parseStrArray_consumes : ∀ (fuel : Nat) (l : Lex) (acc : List Bytes),
    Ensures (fun p => Shorter l p.2) (parseStrArray fuel l acc)
  | 0, _, _ => trivial
  | fuel+1, l, acc => by
    unfold parseStrArray
    refine (next_consumes l).bind fun (t, l') h => ?_
    refine .ite (fun _ => .pure h) fun _ => ?_
    refine (lexString_consumes l).bind fun (s, l2) h2 => ?_
    exact (parseStrArray_consumes fuel l2.wantComma (s :: acc)).mono fun _ h3 => Nat.lt_trans h3 h2

theorem parseHeaderObj_consumes : ∀ (fuel : Nat) (l : Lex) (m : Header),
    Ensures (fun p => Shorter l p.2) (parseHeaderObj fuel l m)
  | 0, _, _ => trivial
  | fuel+1, l, m => by
    unfold parseHeaderObj
    refine (next_consumes l).bind fun (t, l') h => ?_
    refine .ite (fun _ => .pure h) fun _ => ?_
    refine (lexString_consumes l).bind fun (key, l1) h1 => ?_
    refine (next_consumes l1.wantColon).bind fun (t2, l3) h3 => ?_
    refine .ite (fun _ => ?_) fun _ => ?_
    · exact (parseHeaderObj_consumes fuel l3.wantComma _).mono fun _ h' => Nat.lt_trans h' (Nat.lt_trans h3 h1)
    · refine (lexDelim_consumes 91 l1.wantColon).bind fun l4 h4 => ?_
      refine (parseStrArray_consumes _ l4 []).bind fun (vs, l5) h5 => ?_
      exact (parseHeaderObj_consumes fuel l5.wantComma _).mono fun _ h' =>
        Nat.lt_trans h' (Nat.lt_trans h5 (Nat.lt_trans h4 h1))

theorem parseMember_consumes (key : Bytes) (l : Lex) (r : Result) :
    Ensures (fun p => Shorter l p.2) (parseMember key l r) := by
  unfold parseMember
  refine .ite (fun _ => (lexString_consumes l).bind fun (_, _) h => .pure h) fun _ => ?_
  refine .ite (fun _ => (lexUint_consumes 64 l).bind fun (_, _) h => .pure h) fun _ => ?_
  refine .ite (fun _ => (lexUint_consumes 16 l).bind fun (_, _) h => .pure h) fun _ => ?_
  refine .ite (fun _ => (lexRawString_consumes l).bind fun (_, _) h =>
    (Ensures.of_ne_panic (timeUnmarshalJSON_np _)).bind fun _ _ => .pure h) fun _ => ?_
  refine .ite (fun _ => (lexInt_consumes 64 l).bind fun (_, _) h => .pure h) fun _ => ?_
  refine .ite (fun _ => (lexUint_consumes 64 l).bind fun (_, _) h => .pure h) fun _ => ?_
  refine .ite (fun _ => (lexUint_consumes 64 l).bind fun (_, _) h => .pure h) fun _ => ?_
  refine .ite (fun _ => (lexString_consumes l).bind fun (_, _) h => .pure h) fun _ => ?_
  refine .ite (fun _ => (lexBytes_consumes l).bind fun (_, _) h => .pure h) fun _ => ?_
  refine .ite (fun _ => (lexString_consumes l).bind fun (_, _) h => .pure h) fun _ => ?_
  refine .ite (fun _ => (lexString_consumes l).bind fun (_, _) h => .pure h) fun _ => ?_
  refine .ite (fun _ => (lexDelim_consumes 123 l).bind fun l1 h1 =>
    (parseHeaderObj_consumes _ l1 []).bind fun (_, _) h => .pure (Nat.lt_trans h h1)) fun _ => ?_
  exact (lexSkip_consumes l).bind fun _ h => .pure h

theorem parseMembers_consumes : ∀ (fuel : Nat) (l : Lex) (r : Result),
    Ensures (fun p => Shorter l p.2) (parseMembers fuel l r)
  | 0, _, _ => trivial
  | fuel+1, l, r => by
    unfold parseMembers
    refine (next_consumes l).bind fun (t, l') h => ?_
    refine .ite (fun _ => .pure h) fun _ => ?_
    refine (lexString_consumes l).bind fun (key, l1) h1 => ?_
    refine (next_consumes l1.wantColon).bind fun (t2, l3) h3 => ?_
    refine .ite (fun _ => ?_) fun _ => ?_
    · exact (parseMembers_consumes fuel l3.wantComma _).mono fun _ h' => Nat.lt_trans h' (Nat.lt_trans h3 h1)
    · refine (parseMember_consumes key l1.wantColon r).bind fun (r', l4) h4 => ?_
      exact (parseMembers_consumes fuel l4.wantComma _).mono fun _ h' => Nat.lt_trans h' (Nat.lt_trans h4 h1)

theorem decodeJSONLine_np (line : Bytes) : decodeJSONLine line ≠ .panic := by
  unfold decodeJSONLine
  refine bind_np (next_consumes _).ne_panic fun (t, l') => ?_
  refine ite_ne (ite_ne (pure_np _) nofun) ?_
  refine bind_np (lexDelim_consumes _ _).ne_panic fun l1 => ?_
  refine bind_np (parseMembers_consumes _ _ _).ne_panic fun (r, l2) => ?_
  exact ite_ne (pure_np _) nofun

/-! ### JSON: the fuel does not matter
Each loop is called with more fuel than input; every iteration consumes input; so two runs with
enough fuel take the same branches all the way. -/

theorem parseStrArray_fuel (f1 f2 : Nat) (l : Lex) (acc : List Bytes) :
    l.rest.length < f1 → l.rest.length < f2 → parseStrArray f1 l acc = parseStrArray f2 l acc :=
  fuel_indep (fun p : Lex × List Bytes => p.1.rest.length) (fun f p => parseStrArray f p.1 p.2)
    (fun a b (l, acc) ih => by
      show parseStrArray (a+1) l acc = parseStrArray (b+1) l acc
      unfold parseStrArray
      refine (next_consumes l).bind_congr fun (t, l') _ => ?_
      refine ite_congr rfl (fun _ => rfl) fun _ => ?_
      exact (lexString_consumes l).bind_congr fun (s, l2) h => ih (l2.wantComma, s :: acc) h)
    f1 f2 (l, acc)

theorem parseHeaderObj_fuel (f1 f2 : Nat) (l : Lex) (m : Header) :
    l.rest.length < f1 → l.rest.length < f2 → parseHeaderObj f1 l m = parseHeaderObj f2 l m :=
  fuel_indep (fun p : Lex × Header => p.1.rest.length) (fun f p => parseHeaderObj f p.1 p.2)
    (fun a b (l, m) ih => by
      show parseHeaderObj (a+1) l m = parseHeaderObj (b+1) l m
      unfold parseHeaderObj
      refine (next_consumes l).bind_congr fun (t, l') _ => ?_
      refine ite_congr rfl (fun _ => rfl) fun _ => ?_
      refine (lexString_consumes l).bind_congr fun (key, l1) h1 => ?_
      refine (next_consumes l1.wantColon).bind_congr fun (t2, l3) h3 => ?_
      refine ite_congr rfl (fun _ => ih (l3.wantComma, _) (Nat.lt_trans h3 h1)) fun _ => ?_
      refine (lexDelim_consumes 91 l1.wantColon).bind_congr fun l4 h4 => ?_
      refine (parseStrArray_consumes _ l4 []).bind_congr fun (vs, l5) h5 => ?_
      exact ih (l5.wantComma, _) (Nat.lt_trans h5 (Nat.lt_trans h4 h1)))
    f1 f2 (l, m)

theorem parseMembers_fuel (f1 f2 : Nat) (l : Lex) (r : Result) :
    l.rest.length < f1 → l.rest.length < f2 → parseMembers f1 l r = parseMembers f2 l r :=
  fuel_indep (fun p : Lex × Result => p.1.rest.length) (fun f p => parseMembers f p.1 p.2)
    (fun a b (l, r) ih => by
      show parseMembers (a+1) l r = parseMembers (b+1) l r
      unfold parseMembers
      refine (next_consumes l).bind_congr fun (t, l') _ => ?_
      refine ite_congr rfl (fun _ => rfl) fun _ => ?_
      refine (lexString_consumes l).bind_congr fun (key, l1) h1 => ?_
      refine (next_consumes l1.wantColon).bind_congr fun (t2, l3) h3 => ?_
      refine ite_congr rfl (fun _ => ih (l3.wantComma, _) (Nat.lt_trans h3 h1)) fun _ => ?_
      refine (parseMember_consumes key l1.wantColon r).bind_congr fun (r', l4) h4 => ?_
      exact ih (l4.wantComma, _) (Nat.lt_trans h4 h1))
    f1 f2 (l, r)

theorem unescapeF_fuel : ∀ (f1 f2 : Nat) (s : Bytes), s.length < f1 → s.length < f2 → unescapeF f1 s = unescapeF f2 s :=
  fuel_indep List.length unescapeF fun a b s ih => by
    cases s with
    | nil => rfl
    | cons c r =>
      have ih : ∀ k, unescapeF a (r.drop k) = unescapeF b (r.drop k) := fun k =>
        ih _ (Nat.lt_succ_of_le (by simp))
      unfold unescapeF
      split
      · split
        · rfl
        · rw [ih]
      · rw [← List.drop_zero (l := r), ih]

theorem decodeJSONF_fuel : ∀ (f1 f2 : Nat) (s : Bytes), s.length < f1 → s.length < f2 → decodeJSONF f1 s = decodeJSONF f2 s :=
  fuel_indep List.length decodeJSONF fun a b s ih => by
    unfold decodeJSONF
    refine ite_congr rfl (fun _ => rfl) fun _ => ?_
    cases hs : splitLine s with
    | none => rfl
    | some p =>
      obtain ⟨line, rest⟩ := p
      dsimp only
      rw [ih rest (splitLine_len hs)]

/-! ### CSV -/

theorem trimLeadF_len : ∀ (f : Nat) (s : Bytes), (trimLeadF f s).length ≤ s.length
  | 0, _ => Nat.le_refl _
  | f+1, s => by
    unfold trimLeadF
    split
    · exact Nat.le_refl _
    · rename_i c r
      split
      · exact Nat.le_refl _
      · dsimp only
        split
        · exact Nat.le_refl _
        · have hd : (r.drop (spaceRuneLen (c :: r) - 1)).length ≤ r.length := by simp
          exact Nat.le_succ_of_le (Nat.le_trans (trimLeadF_len f _) hd)

theorem trimLead_len (s : Bytes) : (trimLead s).length ≤ s.length := trimLeadF_len _ _

theorem scanUnquoted_len : ∀ s : Bytes, (scanUnquoted s).2.length ≤ s.length
  | [] => Nat.le_refl _
  | c :: r => by
    unfold scanUnquoted
    split
    · exact Nat.le_refl _
    · exact Nat.le_succ_of_le (scanUnquoted_len r)

theorem scanQuoted_len {s fld after : Bytes} (h : scanQuoted s = some (fld, after)) : after.length < s.length := by
  fun_induction scanQuoted s generalizing fld
  case case1 => cases h
  case case2 ih =>                                   -- `""`: a literal quote
    obtain ⟨_, h'⟩ := map_consFst_eq_some h
    exact Nat.lt_succ_of_lt (Nat.lt_succ_of_lt (ih h'))
  case case3 => cases h; exact Nat.lt_succ_self _    -- the closing quote
  case case4 => cases h; exact Nat.zero_lt_succ _    -- the closing quote ends the input
  case case5 ih =>
    obtain ⟨_, h'⟩ := map_consFst_eq_some h
    exact Nat.lt_succ_of_lt (ih h')

theorem dropNL_len : ∀ s : Bytes, (dropNL s).length ≤ s.length
  | [] => Nat.le_refl _
  | c :: r => by
    unfold dropNL
    split
    · exact Nat.le_succ_of_le (dropNL_len r)
    · exact Nat.le_refl _

/-- One round of the field loop, run with fuels `f1` and `f2` left: both runs end here with the same
result (a record leaves less input), or both go on with the same, strictly shorter, input. -/
inductive Round (t : Bytes) (f1 f2 : Nat) : CsvRec → CsvRec → Prop
  | stop (res : CsvRec) (h : ∀ fs rest, res = .record fs rest →
      rest.length ≤ t.length ∧ (t ≠ [] → rest.length < t.length)) : Round t f1 f2 res res
  | go (r' : Bytes) (acc' : List Bytes) (h : r'.length < t.length) :
      Round t f1 f2 (parseFields f1 r' acc') (parseFields f2 r' acc')

theorem parseFields_step (t : Bytes) (acc : List Bytes) (f1 f2 : Nat) :
    Round t f1 f2 (parseFields (f1+1) t acc) (parseFields (f2+1) t acc) := by
  have htl := trimLead_len t
  rw [parseFields, parseFields]
  split
  · rename_i r htr
    rw [htr] at htl
    split
    · exact .stop _ nofun
    · rename_i fld after hq
      have hal := scanQuoted_len hq
      split
      · exact .stop _ fun _ _ h => by
          cases h; exact ⟨Nat.zero_le _, fun _ => Nat.lt_of_lt_of_le (Nat.zero_lt_succ _) htl⟩
      · rename_i d r'
        have hr' : r'.length < t.length :=
          Nat.lt_of_lt_of_le (Nat.lt_succ_of_lt (Nat.lt_of_succ_lt hal)) htl
        split
        · exact .go _ _ hr'
        · split
          · exact .stop _ fun _ _ h => by cases h; exact ⟨Nat.le_of_lt hr', fun _ => hr'⟩
          · exact .stop _ nofun
  · have hul := scanUnquoted_len (trimLead t)
    dsimp only
    split
    · exact .stop _ nofun
    · split
      · exact .stop _ fun _ _ h => by cases h; exact ⟨Nat.zero_le _, fun hn => List.length_pos_iff.mpr hn⟩
      · rename_i d r' hsu
        rw [hsu] at hul
        have hr' : r'.length < t.length := Nat.lt_of_lt_of_le hul htl
        split
        · exact .go _ _ hr'
        · exact .stop _ fun _ _ h => by cases h; exact ⟨Nat.le_of_lt hr', fun _ => hr'⟩

theorem parseFields_len : ∀ (fuel : Nat) {t : Bytes} {acc fs : List Bytes} {rest : Bytes},
    parseFields fuel t acc = .record fs rest → rest.length ≤ t.length ∧ (t ≠ [] → rest.length < t.length)
  | 0, _, _, _, _, h => by cases h
  | f+1, t, acc, fs, rest, h => by
    have step := parseFields_step t acc f f
    rw [h] at step
    generalize hx : CsvRec.record fs rest = x at step
    cases step with
    | stop _ hb => exact hb fs rest hx.symm
    | go r' acc' hlt =>
      have := (parseFields_len f hx.symm).1
      exact ⟨Nat.le_of_lt (Nat.lt_of_le_of_lt this hlt), fun _ => Nat.lt_of_le_of_lt this hlt⟩

theorem parseFields_fuel (f1 f2 : Nat) (t : Bytes) (acc : List Bytes) :
    t.length < f1 → t.length < f2 → parseFields f1 t acc = parseFields f2 t acc :=
  fuel_indep (fun p : Bytes × List Bytes => p.1.length) (fun f p => parseFields f p.1 p.2)
    (fun a b (t, acc) ih => by
      have step := parseFields_step t acc a b
      show parseFields (a+1) t acc = parseFields (b+1) t acc
      generalize parseFields (a+1) t acc = x, parseFields (b+1) t acc = y at step ⊢
      cases step with
      | stop => rfl
      | go r' acc' hlt => exact ih (r', acc') hlt)
    f1 f2 (t, acc)

theorem readRecord_len {s : Bytes} {fs : List Bytes} {rest : Bytes} (h : readRecord s = .record fs rest) :
    rest.length < s.length := by
  unfold readRecord at h
  split at h
  · cases h
  · rename_i hne
    exact Nat.lt_of_lt_of_le ((parseFields_len _ h).2 hne) (dropNL_len s)

theorem decodeCSVF_fuel : ∀ (f1 f2 : Nat) (s : Bytes), s.length < f1 → s.length < f2 → decodeCSVF f1 s = decodeCSVF f2 s :=
  fuel_indep List.length decodeCSVF fun a b s ih => by
    unfold decodeCSVF
    cases hr : readRecord s with
    | eof => rfl
    | err => rfl
    | record fs rest =>
      dsimp only
      rw [ih rest (readRecord_len hr)]

end Vegeta.Proofs.Guards
