/-
The JSON string layer of the result codec: what `jwriter.Writer.String` writes is found again,
whole, by the lexer's string scan, and unescapes to the original text when that was valid UTF-8.
-/
import Vegeta.Model.CodecResult
namespace Vegeta.Proofs.Codec
open Vegeta.Go Vegeta.Model.Codec

theorem isCont_iff (c : Nat) : isCont c = true ↔ 0x80 ≤ c ∧ c ≤ 0xBF := by
  simp [isCont]

/-- a decoding of width other than 1 did not come from a malformed branch -/
theorem decodeRune_good {p : Prop} [Decidable p] {x n rune w : Nat}
    (h : (if p then (x, n) else (0xFFFD, 1)) = (rune, w)) (hw : w ≠ 1) : p ∧ x = rune ∧ n = w := by
  by_cases hp : p
  · rw [if_pos hp] at h; exact ⟨hp, Prod.mk.inj h⟩
  · rw [if_neg hp] at h; exact absurd (Prod.mk.inj h).2.symm hw

/-- a rune of width `w ≠ 1` consists of the first `w` bytes, all ≥ 0x80; U+2028 and U+2029 come from
their three-byte encodings only -/
theorem decodeRune_shape (c : Nat) (r : Bytes) (rune w : Nat) (h : decodeRune (c :: r) = (rune, w))
    (hc : 128 ≤ c) (hw : w ≠ 1) :
    ∃ blk r', c :: r = blk ++ r' ∧ (c :: r).take w = blk ∧ r.drop (w - 1) = r' ∧ 2 ≤ blk.length ∧
      (∀ b ∈ blk, 128 ≤ b) ∧ (rune = 0x2028 ∨ rune = 0x2029 → blk = [0xE2, 0x80, 0x80 + rune % 64]) := by
  have bad : (0xFFFD, 1) = (rune, w) → False := fun e => hw (Prod.mk.inj e).2.symm
  simp only [decodeRune] at h
  rw [if_neg (by omega)] at h
  by_cases h1 : c < 0xC2
  · rw [if_pos h1] at h; exact (bad h).elim
  rw [if_neg h1] at h
  by_cases h2 : c < 0xE0
  · rw [if_pos h2] at h
    match r, h with
    | [], h => exact (bad h).elim
    | c1 :: t, h =>
      obtain ⟨k, hr, rfl⟩ := decodeRune_good h hw
      rw [isCont_iff] at k
      exact ⟨[c, c1], t, rfl, rfl, rfl, by simp, by simp [hc, k.1], by omega⟩
  rw [if_neg h2] at h
  by_cases h3 : c < 0xF0
  · rw [if_pos h3] at h
    match r, h with
    | [], h | [_], h => exact (bad h).elim
    | c1 :: c2 :: t, h =>
      obtain ⟨k, hr, rfl⟩ := decodeRune_good h hw
      rw [isCont_iff] at k
      have hlo : 0x80 ≤ c1 := by have := k.1; split at this <;> omega
      have hhi : c1 ≤ 0xBF := by have := k.2.1; split at this <;> omega
      refine ⟨[c, c1, c2], t, rfl, rfl, rfl, by simp, by simp [hc, hlo, k.2.2.1], fun e => ?_⟩
      have : c = 0xE2 ∧ c1 = 0x80 ∧ c2 = 0x80 + rune % 64 := by omega
      rw [this.1, this.2.1, this.2.2]
  rw [if_neg h3] at h
  by_cases h4 : c < 0xF5
  · rw [if_pos h4] at h
    match r, h with
    | [], h | [_], h | [_, _], h => exact (bad h).elim
    | c1 :: c2 :: c3 :: t, h =>
      obtain ⟨k, hr, rfl⟩ := decodeRune_good h hw
      rw [isCont_iff, isCont_iff] at k
      have hlo : 0x80 ≤ c1 ∧ (c = 0xF0 → 0x90 ≤ c1) := by have := k.1; split at this <;> omega
      exact ⟨[c, c1, c2, c3], t, rfl, rfl, rfl, by simp, by simp [hc, hlo.1, k.2.2.1.1, k.2.2.2.1], by omega⟩
  · rw [if_neg h4] at h; exact (bad h).elim

/-! ### an induction principle for the writer

`P s v out` is established for `v = validUTF8 s`, `out = jsonEscape s` from the four kinds of step
(`sep`: the rune `q` is U+2028 or U+2029). -/

theorem jsonEscape_ind (P : Bytes → Bool → Bytes → Prop)
    (nil : P [] true [])
    (ascii : ∀ c r v out, c < 128 → P r v out → P (c :: r) v (escAscii c ++ out))
    (bad : ∀ c r v out, 128 ≤ c → P r v out → P (c :: r) false ([92, 117, 102, 102, 102, 100] ++ out))
    (sep : ∀ q r v out, q = 0x2028 ∨ q = 0x2029 → P r v out →
      P ([0xE2, 0x80, 0x80 + q % 64] ++ r) v ([92, 117, 50, 48, 50, hexLower (q % 16)] ++ out))
    (copy : ∀ blk r v out, 2 ≤ blk.length → (∀ b ∈ blk, 128 ≤ b) → P r v out →
      P (blk ++ r) v (blk ++ out)) (s : Bytes) :
    P s (validUTF8 s) (jsonEscape s) := by
  suffices ∀ f s, s.length ≤ f → P s (validUTF8F f s) (jsonEscapeF f s) from this _ s (Nat.le_refl _)
  intro f
  induction f with
  | zero =>
    intro s hs
    obtain rfl := List.eq_nil_of_length_eq_zero (Nat.le_zero.mp hs)
    simpa [validUTF8F, jsonEscapeF] using nil
  | succ f ih =>
    intro s hs
    cases s with
    | nil => simpa [validUTF8F, jsonEscapeF] using nil
    | cons c r =>
      simp only [List.length_cons] at hs
      simp only [validUTF8F, jsonEscapeF]
      by_cases hc : c < 128
      · simp only [hc, if_true]
        exact ascii c r _ _ hc (ih r (by omega))
      · simp only [hc, if_false]
        by_cases hw : (decodeRune (c :: r)).2 = 1
        · simp only [hw, if_true]
          exact bad c r _ _ (by omega) (ih r (by omega))
        · simp only [hw, if_false]
          obtain ⟨blk, r', e, ht, hd, hl, hb, hq⟩ :=
            decodeRune_shape c r (decodeRune (c :: r)).1 (decodeRune (c :: r)).2 rfl (by omega) hw
          have hlen : r'.length ≤ f := by
            have := congrArg List.length e
            simp at this; omega
          rw [ht, hd]
          generalize (decodeRune (c :: r)).1 = q at hq ⊢
          by_cases h1 : q = 0x2028 ∨ q = 0x2029
          · rw [if_pos h1, e, hq h1]
            exact sep _ _ _ _ h1 (ih _ hlen)
          · rw [if_neg h1, e]
            exact copy blk _ _ _ hl hb (ih _ hlen)

theorem hexLower_ge (n : Nat) : 48 ≤ hexLower n ∧ hexLower n ≠ 92 := by
  unfold hexLower; split <;> omega

theorem hexVal_hexLower (n : Nat) (h : n < 16) : hexVal (hexLower n) = some n := by
  unfold hexLower hexVal
  split
  · rw [if_pos (by omega)]; congr 1; omega
  · rw [if_neg (by omega), if_pos (by omega)]; congr 1; omega

/-- the three kinds of table entry: a two-byte escape, `\u00XY`, the byte itself -/
theorem escAscii_cases (c : Nat) :
    (∃ x, escAscii c = [92, x] ∧
      (c = 9 ∧ x = 116 ∨ c = 13 ∧ x = 114 ∨ c = 10 ∧ x = 110 ∨ c = 92 ∧ x = 92 ∨ c = 34 ∧ x = 34)) ∨
    escAscii c = [92, 117, 48, 48, hexLower (c / 16), hexLower (c % 16)] ∨
    (escAscii c = [c] ∧ 32 ≤ c ∧ c ≠ 34 ∧ c ≠ 92) := by
  by_cases h : c = 9 ∨ c = 13 ∨ c = 10 ∨ c = 92 ∨ c = 34
  · rcases h with rfl | rfl | rfl | rfl | rfl <;> exact .inl ⟨_, rfl, by decide⟩
  · rw [escAscii, if_neg (by omega), if_neg (by omega), if_neg (by omega), if_neg (by omega),
      if_neg (by omega)]
    by_cases h6 : c < 32 ∨ c = 38 ∨ c = 60 ∨ c = 62
    · exact .inr (.inl (if_pos h6))
    · exact .inr (.inr ⟨if_neg h6, by omega⟩)

/-- `u` is scanned through without ending the token and leaves the backslash parity even -/
def ScanUnit (u : Bytes) : Prop :=
  ∀ t, fetchStringP false (u ++ t) = (fetchStringP false t).map (fun p => (u ++ p.1, p.2))

theorem scanUnit_nil : ScanUnit [] := by
  intro t; rw [List.nil_append]; cases fetchStringP false t <;> simp

theorem scanUnit_append {u v : Bytes} (hu : ScanUnit u) (hv : ScanUnit v) : ScanUnit (u ++ v) := by
  intro t
  rw [List.append_assoc, hu, hv]
  cases fetchStringP false t <;> simp

theorem scanUnit_plain (u : Bytes) (h : ∀ c ∈ u, c ≠ 34 ∧ c ≠ 92) : ScanUnit u := by
  induction u with
  | nil => exact scanUnit_nil
  | cons c u ih =>
    intro t
    have hc := h c (by simp)
    have := ih (fun x hx => h x (by simp [hx])) t
    simp only [List.cons_append, fetchStringP, hc.1, hc.2, false_and, if_false, this]
    cases fetchStringP false t <;> simp

theorem scanUnit_esc (x : Nat) : ScanUnit [92, x] := by
  intro t
  simp [fetchStringP]
  cases fetchStringP false t <;> simp

theorem scanUnit_u (u : Bytes) (h : ∀ c ∈ u, c ≠ 34 ∧ c ≠ 92) : ScanUnit (92 :: 117 :: u) :=
  scanUnit_append (scanUnit_esc 117) (scanUnit_plain u h)

theorem scanUnit_escAscii (c : Nat) : ScanUnit (escAscii c) := by
  rcases escAscii_cases c with ⟨x, e, _⟩ | e | ⟨e, _, h34, h92⟩ <;> rw [e]
  · exact scanUnit_esc x
  · refine scanUnit_u _ ?_
    have := hexLower_ge (c / 16); have := hexLower_ge (c % 16)
    simp only [List.forall_mem_cons]
    exact ⟨by decide, by decide, by omega, by omega, fun _ h => nomatch h⟩
  · exact scanUnit_plain [c] (by simp only [List.forall_mem_cons]; exact ⟨⟨h34, h92⟩, fun _ h => nomatch h⟩)

theorem fetchString_plain (s rest : Bytes) (h : ∀ c ∈ s, c ≠ 34 ∧ c ≠ 92) :
    fetchString (s ++ 34 :: rest) = some (s, rest) := by
  unfold fetchString
  rw [scanUnit_plain s h]
  simp [fetchStringP]

theorem scanUnit_jsonEscape (s : Bytes) : ScanUnit (jsonEscape s) := by
  refine jsonEscape_ind (fun _ _ out => ScanUnit out) scanUnit_nil ?_ ?_ ?_ ?_ s
  · intro c r v out _ ih
    exact scanUnit_append (scanUnit_escAscii c) ih
  · intro c r v out _ ih
    exact scanUnit_append (scanUnit_u [102, 102, 102, 100] (by decide)) ih
  · intro q r v out hq ih
    exact scanUnit_append (scanUnit_u [50, 48, 50, hexLower (q % 16)] (by rcases hq with rfl | rfl <;> decide)) ih
  · intro blk r v out _ hb ih
    exact scanUnit_append (scanUnit_plain blk (fun x hx => by have := hb x hx; omega)) ih

/-- **the lexer finds exactly the end of what the writer wrote**, for every byte string `s` (valid UTF-8 or
not) and whatever follows the closing quote -/
theorem fetchString_jsonEscape (s rest : Bytes) :
    fetchString (jsonEscape s ++ 34 :: rest) = some (jsonEscape s, rest) := by
  unfold fetchString
  rw [scanUnit_jsonEscape s]
  simp [fetchStringP]

/-- the writer's output never contains a byte below 0x20 (in particular no raw newline) -/
theorem jsonEscape_no_ctl (s : Bytes) : ∀ c ∈ jsonEscape s, 32 ≤ c := by
  refine jsonEscape_ind (fun _ _ out => ∀ c ∈ out, 32 ≤ c) (fun _ h => nomatch h) ?_ ?_ ?_ ?_ s
  · intro c r v out _ ih
    refine List.forall_mem_append.2 ⟨?_, ih⟩
    have := hexLower_ge (c / 16); have := hexLower_ge (c % 16)
    rcases escAscii_cases c with ⟨x, e, hx⟩ | e | ⟨e, h32, _⟩ <;> rw [e]
    all_goals simp only [List.forall_mem_cons]
    · exact ⟨by decide, by omega, fun _ h => nomatch h⟩
    · exact ⟨by decide, by decide, by decide, by decide, by omega, by omega, fun _ h => nomatch h⟩
    · exact ⟨h32, fun _ h => nomatch h⟩
  · intro c r v out _ ih
    exact List.forall_mem_append.2 ⟨by decide, ih⟩
  · intro q r v out hq ih
    exact List.forall_mem_append.2 ⟨by rcases hq with rfl | rfl <;> decide, ih⟩
  · intro blk r v out _ hb ih
    exact List.forall_mem_append.2 ⟨fun b hb' => Nat.le_trans (by decide) (hb b hb'), ih⟩

theorem unescapeF_plain (u : Bytes) (h : 92 ∉ u) (f : Nat) (t : Bytes) :
    unescapeF (f + u.length) (u ++ t) = (unescapeF f t).map (fun o => u ++ o) := by
  induction u with
  | nil => cases h' : unescapeF f t <;> simp [h']
  | cons c u ih =>
    have hc : c ≠ 92 := fun e => h (by simp [e])
    have := ih (fun hx => h (by simp [hx]))
    show unescapeF (f + u.length + 1) (c :: (u ++ t)) = _
    simp only [unescapeF, hc, if_false, this]
    cases unescapeF f t <;> simp

theorem unescape_plain (s : Bytes) (h : 92 ∉ s) : unescape s = some s := by
  have := unescapeF_plain s h 1 []
  simp only [List.append_nil] at this
  unfold unescape
  rw [Nat.add_comm, this]
  simp [unescapeF]

theorem unescapeF_u00 (c f : Nat) (t : Bytes) (hc : c < 128) :
    unescapeF (f + 1) ([92, 117, 48, 48, hexLower (c / 16), hexLower (c % 16)] ++ t) =
      (unescapeF f t).map (fun o => c :: o) := by
  have h1 := hexVal_hexLower (c / 16) (by omega)
  have h2 := hexVal_hexLower (c % 16) (by omega)
  have h0 : hexVal 48 = some 0 := by decide
  have e : ((0 * 16 + 0) * 16 + c / 16) * 16 + c % 16 = c := by omega
  simp only [List.cons_append, List.nil_append, unescapeF, decodeEscape, getu4, h0, h1, h2, e]
  rw [if_neg (c := 55296 ≤ c ∧ c < 57344) (by omega)]
  simp [encodeRune, hc]

theorem unescapeF_escAscii (c f : Nat) (t : Bytes) (hc : c < 128) :
    unescapeF (f + 1) (escAscii c ++ t) = (unescapeF f t).map (fun o => c :: o) := by
  rcases escAscii_cases c with ⟨x, e, hx⟩ | e | ⟨e, _, _, h92⟩ <;> rw [e]
  · rcases hx with ⟨rfl, rfl⟩ | ⟨rfl, rfl⟩ | ⟨rfl, rfl⟩ | ⟨rfl, rfl⟩ | ⟨rfl, rfl⟩ <;>
      simp [unescapeF, decodeEscape, encodeRune]
  · exact unescapeF_u00 c f t hc
  · simp [unescapeF, h92]

/-- **unescape ∘ escape = id on valid UTF-8** (jlexer.String ∘ jwriter.String) -/
theorem unescape_jsonEscape (s : Bytes) (h : validUTF8 s = true) : unescape (jsonEscape s) = some s := by
  have key := jsonEscape_ind
    (fun s v out => v = true → ∀ f, out.length < f → unescapeF f out = some s) ?_ ?_ ?_ ?_ ?_ s
  · exact key h _ (Nat.lt_succ_self _)
  · intro _ f hf
    cases f with
    | zero => omega
    | succ f => simp [unescapeF]
  · intro c r v out hc ih hv f hf
    cases f with
    | zero => omega
    | succ f =>
      have : 0 < (escAscii c).length := by
        rcases escAscii_cases c with ⟨x, e, _⟩ | e | ⟨e, _⟩ <;> rw [e] <;> exact Nat.succ_pos _
      rw [List.length_append] at hf
      rw [unescapeF_escAscii c f out hc, ih hv f (by omega)]
      rfl
  · intro c r v out _ _ hv
    cases hv
  · intro q r v out hq ih hv f hf
    cases f with
    | zero => omega
    | succ f =>
      simp at hf
      rcases hq with rfl | rfl <;>
        simp [unescapeF, decodeEscape, getu4, hexVal, hexLower, encodeRune, ih hv f (by omega)]
  · intro blk r v out _ hb ih hv f hf
    simp at hf
    have hn : 92 ∉ blk := fun hx => by have := hb 92 hx; omega
    have := unescapeF_plain blk hn (f - blk.length) out
    rw [Nat.sub_add_cancel (by omega)] at this
    rw [this, ih hv _ (by omega)]
    rfl

-- `a<\n"` followed by U+2028 is written as `a\u003c\n\"\u2028`
example : jsonEscape [97, 60, 10, 34, 0xE2, 0x80, 0xA8] =
    [97, 92, 117, 48, 48, 51, 99, 92, 110, 92, 34, 92, 117, 50, 48, 50, 56] := by decide
example : unescape (jsonEscape [97, 60, 10, 34, 0xE2, 0x80, 0xA8]) =
    some [97, 60, 10, 34, 0xE2, 0x80, 0xA8] := by decide
example : fetchString (jsonEscape [97, 60, 10, 34, 0xE2, 0x80, 0xA8] ++ [34, 44, 34]) =
    some (jsonEscape [97, 60, 10, 34, 0xE2, 0x80, 0xA8], [44, 34]) := by decide
example : jsonString [34] = [34, 92, 34, 34] := by decide
-- an invalid byte is written as `\ufffd`, which reads back as U+FFFD: no round trip
example : validUTF8 [0xFF] = false := by decide
example : jsonEscape [0xFF] = [92, 117, 102, 102, 102, 100] := by decide
example : unescape (jsonEscape [0xFF]) = some [0xEF, 0xBF, 0xBD] := by decide
example : unescape (jsonEscape [0xFF]) ≠ some [0xFF] := by decide
-- multi-byte text is copied (é, €, U+1F600), a truncated sequence is not
example : jsonEscape [0xC3, 0xA9, 0xE2, 0x82, 0xAC, 0xF0, 0x9F, 0x98, 0x80] =
    [0xC3, 0xA9, 0xE2, 0x82, 0xAC, 0xF0, 0x9F, 0x98, 0x80] := by decide
example : jsonEscape [0xE2, 0x82] = [92, 117, 102, 102, 102, 100, 92, 117, 102, 102, 102, 100] := by decide
-- a raw backslash-quote in the input cannot end the token early
example : fetchString (jsonEscape [92, 34] ++ [34]) = some ([92, 92, 92, 34], []) := by decide

end Vegeta.Proofs.Codec
