/-
The kit's model of `time.ParseDuration` / `Duration.String` (`Vegeta.Go.Duration`): the parser
never panics, and it reads back what `String` prints for a positive duration (`parse_toString`;
zero and negative ones are not treated). The round trip goes
component by component (`ParsesTo`); the float64 arithmetic of a fraction is exact because all
the integers involved stay below 2^52.
-/
import Vegeta.Go.Duration
import Vegeta.Proofs.Rounding
import Vegeta.Proofs.Guards
namespace Vegeta.Proofs.DurationRoundTrip
open Vegeta.Go Vegeta.Go.Duration
open Vegeta.Proofs.Rounding
open Vegeta.Proofs.Guards (ite_ne)

/-- every exit of an iteration is `.ok`, `.error` or the next iteration -/
theorem parseLoopF_never_panics : ∀ (fuel : Nat) (s : Bytes) (d : Nat), parseLoopF fuel s d ≠ .panic
  | 0, _, _ => nofun
  | _ + 1, [], _ => nofun
  | fuel + 1, c0 :: t, d => by
    unfold parseLoopF
    refine ite_ne nofun ?_
    cases leadingInt (c0 :: t) 0 with
    | none => nofun
    | some p =>
      obtain ⟨v, s1⟩ := p
      dsimp only
      -- with or without a fraction, the rest of the iteration is the same chain of exits
      split
      all_goals
        dsimp only
        refine ite_ne nofun (ite_ne nofun ?_)
        generalize unitValue _ = uv
        cases uv with
        | none => nofun
        | some unit =>
        refine ite_ne nofun ?_
        split
        · nofun
        · exact ite_ne nofun (parseLoopF_never_panics fuel _ _)

theorem parse_never_panics (s : Bytes) : parse s ≠ .panic := by
  unfold parse
  dsimp only
  refine ite_ne nofun (ite_ne nofun ?_)
  generalize h : parseLoop _ 0 = r
  cases r with
  | ok d => exact ite_ne nofun (ite_ne nofun nofun)
  | error e => nofun
  | panic => exact absurd h (parseLoopF_never_panics _ _ _)

/-! ### decimal digits -/

def dFrom (acc : Nat) (ds : Bytes) : Nat := ds.foldl (fun n c => n * 10 + (c - 48)) acc
def Digs (ds : Bytes) : Prop := ∀ c ∈ ds, isDigit c = true
/-- the next byte, if any, is not a digit -/
def StopsAt (rest : Bytes) : Prop := ∀ c, rest.head? = some c → isDigit c = false

theorem dFrom_cons (acc c : Nat) (r : Bytes) : dFrom acc (c :: r) = dFrom (acc * 10 + (c - 48)) r := by
  simp [dFrom]

theorem dFrom_ge (ds : Bytes) : ∀ acc, acc ≤ dFrom acc ds := by
  induction ds with
  | nil => intro acc; simp [dFrom]
  | cons c rest ih =>
    intro acc
    have := ih (acc * 10 + (c - 48))
    rw [dFrom_cons]; omega

theorem dFrom_append (a b : Bytes) (acc : Nat) : dFrom acc (a ++ b) = dFrom (dFrom acc a) b := by
  simp [dFrom, List.foldl_append]

theorem digitsRev_spec (fuel : Nat) : ∀ n, n < fuel →
    Digs (digitsRev fuel n) ∧ digitsRev fuel n ≠ [] ∧
    (digitsRev fuel n).foldr (fun c n => n * 10 + (c - 48)) 0 = n := by
  induction fuel with
  | zero => intro n h; omega
  | succ f ih =>
    intro n h
    unfold digitsRev
    by_cases h10 : n < 10
    · simp only [h10, ↓reduceIte]
      refine ⟨?_, by simp, by simp⟩
      intro c hc; simp at hc; subst hc
      simp [isDigit]; omega
    · simp only [h10, ↓reduceIte]
      obtain ⟨h1, h2, h3⟩ := ih (n / 10) (by omega)
      refine ⟨?_, by simp, ?_⟩
      · intro c hc; simp at hc
        rcases hc with rfl | hc
        · simp [isDigit]; omega
        · exact h1 c hc
      · simp only [List.foldr_cons, h3]; omega

theorem fmtNat_spec (n : Nat) : Digs (fmtNat n) ∧ fmtNat n ≠ [] ∧ dFrom 0 (fmtNat n) = n := by
  obtain ⟨h1, h2, h3⟩ := digitsRev_spec (n + 1) n (by omega)
  refine ⟨?_, by simp [fmtNat, h2], ?_⟩
  · intro c hc; simp [fmtNat] at hc; exact h1 c hc
  · simp only [dFrom, fmtNat, List.foldl_reverse]; exact h3

theorem fmtNat_cons (x : Nat) : ∃ c tl, fmtNat x = c :: tl ∧ isDigit c = true := by
  obtain ⟨hd, hn, _⟩ := fmtNat_spec x
  cases h : fmtNat x with
  | nil => exact absurd h hn
  | cons a b => exact ⟨a, b, rfl, hd a (by rw [h]; simp)⟩

theorem leadingInt_digits (ds rest : Bytes) : ∀ x : Nat, Digs ds → StopsAt rest → dFrom x ds ≤ p63 →
    leadingInt (ds ++ rest) x = some (dFrom x ds, rest) := by
  induction ds with
  | nil =>
    intro x _ hr _
    cases rest with
    | nil => simp [leadingInt, dFrom]
    | cons c r => have := hr c rfl; simp [leadingInt, dFrom, this]
  | cons c r ih =>
    intro x hd hr hle
    have hc : isDigit c = true := hd c (by simp)
    have hd' : Digs r := fun y hy => hd y (by simp [hy])
    rw [dFrom_cons] at hle ⊢
    have hge := dFrom_ge r (x * 10 + (c - 48))
    simp only [List.cons_append, leadingInt, hc, ↓reduceIte]
    have h1 : ¬ x > p63 / 10 := by simp only [p63] at *; omega
    have h2 : ¬ x * 10 + (c - 48) > p63 := by omega
    simp only [h1, h2, ↓reduceIte]
    exact ih _ hd' hr hle

theorem leadingInt_fmtNat (v : Nat) (tail : Bytes) (hstop : StopsAt tail) (hv : v ≤ p63) :
    ∃ c0 tl, fmtNat v = c0 :: tl ∧ isDigit c0 = true ∧ leadingInt (c0 :: tl ++ tail) 0 = some (v, tail) := by
  obtain ⟨hdig, _, hval⟩ := fmtNat_spec v
  obtain ⟨c0, tl, hs, hc0⟩ := fmtNat_cons v
  have hli := leadingInt_digits (fmtNat v) tail 0 hdig hstop (by rw [hval]; exact hv)
  rw [hval, hs] at hli
  exact ⟨c0, tl, hs, hc0, hli⟩

theorem leadingFraction_digits (ds rest : Bytes) : ∀ x k : Nat, Digs ds → StopsAt rest → dFrom x ds < 1000000000000000000 →
    leadingFraction (ds ++ rest) x k false = (dFrom x ds, k + ds.length, rest) := by
  induction ds with
  | nil =>
    intro x k _ hr _
    cases rest with
    | nil => simp [leadingFraction, dFrom]
    | cons c r => have := hr c rfl; simp [leadingFraction, dFrom, this]
  | cons c r ih =>
    intro x k hd hr hle
    have hc : isDigit c = true := hd c (by simp)
    have hd' : Digs r := fun y hy => hd y (by simp [hy])
    rw [dFrom_cons] at hle ⊢
    have hge := dFrom_ge r (x * 10 + (c - 48))
    simp only [List.cons_append, leadingFraction, hc, ↓reduceIte, Bool.false_eq_true]
    have h1 : ¬ x > (p63 - 1) / 10 := by simp only [p63] at *; omega
    have h2 : ¬ x * 10 + (c - 48) > p63 := by simp only [p63] at *; omega
    simp only [h1, h2, ↓reduceIte]
    rw [ih _ _ hd' hr hle]
    simp; omega

theorem dFrom_lt_pow (ds : Bytes) : ∀ acc, Digs ds → dFrom acc ds < (acc + 1) * 10 ^ ds.length := by
  induction ds with
  | nil => intro acc _; simp [dFrom]
  | cons c r ih =>
    intro acc hd
    have hc := hd c (by simp)
    have hd' : Digs r := fun y hy => hd y (by simp [hy])
    rw [dFrom_cons]
    have h1 := ih (acc * 10 + (c - 48)) hd'
    have h2 : acc * 10 + (c - 48) + 1 ≤ (acc + 1) * 10 := by
      simp [isDigit] at hc; omega
    calc dFrom (acc * 10 + (c - 48)) r < (acc * 10 + (c - 48) + 1) * 10 ^ r.length := h1
      _ ≤ (acc + 1) * 10 * 10 ^ r.length := Nat.mul_le_mul_right _ h2
      _ = (acc + 1) * 10 ^ (c :: r).length := by rw [List.length_cons, Nat.pow_succ, Nat.mul_assoc, Nat.mul_comm 10]

theorem pow10_le (j : Nat) (hj : j ≤ 9) : 10 ^ j ≤ 1000000000 :=
  Nat.pow_le_pow_right (by omega) hj

/-! ### `fmtFrac` -/

theorem pow10_succ_mod (v p : Nat) : v % 10 ^ (p + 1) = v % 10 + 10 * (v / 10 % 10 ^ p) := by
  rw [Nat.pow_succ, Nat.mul_comm, Nat.mod_mul]

theorem pow10_succ_div (v p : Nat) : v / 10 / 10 ^ p = v / 10 ^ (p + 1) := by
  rw [Nat.div_div_eq_div_mul, Nat.pow_succ, Nat.mul_comm]

theorem digit_isDigit (v : Nat) : isDigit (48 + v % 10) = true := by
  simp [isDigit]; omega

theorem fmtFrac_true (p : Nat) : ∀ (v : Nat) (acc : Bytes), ∃ ds : Bytes,
    fmtFrac p v true acc = (46 :: (ds ++ acc), v / 10 ^ p) ∧ Digs ds ∧ ds.length = p ∧ dFrom 0 ds = v % 10 ^ p := by
  induction p with
  | zero => intro v acc; exact ⟨[], by simp [fmtFrac], by intro c hc; simp at hc, rfl, by simp [dFrom, Nat.mod_one]⟩
  | succ p ih =>
    intro v acc
    obtain ⟨ds, h1, h2, h3, h4⟩ := ih (v / 10) ((48 + v % 10) :: acc)
    refine ⟨ds ++ [48 + v % 10], ?_, ?_, by simp [h3], ?_⟩
    · simp only [fmtFrac, Bool.true_or, ↓reduceIte, h1, pow10_succ_div]
      simp
    · intro c hc; simp at hc; rcases hc with hc | rfl
      · exact h2 c hc
      · exact digit_isDigit v
    · rw [dFrom_append, h4, pow10_succ_mod]
      simp [dFrom]; omega

/-- `fmtFrac` from the start: nothing for a zero fraction, otherwise `.` and the fraction's
digits without trailing zeros -/
theorem fmtFrac_false (p : Nat) : ∀ v : Nat,
    (v % 10 ^ p = 0 ∧ fmtFrac p v false [] = ([], v / 10 ^ p)) ∨
    (v % 10 ^ p ≠ 0 ∧ ∃ ds : Bytes, fmtFrac p v false [] = (46 :: ds, v / 10 ^ p) ∧ Digs ds ∧ 1 ≤ ds.length ∧ ds.length ≤ p ∧
      dFrom 0 ds * 10 ^ (p - ds.length) = v % 10 ^ p) := by
  induction p with
  | zero => intro v; exact Or.inl ⟨Nat.mod_one v, by simp [fmtFrac]⟩
  | succ p ih =>
    intro v
    by_cases hd : v % 10 = 0
    · have hstep : fmtFrac (p + 1) v false [] = fmtFrac p (v / 10) false [] := by
        simp [fmtFrac, hd]
      rcases ih (v / 10) with ⟨h1, h2⟩ | ⟨h1, ds, h2, h3, h4, h5, h6⟩
      · refine Or.inl ⟨by rw [pow10_succ_mod, hd, h1], ?_⟩
        rw [hstep, h2, pow10_succ_div]
      · refine Or.inr ⟨by rw [pow10_succ_mod, hd]; omega, ds, ?_, h3, h4, by omega, ?_⟩
        · rw [hstep, h2, pow10_succ_div]
        · have : p + 1 - ds.length = (p - ds.length) + 1 := by omega
          rw [this, Nat.pow_succ, ← Nat.mul_assoc, h6, pow10_succ_mod, hd]; omega
    · have hb : (v % 10 != 0) = true := by simp [hd]
      have hstep : fmtFrac (p + 1) v false [] = fmtFrac p (v / 10) true [48 + v % 10] := by
        simp [fmtFrac, hb]
      obtain ⟨ds, h1, h2, h3, h4⟩ := fmtFrac_true p (v / 10) [48 + v % 10]
      refine Or.inr ⟨by rw [pow10_succ_mod]; omega, ds ++ [48 + v % 10], ?_, ?_, by simp, by simp [h3], ?_⟩
      · rw [hstep, h1, pow10_succ_div]
      · intro c hc; simp at hc; rcases hc with hc | rfl
        · exact h2 c hc
        · exact digit_isDigit v
      · have : p + 1 - (ds ++ [48 + v % 10]).length = 0 := by simp [h3]
        rw [this, dFrom_append, h4, pow10_succ_mod]
        simp [dFrom]; omega

theorem fmtFrac_snd (p v : Nat) : (fmtFrac p v false []).2 = v / 10 ^ p := by
  rcases fmtFrac_false p v with ⟨_, h⟩ | ⟨_, ds, h, _⟩ <;> rw [h]

/-! ### SoftF64 in general: integers below 2^52 are exact
(bare `p63` is `Duration.p63`; SoftF64's equal constant is written `F64.p63`) -/

theorem ofNat_norm (n : Nat) (h1 : 1 ≤ n) (h2 : n < 2 ^ 52) :
    ∃ K, 1 ≤ K ∧ K ≤ 52 ∧ IsNorm (F64.ofNat n) (n * 2 ^ K) K := by
  have hneg : decide ((n : Int) < 0) = false := decide_eq_false (by omega)
  simpa [F64.ofInt, F64.ofNat, hneg] using ofInt_norm n (by omega) (by omega)

theorem rq_exact (x d : Nat) (hd : 0 < d) : rq (x * d) d = x := by
  have : (0 == d) = false := by simp; omega
  simp [rq, Nat.mul_div_cancel _ hd, this]

theorem roundRat_cancel (N c : Nat) (hc : 0 < c) (h1 : 1 ≤ N) (h2 : N < 2 ^ 52) :
    F64.roundRat false (N * c) c = F64.ofNat N := by
  obtain ⟨K, hK1, hK2, hlo, hhi⟩ := bracket_exists N 1 (by decide) h1 (by omega)
  have e : N * c * 2 ^ K = N * 2 ^ K * c := Nat.mul_right_comm _ _ _
  rw [F64.ofNat, roundRat_eq N 1 K (by decide) hK1 hK2 hlo hhi,
    roundRat_eq (N * c) c K hc hK1 hK2 (by rw [e]; exact Nat.mul_le_mul_right c (by omega))
      (by rw [e]; exact Nat.mul_lt_mul_of_pos_right (by omega) hc),
    e, rq_exact _ c hc, ← Nat.mul_one (N * 2 ^ K), rq_exact _ 1 (by decide), Nat.mul_one]

theorem mul_ofNat (a b : Nat) (ha : 0 < a) (hb : 0 < b) (hab : a * b < 2 ^ 52) :
    F64.mul (F64.ofNat a) (F64.ofNat b) = F64.ofNat (a * b) := by
  obtain ⟨Ka, hKa, _, na⟩ := ofNat_norm a ha (Nat.lt_of_le_of_lt (Nat.le_mul_of_pos_right a hb) hab)
  obtain ⟨Kb, _, _, nb⟩ := ofNat_norm b hb (Nat.lt_of_le_of_lt (Nat.le_mul_of_pos_left b ha) hab)
  rw [mul_norm _ _ _ _ _ _ na nb (by omega),
    show a * 2 ^ Ka * (b * 2 ^ Kb) = a * b * 2 ^ (Ka + Kb) by rw [Nat.pow_add]; ac_rfl]
  exact roundRat_cancel _ _ (Nat.two_pow_pos _) (Nat.mul_pos ha hb) hab

theorem div_ofNat (q b : Nat) (hq : 0 < q) (hb : 0 < b) (hqb : q * b < 2 ^ 52) :
    F64.div (F64.ofNat (q * b)) (F64.ofNat b) = F64.ofNat q := by
  have hq52 : q < 2 ^ 52 := Nat.lt_of_le_of_lt (Nat.le_mul_of_pos_right q hb) hqb
  obtain ⟨Ka, _, _, na⟩ := ofNat_norm (q * b) (Nat.mul_pos hq hb) hqb
  obtain ⟨Kb, _, _, nb⟩ := ofNat_norm b hb (Nat.lt_of_le_of_lt (Nat.le_mul_of_pos_left b hq) hqb)
  rw [div_norm _ _ _ _ _ _ na nb]
  split
  · next h =>
    rw [show q * b * 2 ^ Ka * 2 ^ (Kb - Ka) = q * (b * 2 ^ Kb) by
      rw [Nat.mul_assoc, ← Nat.pow_add, show Ka + (Kb - Ka) = Kb by omega, Nat.mul_assoc]]
    exact roundRat_cancel _ _ (Nat.mul_pos hb (Nat.two_pow_pos _)) hq hq52
  · next h =>
    rw [show q * b * 2 ^ Ka = q * (b * 2 ^ Kb * 2 ^ (Ka - Kb)) by
      rw [Nat.mul_assoc b, ← Nat.pow_add, show Kb + (Ka - Kb) = Ka by omega, Nat.mul_assoc]]
    exact roundRat_cancel _ _ (Nat.mul_pos (Nat.mul_pos hb (Nat.two_pow_pos _)) (Nat.two_pow_pos _)) hq hq52

theorem p63_fields : (F64.ofNat F64.p63).isNaN = false ∧ (F64.ofNat F64.p63).isInf = false ∧ (F64.ofNat F64.p63).sign = false ∧
    (F64.ofNat F64.p63).mant = 2 ^ 52 ∧ (F64.ofNat F64.p63).expo = 11 := by decide

theorem toUInt64_ofNat (n : Nat) (h0 : 0 < n) (h : n < 2 ^ 52) : F64.toUInt64 (F64.ofNat n) = n := by
  obtain ⟨K, _, hK, hn⟩ := ofNat_norm n h0 h
  obtain ⟨c1, c2, c3, c4, c5⟩ := p63_fields
  have hM := hn.hi
  -- below 2^63, so the conversion is `int64(x)` reinterpreted
  have hlt : F64.lt (F64.ofNat n) (F64.ofNat F64.p63) = true := by
    unfold F64.lt F64.cmpKey
    simp only [hn.notNaN, hn.notInf, hn.sign, hn.mant, hn.expo, c1, c2, c3, c4, c5, Bool.or_self, Bool.false_eq_true, ↓reduceIte]
    rw [show min (-(K : Int)) 11 = -(K : Int) by omega, show (-(K : Int) - -(K : Int)).toNat = 0 by omega,
      show ((11 : Int) - -(K : Int)).toNat = 11 + K by omega, decide_eq_true_eq]
    have : 2 ^ 53 ≤ 2 ^ 52 * 2 ^ (11 + K) := by
      rw [← Nat.pow_add]; exact Nat.pow_le_pow_right (by omega) (by omega)
    simp only [F64.p53] at hM
    exact_mod_cast (by omega : n * 2 ^ K * 2 ^ 0 < 2 ^ 52 * 2 ^ (11 + K))
  unfold F64.toUInt64
  rw [hlt, if_pos rfl, toInt64_norm _ _ _ hn hK, Nat.mul_div_cancel _ (Nat.two_pow_pos K)]
  exact wrapU64_id (by unfold inU64 two64; omega)

/-- Go's iterated `scale *= 10` is exactly `10^k` as long as the products stay below 2^52. -/
theorem scalePow_exact (k : Nat) (h : k ≤ 15) : scalePow k = F64.ofNat (10 ^ k) := by
  induction k with
  | zero => rfl
  | succ k ih =>
    have h52 : 10 ^ k * 10 < 2 ^ 52 := by
      have : 10 ^ k ≤ 10 ^ 14 := Nat.pow_le_pow_right (by omega) (by omega)
      omega
    rw [scalePow, ih (by omega), mul_ofNat _ _ (Nat.pow_pos (by omega)) (by omega) h52, Nat.pow_succ]

/-- Up to 9 accepted digits (all that `Duration.String` ever writes) the scale is exactly `10^k`. -/
theorem scalePow_le9 (k : Nat) (h : k ≤ 9) : scalePow k = F64.ofNat (10 ^ k) :=
  scalePow_exact k (by omega)

theorem frac_add (p : Nat) (hp : p ≤ 9) (f k : Nat) (hkp : k ≤ p) (hf : 0 < f) (hfk : f < 10 ^ k) :
    (F64.toUInt64 (F64.mul (F64.ofNat f) (F64.div (F64.ofNat (10 ^ p)) (F64.ofNat (10 ^ k))))).toNat = f * 10 ^ (p - k) := by
  have hpos : 0 < 10 ^ (p - k) := Nat.pow_pos (by omega)
  have hsplit : 10 ^ (p - k) * 10 ^ k = 10 ^ p := by rw [← Nat.pow_add]; congr 1; omega
  have h9 := pow10_le p hp
  have h52 : f * 10 ^ (p - k) < 2 ^ 52 := by
    have : f * 10 ^ (p - k) < 10 ^ k * 10 ^ (p - k) := Nat.mul_lt_mul_of_pos_right hfk hpos
    rw [Nat.mul_comm (10 ^ k), hsplit] at this
    omega
  rw [← hsplit, div_ofNat _ _ hpos (Nat.pow_pos (by omega)) (by rw [hsplit]; omega),
    mul_ofNat f _ hf hpos h52, toUInt64_ofNat _ (Nat.mul_pos hf hpos) h52]
  exact Int.toNat_natCast _

/-! ### one component of the parse loop -/

/-- unit names consist of bytes that are neither digits nor '.' -/
def UnitChars (u : Bytes) : Prop := ∀ c ∈ u, (c == 46 || isDigit c) = false
/-- what follows a component: nothing, or the next component's first digit -/
def NextOK (rest : Bytes) : Prop := ∀ c, rest.head? = some c → isDigit c = true

theorem spanUnit_unit (u rest : Bytes) (hu : UnitChars u) (hr : NextOK rest) : spanUnit (u ++ rest) = (u, rest) := by
  induction u with
  | nil =>
    cases rest with
    | nil => simp [spanUnit]
    | cons c r => have := hr c rfl; simp [spanUnit, this]
  | cons c r ih =>
    have hc := hu c (by simp)
    have := ih (fun x hx => hu x (by simp [hx]))
    simp [spanUnit, hc, this]

theorem unitchars_stops (u rest : Bytes) (hu : UnitChars u) (hne : u ≠ []) : StopsAt (u ++ rest) := by
  intro c hc
  cases u with
  | nil => contradiction
  | cons a r =>
    simp at hc; subst hc
    have := hu a (by simp)
    simp at this; exact this.2

theorem nextok_fmtNat (x : Nat) (t : Bytes) : NextOK (fmtNat x ++ t) := by
  obtain ⟨c0, tl, hs, hc0⟩ := fmtNat_cons x
  intro c hc
  rw [hs] at hc; simp at hc; subst hc
  exact hc0

theorem unit_bounds {v U d : Nat} (hU0 : 0 < U) (hd : d + v * U ≤ p63) : v ≤ p63 ∧ ¬ v > p63 / U := by
  have h1 : v * U ≤ p63 := Nat.le_trans (Nat.le_add_left _ _) hd
  exact ⟨Nat.le_trans (Nat.le_mul_of_pos_right v hU0) h1, Nat.not_lt.mpr ((Nat.le_div_iff_mul_le hU0).mpr h1)⟩

theorem fits {x : Nat} (h : x ≤ p63) : x % two64 = x ∧ ¬ x > p63 :=
  ⟨Nat.mod_eq_of_lt (Nat.lt_of_le_of_lt h (by decide)), Nat.not_lt.mpr h⟩

/-- `s` reads as `X` nanoseconds: from any start `d` with `d + X` in range, and with more fuel
than bytes (what `parseLoop` provides, and what every iteration preserves since it uses one unit
of fuel and at least one byte), the loop ends in `d + X`. -/
def ParsesTo (s : Bytes) (X : Nat) : Prop :=
  ∀ d fuel, d + X ≤ p63 → s.length < fuel → parseLoopF fuel s d = .ok (d + X)

theorem parsesTo_nil : ParsesTo [] 0 := by
  intro d fuel _ hf
  obtain ⟨f, rfl⟩ : ∃ f, fuel = f + 1 := ⟨fuel - 1, by simp at hf; omega⟩
  rfl

/-- a component in front: one iteration that takes `s` to `rest` and adds `Y` -/
theorem parsesTo_step {s rest : Bytes} {X Y : Nat} (h : ParsesTo rest X) (hlt : rest.length < s.length)
    (step : ∀ d f, d + Y ≤ p63 → parseLoopF (f + 1) s d = parseLoopF f rest (d + Y)) : ParsesTo s (Y + X) := by
  intro d fuel hdX hf
  obtain ⟨f, rfl⟩ : ∃ f, fuel = f + 1 := ⟨fuel - 1, by omega⟩
  rw [step d f (by omega), h _ f (by omega) (by omega), Nat.add_assoc]

theorem parsesTo_int_then {rest : Bytes} {X : Nat} (h : ParsesTo rest X) (hr : NextOK rest) (v : Nat) (u : Bytes)
    (U : Nat) (hu : UnitChars u) (hne : u ≠ []) (hU : unitValue u = some U) (hU0 : 0 < U) :
    ParsesTo (fmtNat v ++ (u ++ rest)) (v * U + X) := by
  have hupos := List.length_pos_iff.mpr hne
  refine parsesTo_step h (by simp only [List.length_append]; omega) fun d f hd => ?_
  obtain ⟨hv, hvU⟩ := unit_bounds hU0 hd
  obtain ⟨c0, tl, hs, hc0, hli⟩ := leadingInt_fmtNat v (u ++ rest) (unitchars_stops u rest hu hne) hv
  obtain ⟨a, r, rfl⟩ := List.exists_cons_of_ne_nil hne
  have ha : a ≠ 46 := by
    have := hu a (by simp)
    simp at this; exact this.1
  conv => lhs; unfold parseLoopF
  rw [hs]
  simp only [List.cons_append, hc0, Bool.or_true, Bool.not_true, Bool.false_eq_true, ↓reduceIte]
  simp only [List.cons_append] at hli
  rw [hli]
  dsimp only
  split
  · rename_i heq; injection heq with h1 _; exact absurd h1 ha
  · have hsp := spanUnit_unit (a :: r) rest hu hr
    simp only [List.cons_append] at hsp
    have hpre : ((c0 :: (tl ++ a :: (r ++ rest))).length != (a :: (r ++ rest)).length) = true := by
      simp; omega
    simp only [hpre, hsp, hU, hvU, Bool.not_true, Bool.false_and, Bool.false_eq_true, ↓reduceIte, reduceCtorEq,
      Nat.lt_irrefl, gt_iff_lt]
    simp only [fits hd, ↓reduceIte]

theorem parsesTo_frac_then {rest : Bytes} {X : Nat} (h : ParsesTo rest X) (hr : NextOK rest) (v : Nat) (ds u : Bytes)
    (U add : Nat) (hu : UnitChars u) (hne : u ≠ []) (hU : unitValue u = some U) (hU0 : 0 < U)
    (hds : Digs ds) (hlen : ds.length ≤ 9) (hpos : dFrom 0 ds > 0)
    (hadd : (F64.toUInt64 (F64.mul (F64.ofNat (dFrom 0 ds)) (F64.div (F64.ofNat U) (F64.ofNat (10 ^ ds.length))))).toNat = add) :
    ParsesTo (fmtNat v ++ 46 :: (ds ++ (u ++ rest))) (v * U + add + X) := by
  refine parsesTo_step h (by simp only [List.length_append, List.length_cons]; omega) fun d f hd => ?_
  obtain ⟨hv, hvU⟩ := unit_bounds hU0 (Nat.le_trans (by omega) hd : 0 + v * U ≤ p63)
  have hstop : StopsAt (46 :: (ds ++ (u ++ rest))) := by
    intro c hc; simp at hc; subst hc; decide
  obtain ⟨c0, tl, hs, hc0, hli⟩ := leadingInt_fmtNat v _ hstop hv
  have hsmall : dFrom 0 ds < 1000000000000000000 := by
    have h1 := dFrom_lt_pow ds 0 hds
    have h2 := pow10_le _ hlen
    omega
  have hlf := leadingFraction_digits ds (u ++ rest) 0 0 hds (unitchars_stops u rest hu hne) hsmall
  have hsp := spanUnit_unit u rest hu hr
  conv => lhs; unfold parseLoopF
  rw [hs]
  simp only [List.cons_append, hc0, Bool.or_true, Bool.not_true, Bool.false_eq_true, ↓reduceIte]
  simp only [List.cons_append] at hli
  rw [hli]
  simp only [hlf, hsp, Nat.zero_add]
  have hpre : ((c0 :: (tl ++ 46 :: (ds ++ (u ++ rest)))).length != (46 :: (ds ++ (u ++ rest))).length) = true := by
    simp; omega
  simp only [hpre, hne, hU, hvU, hpos, scalePow_le9 _ hlen, hadd, Bool.not_true, Bool.false_and, Bool.false_eq_true, ↓reduceIte]
  simp only [fits (Nat.le_trans (Nat.le_add_left _ d) hd), fits hd, ↓reduceIte]

/-- The component `Duration.String` writes last: `w`, then `u0`'s last `p` digits as the fraction
(nothing at all when they are zero, or when `p = 0`: whole nanoseconds), then the unit `10^p` ns. -/
theorem last_component (p : Nat) (hp : p ≤ 9) (unit : Bytes)
    (hu : UnitChars unit) (hne : unit ≠ []) (hUv : unitValue unit = some (10 ^ p)) (u0 w : Nat) :
    ParsesTo (fmtNat w ++ ((fmtFrac p u0 false []).1 ++ unit)) (w * 10 ^ p + u0 % 10 ^ p) := by
  have hnil : NextOK [] := by intro c hc; simp at hc
  have hU0 : 0 < 10 ^ p := Nat.pow_pos (by omega)
  rcases fmtFrac_false p u0 with ⟨hz, hff⟩ | ⟨hnz, ds, hff, hds, hk1, hkp, hval⟩
  · rw [hff, hz]
    simpa using parsesTo_int_then parsesTo_nil hnil w unit _ hu hne hUv hU0
  · rw [hff]
    have hfpos : 0 < dFrom 0 ds := by
      rcases Nat.eq_zero_or_pos (dFrom 0 ds) with h0 | h0
      · rw [h0] at hval; simp at hval; exact absurd hval.symm hnz
      · exact h0
    have hflt : dFrom 0 ds < 10 ^ ds.length := by simpa using dFrom_lt_pow ds 0 hds
    have hadd := frac_add p hp (dFrom 0 ds) ds.length hkp hfpos hflt
    rw [hval] at hadd
    simpa using parsesTo_frac_then parsesTo_nil hnil w ds unit _ _ hu hne hUv hU0 hds (by omega) hfpos hadd

/-! ### `ParseDuration(d.String()) = d` -/

def uNs : Bytes := [110, 115]
def uUs : Bytes := [194, 181, 115]
def uMs : Bytes := [109, 115]
def uS : Bytes := [115]
def uM : Bytes := [109]
def uH : Bytes := [104]

theorem units_ok :
    (UnitChars uNs ∧ unitValue uNs = some 1) ∧ (UnitChars uUs ∧ unitValue uUs = some 1000) ∧
    (UnitChars uMs ∧ unitValue uMs = some 1000000) ∧ (UnitChars uS ∧ unitValue uS = some 1000000000) ∧
    (UnitChars uM ∧ unitValue uM = some 60000000000) ∧ (UnitChars uH ∧ unitValue uH = some 3600000000000) := by
  unfold UnitChars; decide

/-- the text `Duration.String` produces for a positive duration of `u` nanoseconds -/
def body (u : Nat) : Bytes :=
  if u < 1000000000 then
    if u < 1000 then fmtNat u ++ uNs
    else if u < 1000000 then fmtNat (fmtFrac 3 u false []).2 ++ ((fmtFrac 3 u false []).1 ++ uUs)
    else fmtNat (fmtFrac 6 u false []).2 ++ ((fmtFrac 6 u false []).1 ++ uMs)
  else
    let secs := (fmtFrac 9 u false []).2
    let sPart := fmtNat (secs % 60) ++ ((fmtFrac 9 u false []).1 ++ uS)
    let mins := secs / 60
    if mins > 0 then
      let mPart := fmtNat (mins % 60) ++ (uM ++ sPart)
      let hrs := mins / 60
      if hrs > 0 then fmtNat hrs ++ (uH ++ mPart) else mPart
    else sPart

theorem toString_pos (u : Nat) (h0 : 0 < u) (hmax : u ≤ 9223372036854775807) : Duration.toString (u : Int) = body u := by
  have hneg : ¬ ((u : Int) < 0) := by omega
  have hw : (wrapU64 (u : Int)).toNat = u := by
    rw [wrapU64_id (by unfold inU64 two64; omega)]; exact Int.toNat_natCast u
  have hu0 : (u == 0) = false := by simp; omega
  unfold Duration.toString body
  simp only [hneg, Bool.false_eq_true, ↓reduceIte, hw, hu0, uNs, uUs, uMs, uS, uM, uH,
    List.append_assoc]

/-- From the loop's result to `ParseDuration`'s: a text the loop reads as a positive value starts with
a digit or `.`, so it carries no sign, and is not the special case `"0"`. -/
theorem parse_of_loop (s : Bytes) (u : Nat) (h0 : 0 < u) (hu : u ≤ p63 - 1) (hloop : parseLoop s 0 = .ok u) :
    parse s = .ok (u : Int) := by
  cases s with
  | nil => cases hloop; omega
  | cons c0 t =>
    have hc : (c0 == 46 || isDigit c0) = true := by
      cases hb : (c0 == 46 || isDigit c0) with
      | true => rfl
      | false => rw [parseLoop, parseLoopF] at hloop; simp [hb] at hloop
    have h45 : c0 ≠ 45 ∧ c0 ≠ 43 := by simp [isDigit] at hc; omega
    have h48 : (c0 :: t == [48]) = false := by
      cases h : c0 :: t == [48] with
      | false => rfl
      | true => rw [eq_of_beq h, show parseLoop [48] 0 = .error eMissingUnit by decide] at hloop; nomatch hloop
    unfold parse
    split
    · rename_i heq
      split at heq
      · rename_i h2; injection h2 with h3 _; exact absurd h3 h45.1
      · rename_i h2; injection h2 with h3 _; exact absurd h3 h45.2
      · injection heq with hneg hs1
        subst hneg; subst hs1
        have h2 : ((c0 :: t) == ([] : Bytes)) = false := by simp
        have : ¬ u > p63 - 1 := by omega
        simp only [h48, h2, Bool.false_eq_true, ↓reduceIte, hloop, this]

theorem body_parses (u : Nat) : ParsesTo (body u) u := by
  obtain ⟨⟨cNs, vNs⟩, ⟨cUs, vUs⟩, ⟨cMs, vMs⟩, ⟨cS, vS⟩, ⟨cM, vM⟩, ⟨cH, vH⟩⟩ := units_ok
  unfold body
  by_cases h9 : u < 1000000000
  · simp only [h9, ↓reduceIte]
    by_cases h3 : u < 1000
    · simp only [h3, ↓reduceIte]
      -- whole nanoseconds: precision 0, no fraction
      simpa [fmtFrac] using last_component 0 (by decide) uNs cNs (by decide) vNs 0 u
    · simp only [h3, ↓reduceIte]
      by_cases h6 : u < 1000000
      · simp only [h6, ↓reduceIte, fmtFrac_snd]
        have := last_component 3 (by decide) uUs cUs (by decide) vUs u (u / 10 ^ 3)
        rwa [Nat.div_add_mod'] at this
      · simp only [h6, ↓reduceIte, fmtFrac_snd]
        have := last_component 6 (by decide) uMs cMs (by decide) vMs u (u / 10 ^ 6)
        rwa [Nat.div_add_mod'] at this
  · simp only [h9, ↓reduceIte, fmtFrac_snd]
    have hsec := last_component 9 (by decide) uS cS (by decide) vS u (u / 10 ^ 9 % 60)
    have hsp := nextok_fmtNat (u / 10 ^ 9 % 60) ((fmtFrac 9 u false []).1 ++ uS)
    generalize fmtNat (u / 10 ^ 9 % 60) ++ ((fmtFrac 9 u false []).1 ++ uS) = sPart at hsec hsp ⊢
    have hmin := parsesTo_int_then hsec hsp (u / 10 ^ 9 / 60 % 60) uM 60000000000 cM (by decide) vM (by decide)
    by_cases hm : u / 10 ^ 9 / 60 > 0
    · simp only [hm, ↓reduceIte]
      by_cases hh : u / 10 ^ 9 / 60 / 60 > 0
      · simp only [hh, ↓reduceIte]
        have := parsesTo_int_then hmin (nextok_fmtNat _ _) (u / 10 ^ 9 / 60 / 60) uH 3600000000000 cH (by decide) vH (by decide)
        -- hours, minutes, seconds and the nanoseconds below a second add up to `u`
        rwa [show u / 10 ^ 9 / 60 / 60 * 3600000000000 +
          (u / 10 ^ 9 / 60 % 60 * 60000000000 + (u / 10 ^ 9 % 60 * 10 ^ 9 + u % 10 ^ 9)) = u by omega] at this
      · simp only [hh, ↓reduceIte]
        rwa [show u / 10 ^ 9 / 60 % 60 * 60000000000 + (u / 10 ^ 9 % 60 * 10 ^ 9 + u % 10 ^ 9) = u by omega] at hmin
    · simp only [hm, ↓reduceIte]
      rwa [show u / 10 ^ 9 % 60 * 10 ^ 9 + u % 10 ^ 9 = u by omega] at hsec

/-- **`time.ParseDuration(d.String()) = d`** for every positive duration (model of Go's
functions, including the float64 arithmetic of the fraction). -/
theorem parse_toString (d : Int) (h0 : 0 < d) (hmax : d ≤ maxInt64) : parse (Duration.toString d) = .ok d := by
  obtain ⟨u, rfl⟩ : ∃ u : Nat, d = u := ⟨d.toNat, by omega⟩
  have hu0 : 0 < u := by omega
  have hum : u ≤ 9223372036854775807 := by simp only [maxInt64] at hmax; omega
  have hloop := body_parses u 0 _ (by simp only [p63]; omega) (Nat.lt_add_one _)
  rw [Nat.zero_add] at hloop
  rw [toString_pos u hu0 hum]
  exact parse_of_loop (body u) u hu0 (by simp only [p63]; omega) hloop

end Vegeta.Proofs.DurationRoundTrip
