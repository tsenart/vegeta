/-
The independent reader of the documented JSON layout (`Spec/Layout.lean`: its own tokenizer and
object grammar, the documented member names and units) reads every record written by the model
of the JSON encoder back to exactly the result that was written.

The RFC 3339 layer is taken as the hypothesis `TimeText` (proved in `Proofs/CodecRFC3339.lean`).
-/
import Vegeta.Proofs.CodecDomain
import Vegeta.Proofs.CodecDecimal
import Vegeta.Proofs.CodecBase64
import Vegeta.Proofs.CodecJSONString
import Vegeta.Proofs.CodecJSONResult
import Vegeta.Spec.Layout
namespace Vegeta.Proofs.Codec
open Vegeta.Go Vegeta.Model.Codec Vegeta.Spec.Layout

/-- `s` tokenizes to `ts` with any sufficient fuel -/
def Toks (s : Bytes) (ts : List JTok) : Prop :=
  ∀ fuel, s.length < fuel → tokenizeF fuel s = some ts

theorem toks_tokenize {s : Bytes} {ts : List JTok} (h : Toks s ts) : tokenize s = some ts :=
  h _ (Nat.lt_succ_self _)

theorem toks_nil : Toks [] [] := by
  intro fuel hf
  cases fuel with
  | zero => simp at hf
  | succ f => rfl

theorem toks_step {s tail : Bytes} {pre ts : List JTok} (hlen : tail.length < s.length)
    (hstep : ∀ f, tokenizeF (f + 1) s = (tokenizeF f tail).map (pre ++ ·)) (h : Toks tail ts) :
    Toks s (pre ++ ts) := by
  intro fuel hf
  cases fuel with
  | zero => simp at hf
  | succ f => rw [hstep, h f (by omega)]; rfl

theorem toks_lbrace {tail : Bytes} {ts : List JTok} (h : Toks tail ts) : Toks (123 :: tail) (.lbrace :: ts) :=
  toks_step (pre := [.lbrace]) (by simp) (fun f => by simp [tokenizeF, isJSONSpace]) h

theorem toks_rbrace {tail : Bytes} {ts : List JTok} (h : Toks tail ts) : Toks (125 :: tail) (.rbrace :: ts) :=
  toks_step (pre := [.rbrace]) (by simp) (fun f => by simp [tokenizeF, isJSONSpace]) h

theorem toks_lbrack {tail : Bytes} {ts : List JTok} (h : Toks tail ts) : Toks (91 :: tail) (.lbrack :: ts) :=
  toks_step (pre := [.lbrack]) (by simp) (fun f => by simp [tokenizeF, isJSONSpace]) h

theorem toks_rbrack {tail : Bytes} {ts : List JTok} (h : Toks tail ts) : Toks (93 :: tail) (.rbrack :: ts) :=
  toks_step (pre := [.rbrack]) (by simp) (fun f => by simp [tokenizeF, isJSONSpace]) h

theorem toks_colon {tail : Bytes} {ts : List JTok} (h : Toks tail ts) : Toks (58 :: tail) (.colon :: ts) :=
  toks_step (pre := [.colon]) (by simp) (fun f => by simp [tokenizeF, isJSONSpace]) h

theorem toks_comma {tail : Bytes} {ts : List JTok} (h : Toks tail ts) : Toks (44 :: tail) (.comma :: ts) :=
  toks_step (pre := [.comma]) (by simp) (fun f => by simp [tokenizeF, isJSONSpace]) h

/-- the newline that ends the record is white space -/
theorem toks_newline {tail : Bytes} {ts : List JTok} (h : Toks tail ts) : Toks (10 :: tail) ts :=
  toks_step (pre := []) (by simp) (fun f => by simp [tokenizeF, isJSONSpace]) h

theorem toks_null {tail : Bytes} {ts : List JTok} (h : Toks tail ts) :
    Toks (110 :: 117 :: 108 :: 108 :: tail) (.null :: ts) :=
  toks_step (pre := [.null]) (by simp; omega) (fun f => by simp [tokenizeF, isJSONSpace, isDigitB]) h

/-- a quoted text without `"` and `\` (member names, base64, the timestamp) -/
theorem toks_plain (n : Bytes) (hn : ∀ c ∈ n, c ≠ 34 ∧ c ≠ 92) {tail : Bytes} {ts : List JTok}
    (h : Toks tail ts) : Toks (34 :: (n ++ 34 :: tail)) (.str n :: ts) :=
  toks_step (pre := [.str n]) (by simp; omega) (fun f => by
    simp [tokenizeF, isJSONSpace, fetchString_plain n tail hn, unescape_plain n (plain_of_no_bs hn)]) h

theorem toks_jsonString (s : Bytes) (hs : validUTF8 s = true) {tail : Bytes} {ts : List JTok}
    (h : Toks tail ts) : Toks (jsonString s ++ tail) (.str s :: ts) :=
  toks_step (pre := [.str s]) (by simp [jsonString]; omega) (fun f => by
    simp [jsonString, tokenizeF, isJSONSpace, fetchString_jsonEscape, unescape_jsonEscape s hs]) h

/-- a sign or digit is none of the bytes the tokenizer looks for before a number -/
theorem numStart_spec {d : Nat} (hd : d = 45 ∨ (48 ≤ d ∧ d ≤ 57)) :
    isJSONSpace d = false ∧ (isDigitB d || d == 45) = true ∧
    d ≠ 123 ∧ d ≠ 125 ∧ d ≠ 91 ∧ d ≠ 93 ∧ d ≠ 58 ∧ d ≠ 44 ∧ d ≠ 34 := by
  refine ⟨by simp [isJSONSpace]; omega, by simp [isDigitB]; omega, ?_⟩
  omega

theorem toks_num (d : Nat) (ds : Bytes) (c : Nat) (t : Bytes) {ts : List JTok}
    (hd : d = 45 ∨ (48 ≤ d ∧ d ≤ 57)) (hds : ∀ x ∈ ds, 48 ≤ x ∧ x ≤ 57)
    (hc : isNumByte c = false) (h : Toks (c :: t) ts) :
    Toks (d :: (ds ++ c :: t)) (.num (d :: ds) :: ts) := by
  intro fuel hf
  cases fuel with
  | zero => simp at hf
  | succ f =>
    have := h f (by simp at hf ⊢; omega)
    have hp : ∀ x ∈ ds, isNumByte x = true := by
      intro x hx
      have := hds x hx
      simp [isNumByte, isDigitB, this]
    obtain ⟨h1, h2⟩ := takeWhile_dropWhile_prefix isNumByte ds c t hp hc
    obtain ⟨hsp, hdig, e1, e2, e3, e4, e5, e6, e7⟩ := numStart_spec hd
    unfold tokenizeF
    rw [hsp, if_neg (by simp), if_neg e1, if_neg e2, if_neg e3, if_neg e4, if_neg e5, if_neg e6, if_neg e7,
      if_pos hdig, h1, h2, this]
    rfl

theorem toks_fmtNat (n : Nat) {tail : Bytes} {ts : List JTok} (h : Toks (44 :: tail) ts) :
    Toks (fmtNat n ++ 44 :: tail) (.num (fmtNat n) :: ts) := by
  obtain ⟨d, ds, e, hd, hds⟩ := fmtNat_cons n
  rw [e]
  exact toks_num d ds 44 tail (Or.inr hd) hds (by decide) h

theorem toks_fmtInt (i : Int) {tail : Bytes} {ts : List JTok} (h : Toks (44 :: tail) ts) :
    Toks (fmtInt i ++ 44 :: tail) (.num (fmtInt i) :: ts) := by
  obtain ⟨d, ds, e, hd, hds⟩ := fmtInt_cons i
  rw [e]
  exact toks_num d ds 44 tail hd hds (by decide) h

def commaJoinT : List (List JTok) → List JTok
  | [] => []
  | [x] => x
  | x :: y :: r => x ++ .comma :: commaJoinT (y :: r)

theorem toks_commaJoin {α : Type} (f : α → Bytes) (g : α → List JTok) (xs : List α)
    (hx : ∀ x ∈ xs, ∀ tail ts, Toks tail ts → Toks (f x ++ tail) (g x ++ ts))
    {tail : Bytes} {ts : List JTok} (h : Toks tail ts) :
    Toks (commaJoin (xs.map f) ++ tail) (commaJoinT (xs.map g) ++ ts) := by
  induction xs with
  | nil => simpa [commaJoin, commaJoinT] using h
  | cons x xs ih =>
    cases xs with
    | nil => simpa [commaJoin, commaJoinT] using hx x (by simp) tail ts h
    | cons y ys =>
      have ih' := ih (fun z hz => hx z (by simp [hz]))
      have := hx x (by simp) _ _ (toks_comma ih')
      simpa [commaJoin, commaJoinT, List.append_assoc] using this

def strToks (vs : List Bytes) : List JTok := commaJoinT (vs.map (fun v => [JTok.str v]))

def entryToks (kv : Bytes × List Bytes) : List JTok :=
  .str kv.1 :: .colon :: (if kv.2.isEmpty then [.null] else .lbrack :: (strToks kv.2 ++ [.rbrack]))

def entriesToks (h : Header) : List JTok := commaJoinT (h.map entryToks)

def headersToks : Option Header → List JTok
  | none => [.null]
  | some h => .lbrace :: (entriesToks h ++ [.rbrace])

def bodyTok : Option Bytes → JTok
  | none => .null
  | some b => .str (b64Encode b)

theorem toks_entry (kv : Bytes × List Bytes)
    (hk : validUTF8 kv.1 = true) (hv : ∀ v ∈ kv.2, validUTF8 v = true)
    {tail : Bytes} {ts : List JTok} (h : Toks tail ts) :
    Toks (jsonHeaderEntry kv ++ tail) (entryToks kv ++ ts) := by
  unfold jsonHeaderEntry entryToks
  cases hvs : kv.2.isEmpty with
  | true =>
    have := toks_jsonString kv.1 hk (toks_colon (toks_null h))
    simpa [List.append_assoc] using this
  | false =>
    have h1 : Toks (commaJoin (kv.2.map jsonString) ++ 93 :: tail) (strToks kv.2 ++ .rbrack :: ts) :=
      toks_commaJoin jsonString (fun v => [JTok.str v]) kv.2
        (fun v hv' tail ts ht => toks_jsonString v (hv v hv') ht) (toks_rbrack h)
    have := toks_jsonString kv.1 hk (toks_colon (toks_lbrack h1))
    simpa [List.append_assoc] using this

theorem toks_headers (oh : Option Header)
    (hh : ∀ h, oh = some h → ∀ kv ∈ h, validUTF8 kv.1 = true ∧ ∀ v ∈ kv.2, validUTF8 v = true)
    {tail : Bytes} {ts : List JTok} (h : Toks tail ts) :
    Toks (jsonHeaders oh ++ tail) (headersToks oh ++ ts) := by
  cases oh with
  | none => simpa [jsonHeaders, headersToks] using toks_null h
  | some hd =>
    have h1 : Toks (commaJoin (hd.map jsonHeaderEntry) ++ 125 :: tail) (entriesToks hd ++ .rbrace :: ts) :=
      toks_commaJoin jsonHeaderEntry entryToks hd
        (fun kv hkv tail ts ht => toks_entry kv (hh hd rfl kv hkv).1 (hh hd rfl kv hkv).2 ht) (toks_rbrace h)
    simpa [jsonHeaders, headersToks, List.append_assoc] using toks_lbrace h1

theorem toks_body (ob : Option Bytes) {tail : Bytes} {ts : List JTok} (h : Toks tail ts) :
    Toks (jsonBody ob ++ tail) (bodyTok ob :: ts) := by
  cases ob with
  | none => simpa [jsonBody, bodyTok] using toks_null h
  | some b =>
    have := toks_plain (b64Encode b) (b64Encode_plain b) h
    simpa [jsonBody, bodyTok, List.append_assoc] using this

/-- a quoted text as one piece, `"n"` -/
theorem toks_quoted (n : Bytes) (hn : ∀ c ∈ n, c ≠ 34 ∧ c ≠ 92) {tail : Bytes} {ts : List JTok}
    (h : Toks tail ts) : Toks (34 :: (n ++ [34]) ++ tail) (.str n :: ts) := by
  simpa using toks_plain n hn h

/-- `"name":` -/
theorem toks_key (n : Bytes) (hn : ∀ c ∈ n, c ≠ 34 ∧ c ≠ 92) {tail : Bytes} {ts : List JTok}
    (h : Toks tail ts) : Toks (K n ++ tail) (.str n :: .colon :: ts) := by
  simpa [K] using toks_plain n hn (toks_colon h)

/-- the tokens of the members of an encoded record (after the opening `{`), `tt` the timestamp text -/
def recToks (r : Result) (tt : Bytes) : List JTok :=
  .str nAttack :: .colon :: .str r.attack :: .comma ::
  .str nSeq :: .colon :: .num (fmtNat r.seq) :: .comma ::
  .str nCode :: .colon :: .num (fmtNat r.code) :: .comma ::
  .str nTimestamp :: .colon :: .str tt :: .comma ::
  .str nLatency :: .colon :: .num (fmtInt r.latency) :: .comma ::
  .str nBytesOut :: .colon :: .num (fmtNat r.bytesOut) :: .comma ::
  .str nBytesIn :: .colon :: .num (fmtNat r.bytesIn) :: .comma ::
  .str nError :: .colon :: .str r.error :: .comma ::
  .str nBody :: .colon :: bodyTok r.body :: .comma ::
  .str nMethod :: .colon :: .str r.method :: .comma ::
  .str nURL :: .colon :: .str r.url :: .comma ::
  .str nHeaders :: .colon :: (headersToks r.headers ++ [.rbrace])

theorem tokenize_encodeJSON (offMin : Int) (r : Result) (hr : ReprJSONResult r) (tt : Bytes)
    (ht : fmtRFC3339 r.timestamp offMin = some tt) (hp : ∀ c ∈ tt, c ≠ 34 ∧ c ≠ 92) :
    ∃ b, encodeJSON offMin r = some b ∧ tokenize b = some (.lbrace :: recToks r tt) := by
  refine ⟨_, encodeJSON_shape offMin r (34 :: (tt ++ [34])) (by simp [timeMarshalJSON, ht]), toks_tokenize ?_⟩
  unfold recToks lineBody
  refine toks_lbrace (toks_key nAttack (by decide) (toks_jsonString _ hr.attack (toks_comma ?_)))
  refine toks_key nSeq (by decide) (toks_fmtNat _ (toks_comma ?_))
  refine toks_key nCode (by decide) (toks_fmtNat _ (toks_comma ?_))
  refine toks_key nTimestamp (by decide) (toks_quoted tt hp (toks_comma ?_))
  refine toks_key nLatency (by decide) (toks_fmtInt _ (toks_comma ?_))
  refine toks_key nBytesOut (by decide) (toks_fmtNat _ (toks_comma ?_))
  refine toks_key nBytesIn (by decide) (toks_fmtNat _ (toks_comma ?_))
  refine toks_key nError (by decide) (toks_jsonString _ hr.error (toks_comma ?_))
  refine toks_key nBody (by decide) (toks_body _ (toks_comma ?_))
  refine toks_key nMethod (by decide) (toks_jsonString _ hr.method (toks_comma ?_))
  refine toks_key nURL (by decide) (toks_jsonString _ hr.url (toks_comma ?_))
  refine toks_key nHeaders (by decide) (toks_headers _ (fun h hh => (hr.headers h hh).2) ?_)
  exact toks_rbrace (toks_newline toks_nil)

theorem pStrings_strToks (vs : List Bytes) (rest : List JTok) :
    pStrings (strToks vs ++ .rbrack :: rest) = some (vs, rest) := by
  induction vs with
  | nil => simp [strToks, commaJoinT, pStrings]
  | cons v vs ih =>
    cases vs with
    | nil => simp [strToks, commaJoinT, pStrings]
    | cons w ws =>
      have : strToks (v :: w :: ws) = .str v :: .comma :: strToks (w :: ws) := by
        simp [strToks, commaJoinT]
      rw [this]
      simp only [List.cons_append, pStrings, ih]
      rfl

theorem pHeaderMembers_entriesToks (h : Header) :
    ∀ (fuel : Nat) (acc : Header) (rest : List JTok), h.length < fuel →
      pHeaderMembers fuel (entriesToks h ++ .rbrace :: rest) acc = some (acc ++ h, rest) := by
  induction h with
  | nil =>
    intro fuel acc rest hf
    cases fuel with
    | zero => simp at hf
    | succ f => simp [entriesToks, commaJoinT, pHeaderMembers]
  | cons kv h ih =>
    intro fuel acc rest hf
    cases fuel with
    | zero => simp at hf
    | succ f =>
      obtain ⟨k, vs⟩ := kv
      have hf' : h.length < f := by simp at hf; omega
      cases h with
      | nil =>
        cases vs with
        | nil => simp [entriesToks, commaJoinT, entryToks, pHeaderMembers]
        | cons v vs =>
          simp [entriesToks, commaJoinT, entryToks, pHeaderMembers, pStrings_strToks]
      | cons kv' h' =>
        have e : entriesToks ((k, vs) :: kv' :: h') = entryToks (k, vs) ++ .comma :: entriesToks (kv' :: h') := by
          simp [entriesToks, commaJoinT]
        have ih' := ih f (acc ++ [(k, vs)]) rest hf'
        rw [e]
        cases vs with
        | nil =>
          simp [entryToks, pHeaderMembers, ih']
        | cons v vs =>
          simp [entryToks, pHeaderMembers, pStrings_strToks, ih']

theorem length_le_entriesToks (h : Header) : h.length ≤ (entriesToks h).length := by
  induction h with
  | nil => simp
  | cons kv h ih =>
    cases h with
    | nil => simp [entriesToks, commaJoinT, entryToks]
    | cons kv' h' =>
      have e : entriesToks (kv :: kv' :: h') = entryToks kv ++ .comma :: entriesToks (kv' :: h') := by
        simp [entriesToks, commaJoinT]
      rw [e]
      simp only [List.length_append, List.length_cons] at ih ⊢
      omega

theorem pMembers_str (fuel : Nat) (k s : Bytes) (rest : List JTok) (r r' : Result)
    (h : setScalar k (.str s) r = some r') :
    pMembers (fuel + 1) (.str k :: .colon :: .str s :: .comma :: rest) r = pMembers fuel rest r' := by
  simp [pMembers, h]

theorem pMembers_num (fuel : Nat) (k s : Bytes) (rest : List JTok) (r r' : Result)
    (h : setScalar k (.num s) r = some r') :
    pMembers (fuel + 1) (.str k :: .colon :: .num s :: .comma :: rest) r = pMembers fuel rest r' := by
  simp [pMembers, h]

theorem pMembers_null (fuel : Nat) (k : Bytes) (rest : List JTok) (r : Result) :
    pMembers (fuel + 1) (.str k :: .colon :: .null :: .comma :: rest) r = pMembers fuel rest r := by
  simp [pMembers, setScalar]

/-- a text member: `h` (at the uses `rfl`: the name comparisons are evaluated) says what `setScalar` does on the name -/
theorem pMembers_text (k : Bytes) (set : Bytes → Result → Result)
    (h : ∀ s r, setScalar k (.str s) r = some (set s r)) (fuel : Nat) (s : Bytes) (rest : List JTok) (r : Result) :
    pMembers (fuel + 1) (.str k :: .colon :: .str s :: .comma :: rest) r = pMembers fuel rest (set s r) :=
  pMembers_str fuel k s rest r _ (h s r)

/-- an unsigned member without a range check -/
theorem pMembers_nat (k : Bytes) (set : Nat → Result → Result)
    (h : ∀ raw r, setScalar k (.num raw) r = (specNat raw).map fun n => set n r)
    (fuel n : Nat) (rest : List JTok) (r : Result) :
    pMembers (fuel + 1) (.str k :: .colon :: .num (fmtNat n) :: .comma :: rest) r = pMembers fuel rest (set n r) :=
  pMembers_num fuel k _ rest r _ (by rw [h, specNat_fmtNat]; rfl)

/-- the `body` member: `null` leaves the (still nil) body alone -/
theorem pMembers_body (fuel : Nat) (ob : Option Bytes) (hb : ∀ b, ob = some b → ∀ x ∈ b, x < 256)
    (rest : List JTok) (r : Result) (h0 : r.body = none) :
    pMembers (fuel + 1) (.str nBody :: .colon :: bodyTok ob :: .comma :: rest) r =
      pMembers fuel rest { r with body := ob } := by
  cases ob with
  | none =>
    -- record eta, by `h0`
    have : { r with body := none } = r := by cases r; simp_all
    rw [this]; exact pMembers_null _ _ _ _
  | some b =>
    refine pMembers_str _ _ _ _ _ _ ?_
    show (optOutcome (b64Decode (b64Encode b))).map _ = _
    rw [b64Decode_b64Encode b (hb b rfl)]
    rfl

/-- the `headers` member, the last one -/
theorem pMembers_headers (fuel : Nat) (oh : Option Header) (r : Result) (h0 : r.headers = none) :
    pMembers (fuel + 1) (.str nHeaders :: .colon :: (headersToks oh ++ [.rbrace])) r =
      some { r with headers := oh } := by
  cases oh with
  | none =>
    -- record eta, by `h0`
    have : { r with headers := none } = r := by cases r; simp_all
    rw [this]
    simp [headersToks, pMembers, setScalar]
  | some h =>
    have := pHeaderMembers_entriesToks h ((entriesToks h).length + 2 + 1) [] [.rbrace]
      (by have := length_le_entriesToks h; omega)
    simp only [List.nil_append] at this
    have e : (nHeaders == dHeaders) = true := by decide
    simp [headersToks, pMembers, e, this]

theorem pMembers_recToks (r : Result) (hr : ReprJSONResult r) (tt : Bytes)
    (ht : parseRFC3339 tt = some r.timestamp) (fuel : Nat) :
    pMembers (fuel + 12) (recToks r tt) {} = some r := by
  unfold recToks
  rw [pMembers_text nAttack (fun s a => { a with attack := s }) (fun _ _ => rfl),
    pMembers_nat nSeq (fun n a => { a with seq := n }) (fun _ _ => rfl),
    pMembers_num _ nCode _ _ _ { attack := r.attack, seq := r.seq, code := r.code } (by
      show (specNat _).bind _ = _
      rw [specNat_fmtNat]
      exact if_pos hr.num.code),
    pMembers_str _ nTimestamp _ _ _ { attack := r.attack, seq := r.seq, code := r.code, timestamp := r.timestamp } (by
      show (parseRFC3339 tt).map _ = _
      rw [ht]
      rfl),
    pMembers_num _ nLatency _ _ _
      { attack := r.attack, seq := r.seq, code := r.code, timestamp := r.timestamp, latency := r.latency } (by
      show (specInt _).map _ = _
      rw [specInt_fmtInt]
      rfl),
    pMembers_nat nBytesOut (fun n a => { a with bytesOut := n }) (fun _ _ => rfl),
    pMembers_nat nBytesIn (fun n a => { a with bytesIn := n }) (fun _ _ => rfl),
    pMembers_text nError (fun s a => { a with error := s }) (fun _ _ => rfl),
    pMembers_body _ _ hr.body _ _ rfl,
    pMembers_text nMethod (fun s a => { a with method := s }) (fun _ _ => rfl),
    pMembers_text nURL (fun s a => { a with url := s }) (fun _ _ => rfl),
    pMembers_headers _ _ _ rfl]

/-- what the RFC 3339 layer provides for the timestamp `ts` shown in zone `offMin` -/
def TimeText (ts offMin : Int) : Prop :=
  ∃ b, fmtRFC3339 ts offMin = some b ∧ parseRFC3339 b = some ts ∧ ∀ c ∈ b, 32 ≤ c ∧ c < 128 ∧ c ≠ 34 ∧ c ≠ 92

/-- the independent reader of the documented member names and units reads every encoded record of the JSON domain
back to exactly the result written (`Props.C07.spec_reader_agrees_json` cites it and discharges `TimeText`) -/
theorem specReadJSONLine_encodeJSON (offMin : Int) (r : Result) (hr : ReprJSONResult r)
    (ht : TimeText r.timestamp offMin) :
    ∃ b, encodeJSON offMin r = some b ∧ specReadJSONLine b = some r := by
  obtain ⟨tt, hf, hp, hc⟩ := ht
  obtain ⟨b, hb, htok⟩ := tokenize_encodeJSON offMin r hr tt hf (fun c hx => (hc c hx).2.2)
  refine ⟨b, hb, ?_⟩
  unfold specReadJSONLine
  rw [htok]
  have hl : (recToks r tt).length + 1 = ((recToks r tt).length - 11) + 12 := by
    simp [recToks]
  show pMembers ((recToks r tt).length + 1) (recToks r tt) {} = some r
  rw [hl]
  exact pMembers_recToks r hr tt hp _

/-- escapes in texts, a body, a header map with a two-valued and a value-less key, zone +01:00 -/
def sampleJSONResult : Result :=
  { attack := [97, 34, 60], seq := 7, code := 200, timestamp := 1600000000123456789, latency := -5, bytesOut := 3,
    bytesIn := 10, body := some [1, 2, 255], method := [71, 69, 84], url := [104],
    headers := some [([65], [[98], [99, 92]]), ([66], [])] }

set_option maxRecDepth 100000 in
example : (encodeJSON 60 sampleJSONResult).bind specReadJSONLine = some sampleJSONResult := by decide +kernel

-- nil body and nil header map are written as `null` and read back as nil
set_option maxRecDepth 100000 in
example : (encodeJSON 0 { timestamp := 0 }).bind specReadJSONLine = some { timestamp := 0 } := by decide +kernel

-- an empty (non-nil) header map is written as `{}` and read back as the empty map
set_option maxRecDepth 100000 in
example : (encodeJSON 0 { timestamp := 1, headers := some [] }).bind specReadJSONLine =
    some { timestamp := 1, headers := some [] } := by decide +kernel

end Vegeta.Proofs.Codec
