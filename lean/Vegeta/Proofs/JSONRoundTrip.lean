/-
Round trip of the JSON target encoder model through the decoder for its image: every piece the
encoder writes (string literal, base64 body, array of values, header member) is read back by the
parser for that piece, which hands on the rest of the input.  An encoded line contains no newline,
so the targeter's line reader cuts a file of encoded targets where the encoder ended each of them.
-/
import Vegeta.Model.JSONTargets
import Vegeta.Proofs.TargetText
namespace Vegeta.Proofs.JSONRoundTrip
open Vegeta.Go
open Vegeta.Model.JSONTargets

/-! ### string literals -/

theorem hexVal_hexLower : ∀ n, n < 16 → hexVal (hexLower n) = some n := by decide

/-- bytes that a string literal copies verbatim -/
def Verb (c : Nat) : Prop := c ≠ 34 ∧ c ≠ 92

theorem unquote_verb (c : Nat) (hc : Verb c) (X : Bytes) :
    unquote (c :: X) = (unquote X).map (fun p => (c :: p.1, p.2)) := by
  -- `unquote.eq_6`: the last clause (`c :: rest`), when no earlier pattern matches
  rw [unquote.eq_6 c X hc.1 (fun _ _ _ _ _ h _ => hc.2 h) (fun _ _ h _ => hc.2 h) (fun h _ => hc.2 h)]
  cases unquote X <;> rfl

theorem unquote_quote (X : Bytes) : unquote (34 :: X) = some ([], X) := by
  rw [unquote]

theorem unquote_plain (rest : Bytes) : ∀ s : Bytes, (∀ c ∈ s, Verb c) → unquote (s ++ 34 :: rest) = some (s, rest) := by
  intro s
  induction s with
  | nil => intro _; exact unquote_quote rest
  | cons c t ih =>
    intro h
    rw [List.cons_append, unquote_verb c (h c (by simp)), ih (fun x hx => h x (by simp [hx]))]; rfl

/-- the byte a two-byte escape `\e` stands for -/
def esc2 (e : Nat) : Option Nat :=
  if e = 34 ∨ e = 92 ∨ e = 47 then some e
  else if e = 98 then some 8 else if e = 102 then some 12 else if e = 110 then some 10
  else if e = 114 then some 13 else if e = 116 then some 9 else none

theorem unquote_esc2 (e ch : Nat) (X : Bytes) (hne : e ≠ 117) (hch : esc2 e = some ch) :
    unquote (92 :: e :: X) = (unquote X).map (fun p => (ch :: p.1, p.2)) := by
  unfold esc2 at hch
  -- `unquote.eq_4`: the clause `92 :: e :: rest`, `e` not `u`
  rw [unquote.eq_4 e X (fun _ _ _ _ _ h _ => hne h), hch]
  cases unquote X <;> rfl

theorem unquote_u (a b c d : Nat) (x y z w : Nat) (X : Bytes)
    (ha : hexVal a = some x) (hb : hexVal b = some y) (hc : hexVal c = some z) (hd : hexVal d = some w)
    (hs : ¬ (0xD800 ≤ ((x * 16 + y) * 16 + z) * 16 + w ∧ ((x * 16 + y) * 16 + z) * 16 + w ≤ 0xDFFF)) :
    unquote (92 :: 117 :: a :: b :: c :: d :: X) =
      (unquote X).map (fun p => (encodeRune (((x * 16 + y) * 16 + z) * 16 + w) ++ p.1, p.2)) := by
  -- `unquote.eq_3`: the clause for `\uXXXX`
  rw [unquote.eq_3, ha, hb, hc, hd]
  cases unquote X with
  | none => rfl
  | some p => simp [hs]

theorem unquote_u00 (b : Nat) (hb : b < 128) (X : Bytes) :
    unquote (92 :: 117 :: 48 :: 48 :: hexLower (b / 16) :: hexLower (b % 16) :: X) =
      (unquote X).map (fun p => (b :: p.1, p.2)) := by
  have h0 : hexVal 48 = some 0 := by decide
  rw [unquote_u 48 48 _ _ 0 0 (b / 16) (b % 16) X h0 h0 (hexVal_hexLower _ (by omega))
    (hexVal_hexLower _ (by omega)) (by omega)]
  have hr : ((0 * 16 + 0) * 16 + b / 16) * 16 + b % 16 = b := by omega
  rw [hr, encodeRune, if_pos hb]
  rfl

theorem escapeAscii_cases (c : Nat) :
    (∃ e, escapeAscii c = [92, e] ∧ e ≠ 117 ∧ e ≠ 10 ∧ esc2 e = some c) ∨
    escapeAscii c = [92, 117, 48, 48, hexLower (c / 16), hexLower (c % 16)] ∨
    (escapeAscii c = [c] ∧ c ≠ 10 ∧ Verb c) := by
  -- `by_cases` with `if_pos`/`if_neg`: `split` is slow on this chain of literals
  unfold escapeAscii
  by_cases h9 : c = 9
  · subst h9; exact Or.inl ⟨116, rfl, by decide⟩
  by_cases h13 : c = 13
  · subst h13; exact Or.inl ⟨114, rfl, by decide⟩
  by_cases h10 : c = 10
  · subst h10; exact Or.inl ⟨110, rfl, by decide⟩
  by_cases h92 : c = 92
  · subst h92; exact Or.inl ⟨92, rfl, by decide⟩
  by_cases h34 : c = 34
  · subst h34; exact Or.inl ⟨34, rfl, by decide⟩
  rw [if_neg h9, if_neg h13, if_neg h10, if_neg h92, if_neg h34]
  by_cases hc : c < 32 ∨ c = 38 ∨ c = 60 ∨ c = 62
  · rw [if_pos hc]; exact Or.inr (Or.inl rfl)
  · rw [if_neg hc]; exact Or.inr (Or.inr ⟨rfl, h10, h34, h92⟩)

theorem unquote_ascii (b : Nat) (hb : b < 128) (X : Bytes) :
    unquote (escapeAscii b ++ X) = (unquote X).map (fun p => (b :: p.1, p.2)) := by
  rcases escapeAscii_cases b with ⟨e, he, hne, _, hch⟩ | he | ⟨he, _, hv⟩
  · rw [he]; exact unquote_esc2 e b X hne hch
  · rw [he]; exact unquote_u00 b hb X
  · rw [he]; exact unquote_verb b hv X

theorem escapeAscii_no_nl (c : Nat) : 10 ∉ escapeAscii c := by
  have hx : ∀ n, 10 ≠ hexLower n := fun n => by unfold hexLower; split <;> omega
  rcases escapeAscii_cases c with ⟨e, he, _, hne, _⟩ | he | ⟨he, hne, _⟩
  · simp [he, Ne.symm hne]
  · simp [he, hx]
  · simp [he, Ne.symm hne]

/-- Go-valid UTF-8 (no byte that `jwriter.String` would replace by `�`): `skip` bytes of an
already classified rune must be continuation-like (≥ 0x80) -/
def utf8ok : Nat → Bytes → Bool
  | _, [] => true
  | skip + 1, b :: rest => 128 ≤ b && utf8ok skip rest
  | 0, b :: rest =>
    if b < 128 then utf8ok 0 rest
    else runeWidth (b :: rest) ≠ 0 && utf8ok (runeWidth (b :: rest) - 1) rest

/-- `jwriter.String` at a byte ≥ 0x80: U+2028 and U+2029 (`E2 80 A8`, `E2 80 A9`) become a `\u202x` escape,
any other rune is copied -/
theorem escapeGo_wide (b : Nat) (r : Bytes) (e : Bool) (hb : ¬ b < 128) (hok : utf8ok 0 (b :: r) = true) :
    (∃ d, (d = 8 ∨ d = 9) ∧ b = 0xE2 ∧ r.take 2 = [0x80, 0xA0 + d] ∧ utf8ok 2 r = true ∧
      escapeGo 0 e (b :: r) = [92, 117, 50, 48, 50, 48 + d] ++ escapeGo 2 false r) ∨
    (∃ k, utf8ok k r = true ∧ escapeGo 0 e (b :: r) = b :: escapeGo k true r) := by
  simp only [utf8ok, if_neg hb, Bool.and_eq_true, decide_eq_true_eq] at hok
  obtain ⟨hw, hok⟩ := hok
  have hw' : runeWidth (b :: r) ≠ 0 := by simpa using hw
  have h2 : ∀ y, (y = 0xA8 ∨ y = 0xA9) → b = 0xE2 → r.take 2 = [0x80, y] → utf8ok 2 r = true := by
    intro y hy hb2 ht
    have hr : r = 0x80 :: y :: r.drop 2 := by
      conv => lhs; rw [← List.take_append_drop 2 r, ht]
      rfl
    have hw3 : runeWidth (0xE2 :: 0x80 :: y :: r.drop 2) = 3 := by rcases hy with rfl | rfl <;> rfl
    rw [hr, hb2, hw3] at hok
    rw [hr]; exact hok
  simp only [escapeGo, if_neg hb, if_neg hw']
  by_cases h28 : b = 0xE2 ∧ r.take 2 = [0x80, 0xA8]
  · rw [if_pos h28]
    exact Or.inl ⟨8, Or.inl rfl, h28.1, h28.2, h2 _ (Or.inl rfl) h28.1 h28.2, rfl⟩
  rw [if_neg h28]
  by_cases h29 : b = 0xE2 ∧ r.take 2 = [0x80, 0xA9]
  · rw [if_pos h29]
    exact Or.inl ⟨9, Or.inr rfl, h29.1, h29.2, h2 _ (Or.inr rfl) h29.1 h29.2, rfl⟩
  rw [if_neg h29]
  exact Or.inr ⟨_, hok, rfl⟩

/-- Stated for every `skip` and `emit`, so that a plain induction on the string goes through the
`\u202x` step. -/
theorem unquote_escapeGo (rest : Bytes) : ∀ (s : Bytes) (skip : Nat) (emit : Bool), utf8ok skip s = true →
    unquote (escapeGo skip emit s ++ 34 :: rest) = some (if emit then s else s.drop skip, rest) := by
  intro s
  induction s with
  | nil => intro skip emit _; cases skip <;> cases emit <;> exact unquote_quote rest
  | cons b r ih =>
    intro skip emit hok
    cases skip with
    | succ k =>
      simp only [utf8ok, Bool.and_eq_true, decide_eq_true_eq] at hok
      cases emit with
      | false => exact ih k false hok.2
      | true =>
        simp only [escapeGo, if_true, List.cons_append]
        rw [unquote_verb b ⟨by omega, by omega⟩, ih k true hok.2]; rfl
    | zero =>
      have hres : (if emit = true then b :: r else (b :: r).drop 0) = b :: r := by cases emit <;> rfl
      rw [hres]
      by_cases hb : b < 128
      · have hok' : utf8ok 0 r = true := by simpa only [utf8ok, if_pos hb] using hok
        simp only [escapeGo, if_pos hb, List.append_assoc]
        rw [unquote_ascii b hb, ih 0 true hok']; rfl
      · rcases escapeGo_wide b r emit hb hok with ⟨d, hd, hb2, ht, hk, he⟩ | ⟨k, hk, he⟩
        · have h2 : hexVal 50 = some 2 := by decide
          have h0 : hexVal 48 = some 0 := by decide
          have hd' : hexVal (48 + d) = some d := by rcases hd with rfl | rfl <;> decide
          have henc : encodeRune (((2 * 16 + 0) * 16 + 2) * 16 + d) = b :: r.take 2 := by
            rw [ht, hb2]; rcases hd with rfl | rfl <;> rfl
          rw [he, List.append_assoc]
          simp only [List.cons_append, List.nil_append]
          rw [unquote_u 50 48 50 (48 + d) 2 0 2 d _ h2 h0 h2 hd' (by rcases hd with rfl | rfl <;> decide),
            ih 2 false hk]
          simp only [Option.map_some, Bool.false_eq_true, if_false, henc, List.cons_append,
            List.take_append_drop]
        · rw [he, List.cons_append, unquote_verb b ⟨by omega, by omega⟩, ih k true hk]; rfl

theorem escapeGo_no_nl : ∀ (s : Bytes) (skip : Nat) (emit : Bool), utf8ok skip s = true →
    10 ∉ escapeGo skip emit s := by
  intro s
  induction s with
  | nil => intro skip emit _; cases skip <;> simp [escapeGo]
  | cons b r ih =>
    intro skip emit hok
    cases skip with
    | succ k =>
      simp only [utf8ok, Bool.and_eq_true, decide_eq_true_eq] at hok
      cases emit with
      | false => exact ih k false hok.2
      | true =>
        simp only [escapeGo, if_true, List.mem_cons, not_or]
        exact ⟨by omega, ih k true hok.2⟩
    | zero =>
      by_cases hb : b < 128
      · have hok' : utf8ok 0 r = true := by simpa only [utf8ok, if_pos hb] using hok
        simp only [escapeGo, if_pos hb, List.mem_append, not_or]
        exact ⟨escapeAscii_no_nl b, ih 0 true hok'⟩
      · rcases escapeGo_wide b r emit hb hok with ⟨d, hd, _, _, hk, he⟩ | ⟨k, hk, he⟩
        · rw [he, List.mem_append, not_or]
          refine ⟨?_, ih 2 false hk⟩
          rcases hd with rfl | rfl <;> decide
        · rw [he, List.mem_cons, not_or]
          exact ⟨by omega, ih k true hk⟩

/-- strings the round trip is claimed for -/
def StrOK (s : Bytes) : Prop := utf8ok 0 s = true

instance (s : Bytes) : Decidable (StrOK s) := by unfold StrOK; infer_instance

theorem parseString_jString (s rest : Bytes) (h : StrOK s) : parseString (jString s ++ rest) = some (s, rest) := by
  simp only [jString, List.append_assoc, List.cons_append, List.nil_append, parseString]
  exact unquote_escapeGo rest s 0 true h

theorem jString_no_nl (s : Bytes) (h : StrOK s) : 10 ∉ jString s := by
  simp only [jString, List.mem_append, List.mem_cons, List.mem_nil_iff, or_false, not_or]
  exact ⟨⟨by decide, escapeGo_no_nl s 0 true h⟩, by decide⟩

/-! ### the base64 body -/

theorem b64Val_b64Char : ∀ i, i < 64 → b64Val (b64Char i) = some i := by decide

theorem b64Char_range (i : Nat) :
    (65 ≤ b64Char i ∧ b64Char i ≤ 90) ∨ (97 ≤ b64Char i ∧ b64Char i ≤ 122) ∨
    (48 ≤ b64Char i ∧ b64Char i ≤ 57) ∨ b64Char i = 43 ∨ b64Char i = 47 := by
  unfold b64Char
  by_cases h1 : i < 26
  · rw [if_pos h1]; omega
  rw [if_neg h1]
  by_cases h2 : i < 52
  · rw [if_pos h2]; omega
  rw [if_neg h2]
  by_cases h3 : i < 62
  · rw [if_pos h3]; omega
  rw [if_neg h3]
  by_cases h4 : i = 62
  · rw [if_pos h4]; omega
  · rw [if_neg h4]; omega

theorem b64Char_ne_pad (i : Nat) : b64Char i ≠ 61 := by
  have := b64Char_range i; omega

theorem b64Encode_safe (bs : Bytes) : ∀ c ∈ b64Encode bs, c ≠ 10 ∧ Verb c := by
  have hc : ∀ i, b64Char i ≠ 10 ∧ Verb (b64Char i) := fun i => by
    have := b64Char_range i; unfold Verb; omega
  have hp : (61 : Nat) ≠ 10 ∧ Verb 61 := ⟨by decide, by decide, by decide⟩
  fun_induction b64Encode bs with
  | case1 => intro c h; cases h
  | case2 a => simp only [List.forall_mem_cons]; exact ⟨hc _, hc _, hp, hp, fun _ h => nomatch h⟩
  | case3 a b => simp only [List.forall_mem_cons]; exact ⟨hc _, hc _, hc _, hp, fun _ h => nomatch h⟩
  | case4 a b c r ih => simp only [List.forall_mem_cons]; exact ⟨hc _, hc _, hc _, hc _, ih⟩

/-! Three bytes `a b c` are cut into the sextets `a/4`, `a%4*16 + b/16`, `b%16*4 + c/64`, `c%64`
(`b = 0`, `c = 0` where the input ends, and `x + 0 / n` reduces to `x`); these are the sextets'
bounds and how the bytes come back from them. -/

theorem sextet0 (a : Nat) (ha : a < 256) : a / 4 < 64 := Nat.div_lt_of_lt_mul ha
theorem sextet1 (a b : Nat) (hb : b < 256) : a % 4 * 16 + b / 16 < 64 := by omega
theorem sextet2 (b c : Nat) (hc : c < 256) : b % 16 * 4 + c / 64 < 64 := by omega
theorem byte0 (a b : Nat) (hb : b < 256) : a / 4 * 4 + (a % 4 * 16 + b / 16) / 16 = a := by omega
theorem byte1 (a b c : Nat) (hb : b < 256) (hc : c < 256) :
    (a % 4 * 16 + b / 16) % 16 * 16 + (b % 16 * 4 + c / 64) / 4 = b := by omega
theorem byte2 (b c : Nat) (hc : c < 256) : (b % 16 * 4 + c / 64) % 4 * 64 + c % 64 = c := by omega

theorem b64Decode_b64Encode (bs : Bytes) (hb : ∀ b ∈ bs, b < 256) : b64Decode (b64Encode bs) = some bs := by
  fun_induction b64Encode bs with
  | case1 => rfl
  | case2 a =>
    have ha : a < 256 := hb a (by simp)
    have s1 : a % 4 * 16 < 64 := sextet1 a 0 (by decide)
    have e0 : a / 4 * 4 + a % 4 * 16 / 16 = a := byte0 a 0 (by decide)
    -- `b64Decode.eq_2`, `.eq_3`, `.eq_4`: the clauses for `xx==`, `xxx=`, `xxxx…`
    rw [b64Decode.eq_2, b64Val_b64Char _ (sextet0 a ha), b64Val_b64Char _ s1]
    simp only [e0]
  | case3 a b =>
    have ha : a < 256 := hb a (by simp)
    have hb' : b < 256 := hb b (by simp)
    have s2 : b % 16 * 4 < 64 := sextet2 b 0 (by decide)
    have e1 : (a % 4 * 16 + b / 16) % 16 * 16 + b % 16 * 4 / 4 = b := byte1 a b 0 hb' (by decide)
    rw [b64Decode.eq_3 _ _ _ (b64Char_ne_pad _), b64Val_b64Char _ (sextet0 a ha),
      b64Val_b64Char _ (sextet1 a b hb'), b64Val_b64Char _ s2]
    simp only [byte0 a b hb', e1]
  | case4 a b c r ih =>
    have ha : a < 256 := hb a (by simp)
    have hb' : b < 256 := hb b (by simp)
    have hc : c < 256 := hb c (by simp)
    rw [b64Decode.eq_4 _ _ _ _ _ (fun _ h _ => b64Char_ne_pad _ h) (fun h _ => b64Char_ne_pad _ h),
      b64Val_b64Char _ (sextet0 a ha), b64Val_b64Char _ (sextet1 a b hb'), b64Val_b64Char _ (sextet2 b c hc),
      b64Val_b64Char _ (Nat.mod_lt c (by decide)), ih (fun x hx => hb x (by simp [hx]))]
    simp only [byte0 a b hb', byte1 a b c hb' hc, byte2 b c hc]

/-! ### arrays of strings and header members

The decoder's fuel is the length of the line; every lemma asks that the fuel exceed the length of
the text it parses. -/

theorem commaSep_cons2 (x y : Bytes) (zs : List Bytes) : commaSep (x :: y :: zs) = x ++ [44] ++ commaSep (y :: zs) := rfl

theorem commaSep_head? (x : Bytes) (xs : List Bytes) (rest : Bytes) (c : Nat) (hx : x.head? = some c) :
    (commaSep (x :: xs) ++ rest).head? = some c := by
  obtain ⟨t, rfl⟩ := List.head?_eq_some_iff.mp hx
  cases xs <;> rfl

theorem parseStrings_last (f : Nat) (s v r' : Bytes) (h : parseString s = some (v, 93 :: r')) :
    parseStrings (f + 1) s = some ([v], r') := by
  simp [parseStrings, h]

theorem parseStrings_more (f : Nat) (s v r' : Bytes) (vs : List Bytes) (r'' : Bytes)
    (h : parseString s = some (v, 44 :: r')) (h2 : parseStrings f r' = some (vs, r'')) :
    parseStrings (f + 1) s = some (v :: vs, r'') := by
  simp [parseStrings, h, h2]

theorem parseStrings_spec (rest : Bytes) : ∀ (vs : List Bytes) (v : Bytes) (fuel : Nat),
    (commaSep ((v :: vs).map jString)).length < fuel → (∀ x ∈ v :: vs, StrOK x) →
    parseStrings fuel (commaSep ((v :: vs).map jString) ++ 93 :: rest) = some (v :: vs, rest) := by
  intro vs
  induction vs with
  | nil =>
    intro v fuel hf hok
    obtain ⟨f, rfl⟩ := Nat.exists_eq_add_one.mpr (Nat.zero_lt_of_lt hf)
    exact parseStrings_last f _ v _ (parseString_jString v _ (hok v (List.mem_cons_self ..)))
  | cons w ws ih =>
    intro v fuel hf hok
    obtain ⟨f, rfl⟩ := Nat.exists_eq_add_one.mpr (Nat.zero_lt_of_lt hf)
    rw [List.forall_mem_cons] at hok
    have hshape : commaSep ((v :: w :: ws).map jString) ++ 93 :: rest =
        jString v ++ 44 :: (commaSep ((w :: ws).map jString) ++ 93 :: rest) := by
      simp [commaSep_cons2]
    rw [hshape]
    refine parseStrings_more f _ v _ (w :: ws) rest (parseString_jString v _ hok.1) (ih w f ?_ hok.2)
    simp only [List.map_cons, commaSep_cons2, List.length_append, List.length_singleton] at hf ⊢
    omega

theorem parseValues_strings (f : Nat) (s : Bytes) (h : s.head? = some 34) :
    parseValues f (91 :: s) = parseStrings f s := by
  obtain ⟨t, rfl⟩ := List.head?_eq_some_iff.mp h
  rfl

theorem parseValues_spec (fuel : Nat) (ov : Option (List Bytes)) (rest : Bytes)
    (hf : (encodeValues ov).length < fuel) (hok : ∀ x ∈ ov.getD [], StrOK x) :
    parseValues fuel (encodeValues ov ++ rest) = some (ov.getD [], rest) := by
  cases ov with
  | none => simp [encodeValues, parseValues]
  | some vs =>
    cases vs with
    | nil => simp [encodeValues, parseValues, commaSep]
    | cons v ws =>
      have hshape : encodeValues (some (v :: ws)) ++ rest = 91 :: (commaSep ((v :: ws).map jString) ++ 93 :: rest) := by
        simp [encodeValues]
      rw [hshape, List.map_cons, parseValues_strings _ _ (commaSep_head? (jString v) _ _ 34 rfl)]
      refine parseStrings_spec rest ws v fuel ?_ hok
      simp only [encodeValues, List.length_append, List.length_cons, List.length_nil] at hf
      omega

def member (kv : Bytes × Option (List Bytes)) : Bytes := jString kv.1 ++ [58] ++ encodeValues kv.2

def MemberOK (kv : Bytes × Option (List Bytes)) : Prop := StrOK kv.1 ∧ ∀ x ∈ kv.2.getD [], StrOK x

/-- the decoded header map: members in order, a repeated key overwrites -/
def foldMembers (acc : VMap) (ms : List (Bytes × Option (List Bytes))) : VMap :=
  ms.foldl (fun a kv => vset a kv.1 (kv.2.getD [])) acc

theorem parseMembers_last (f : Nat) (s k r1 r3 : Bytes) (vs : List Bytes) (acc : VMap)
    (h1 : parseString s = some (k, 58 :: r1)) (h2 : parseValues f r1 = some (vs, 125 :: r3)) :
    parseMembers (f + 1) s acc = some (vset acc k vs, r3) := by
  simp [parseMembers, h1, h2]

theorem parseMembers_more (f : Nat) (s k r1 r3 : Bytes) (vs : List Bytes) (acc : VMap)
    (h1 : parseString s = some (k, 58 :: r1)) (h2 : parseValues f r1 = some (vs, 44 :: r3)) :
    parseMembers (f + 1) s acc = parseMembers f r3 (vset acc k vs) := by
  simp [parseMembers, h1, h2]

theorem parseMembers_spec (rest : Bytes) : ∀ (ms : List (Bytes × Option (List Bytes))) (m : Bytes × Option (List Bytes))
    (fuel : Nat) (acc : VMap), (commaSep ((m :: ms).map member)).length < fuel → (∀ x ∈ m :: ms, MemberOK x) →
    parseMembers fuel (commaSep ((m :: ms).map member) ++ 125 :: rest) acc = some (foldMembers acc (m :: ms), rest) := by
  intro ms
  induction ms with
  | nil =>
    intro m fuel acc hf hok
    obtain ⟨f, rfl⟩ := Nat.exists_eq_add_one.mpr (Nat.zero_lt_of_lt hf)
    have hm := hok m (List.mem_cons_self ..)
    have hshape : commaSep ([m].map member) ++ 125 :: rest = jString m.1 ++ 58 :: (encodeValues m.2 ++ 125 :: rest) := by
      simp [commaSep, member]
    simp only [List.map_cons, List.map_nil, commaSep, member, List.length_append, List.length_singleton] at hf
    rw [hshape, parseMembers_last f _ m.1 _ rest (m.2.getD []) acc (parseString_jString m.1 _ hm.1)
      (parseValues_spec f m.2 _ (by omega) hm.2)]
    rfl
  | cons m2 ms ih =>
    intro m fuel acc hf hok
    obtain ⟨f, rfl⟩ := Nat.exists_eq_add_one.mpr (Nat.zero_lt_of_lt hf)
    rw [List.forall_mem_cons] at hok
    obtain ⟨hm, hok⟩ := hok
    have hshape : commaSep ((m :: m2 :: ms).map member) ++ 125 :: rest =
        jString m.1 ++ 58 :: (encodeValues m.2 ++ 44 :: (commaSep ((m2 :: ms).map member) ++ 125 :: rest)) := by
      simp [commaSep_cons2, member]
    simp only [List.map_cons, commaSep_cons2, member, List.length_append, List.length_singleton] at hf
    rw [hshape, parseMembers_more f _ m.1 _ _ (m.2.getD []) acc (parseString_jString m.1 _ hm.1)
      (parseValues_spec f m.2 _ (by omega) hm.2),
      ih m2 f _ (by simp only [List.map_cons, member]; omega) hok]
    rfl

/-! ### the whole line -/

theorem dropPrefix_append (p r : Bytes) : dropPrefix p (p ++ r) = some r := by
  simp [dropPrefix]

/-- what the round trip is claimed for: Go-valid UTF-8 in every string, bytes in the body -/
structure Clean (t : ETarget) : Prop where
  method : StrOK t.method
  url : StrOK t.url
  body : ∀ b ∈ t.body, b < 256
  header : ∀ kv ∈ t.header, MemberOK kv

/-- the decoded record of an encoded target: a nil value slice reads back as no values, a
repeated key (impossible in a Go map) would overwrite -/
def recOf (t : ETarget) : JRec :=
  { method := t.method, url := t.url, body := t.body, header := foldMembers [] t.header }

/-- the line of a target without its terminator -/
def lineOf (t : ETarget) : Bytes :=
  123 :: ((kwMethod ++ jString t.method ++ kwURL ++ jString t.url ++
    (if t.body.length ≠ 0 then kwBody ++ [34] ++ b64Encode t.body ++ [34] else []) ++
    (if t.header.length ≠ 0 then kwHeader ++ encodeHeader t.header else [])) ++ [125])

theorem encodeTarget_line (t : ETarget) : encodeTarget t = lineOf t ++ [10] := by
  simp [encodeTarget, lineOf]

open Vegeta.Model.Histogram (trimSpace) in
theorem trim_line (t : ETarget) : trimSpace (lineOf t ++ [10]) = lineOf t :=
  Vegeta.Proofs.TargetText.trimSpace_between (pre := []) (c := 123) (d := 125) (fun _ h => nomatch h)
    (List.forall_mem_singleton.mpr rfl) rfl (by decide)
    (by rw [← List.cons_append, List.getLast?_concat]) (by decide)

theorem bodyPart_spec (body rest : Bytes) (hb : ∀ b ∈ body, b < 256)
    (hrest : dropPrefix kwBody rest = none) :
    bodyPart ((if body.length ≠ 0 then kwBody ++ [34] ++ b64Encode body ++ [34] else []) ++ rest) = some (body, rest) := by
  by_cases h0 : body.length ≠ 0
  · rw [if_pos h0]
    have hshape : kwBody ++ [34] ++ b64Encode body ++ [34] ++ rest = kwBody ++ (34 :: (b64Encode body ++ 34 :: rest)) := by simp
    rw [hshape]
    simp only [bodyPart, dropPrefix_append, parseString,
      unquote_plain rest _ (fun c hc => (b64Encode_safe body c hc).2), b64Decode_b64Encode body hb]
  · have : body = [] := List.length_eq_zero_iff.mp (by omega)
    subst this
    simp [bodyPart, hrest]

theorem encodeHeader_eq (h : List (Bytes × Option (List Bytes))) :
    encodeHeader h = [123] ++ commaSep (h.map member) ++ [125] := rfl

theorem hdrPart_members (f : Nat) (s : Bytes) (h : s.head? = some 34) :
    hdrPart f (kwHeader ++ 123 :: s) = parseMembers f s [] := by
  obtain ⟨t, rfl⟩ := List.head?_eq_some_iff.mp h
  rfl

theorem hdrPart_spec (fuel : Nat) (h : List (Bytes × Option (List Bytes))) (hok : ∀ kv ∈ h, MemberOK kv)
    (hfuel : (if h.length ≠ 0 then kwHeader ++ encodeHeader h else []).length < fuel) :
    hdrPart fuel ((if h.length ≠ 0 then kwHeader ++ encodeHeader h else []) ++ [125]) = some (foldMembers [] h, [125]) := by
  cases h with
  | nil => rfl
  | cons m ms =>
    have hshape : kwHeader ++ encodeHeader (m :: ms) ++ [125] =
        kwHeader ++ (123 :: (commaSep ((m :: ms).map member) ++ 125 :: [125])) := by
      rw [encodeHeader_eq]; simp
    rw [if_pos (by simp), encodeHeader_eq] at hfuel
    simp only [List.length_append] at hfuel
    rw [if_pos (by simp), hshape, List.map_cons, hdrPart_members _ _ (commaSep_head? (member m) _ _ 34 rfl)]
    exact parseMembers_spec [125] ms m fuel [] (by omega) hok

theorem no_second_body (h : List (Bytes × Option (List Bytes))) :
    dropPrefix kwBody ((if h.length ≠ 0 then kwHeader ++ encodeHeader h else []) ++ [125]) = none := by
  cases h <;> rfl

theorem decodeImage_lineOf (t : ETarget) (h : Clean t) : decodeImage (lineOf t) = some (recOf t) := by
  have hfuel : (if t.header.length ≠ 0 then kwHeader ++ encodeHeader t.header else []).length <
      (lineOf t).length + 1 := by
    simp only [lineOf, List.length_cons, List.length_append]
    omega
  generalize hn : (lineOf t).length + 1 = fuel at hfuel
  have hline : lineOf t = ([123] ++ kwMethod) ++ (jString t.method ++ (kwURL ++ (jString t.url ++
      ((if t.body.length ≠ 0 then kwBody ++ [34] ++ b64Encode t.body ++ [34] else []) ++
        ((if t.header.length ≠ 0 then kwHeader ++ encodeHeader t.header else []) ++ [125]))))) := by
    simp [lineOf]
  unfold decodeImage
  rw [hn, hline]
  simp only [dropPrefix_append, Option.bind_some, parseString_jString _ _ h.method, parseString_jString _ _ h.url,
    bodyPart_spec t.body _ h.body (no_second_body t.header), hdrPart_spec fuel t.header h.header hfuel]
  simp [recOf]

/-- **Round trip**: the line `NewJSONTargetEncoder` writes for a target, trimmed as the targeter
does, decodes to that target's record. -/
theorem decode_encode (t : ETarget) (h : Clean t) :
    decodeImage (Vegeta.Model.Histogram.trimSpace (encodeTarget t)) = some (recOf t) := by
  rw [encodeTarget_line, trim_line]; exact decodeImage_lineOf t h


/-! ### an encoded line contains no newline -/

theorem commaSep_no_nl (xs : List Bytes) (h : ∀ x ∈ xs, 10 ∉ x) : 10 ∉ commaSep xs := by
  induction xs with
  | nil => simp [commaSep]
  | cons x r ih =>
    cases r with
    | nil => exact h x (List.mem_cons_self ..)
    | cons y zs =>
      simp only [commaSep_cons2, List.mem_append, List.mem_cons, List.mem_nil_iff, or_false, not_or]
      exact ⟨⟨h x (List.mem_cons_self ..), by decide⟩, ih (fun z hz => h z (List.mem_cons_of_mem _ hz))⟩

theorem member_no_nl (kv : Bytes × Option (List Bytes)) (h : MemberOK kv) : 10 ∉ member kv := by
  obtain ⟨k, ov⟩ := kv
  simp only [member, List.mem_append, List.mem_cons, List.mem_nil_iff, or_false, not_or]
  refine ⟨⟨jString_no_nl _ h.1, by decide⟩, ?_⟩
  cases ov with
  | none => decide
  | some vs =>
    simp only [encodeValues, List.mem_append, List.mem_cons, List.mem_nil_iff, or_false, not_or]
    exact ⟨⟨by decide, commaSep_no_nl _ (List.forall_mem_map.mpr fun v hv => jString_no_nl v (h.2 v hv))⟩, by decide⟩

theorem lineOf_no_nl (t : ETarget) (h : Clean t) : 10 ∉ lineOf t := by
  have hbody : 10 ∉ (if t.body.length ≠ 0 then kwBody ++ [34] ++ b64Encode t.body ++ [34] else []) := by
    split
    · simp only [List.mem_append, List.mem_cons, List.mem_nil_iff, or_false, not_or]
      exact ⟨⟨⟨by decide, by decide⟩, fun hin => (b64Encode_safe _ _ hin).1 rfl⟩, by decide⟩
    · exact List.not_mem_nil
  have hhdr : 10 ∉ (if t.header.length ≠ 0 then kwHeader ++ encodeHeader t.header else []) := by
    split
    · simp only [encodeHeader_eq, List.mem_append, List.mem_cons, List.mem_nil_iff, or_false, not_or]
      exact ⟨by decide, ⟨by decide, commaSep_no_nl _ (List.forall_mem_map.mpr fun kv hkv =>
        member_no_nl kv (h.header kv hkv))⟩, by decide⟩
    · exact List.not_mem_nil
  simp only [lineOf, List.mem_cons, List.mem_append, List.mem_nil_iff, or_false, not_or]
  exact ⟨by decide, ⟨⟨⟨⟨⟨by decide, jString_no_nl _ h.method⟩, by decide⟩, jString_no_nl _ h.url⟩, hbody⟩, hhdr⟩,
    by decide⟩

end Vegeta.Proofs.JSONRoundTrip
