/-
Helper lemmas for C17: the bucket arithmetic of `lttb.Downsample` in soft floats —
`size = float64(count-2)/float64(threshold-2)` is a positive normal value, and the boundaries
`int(float64(j)*size)` increase by at least one per step. C17 cites `bucketsOK_general`.
-/
import Vegeta.Model.LTTB
import Vegeta.Proofs.Rounding
namespace Vegeta.Proofs.Buckets
open Vegeta.Go Vegeta.Model.LTTB Vegeta.Proofs.Rounding

/-- `int(float64(j) * size)` -/
def Bf (size : F64) (j : Int) : Int := F64.toInt64 (F64.mul (F64.ofInt j) size)

theorem width_eq (size : F64) (i : Int) : bucketWidth size i = Bf size (i+2) - Bf size (i+1) := by
  unfold bucketWidth bucketHi bucketLo Bf; omega

/-- The loop condition follows from: every width is ≥ 1 and, at every iteration, the points
consumed so far leave at least one. -/
theorem loopOK (size : F64) : ∀ (k : Nat) (i rem : Int),
    (∀ j : Int, i ≤ j → j < i + k → 1 ≤ Bf size (j+2) - Bf size (j+1)) →
    (∀ j : Int, i ≤ j → j < i + k → Bf size (j+1) - Bf size (i+1) + 1 ≤ rem) →
    bucketsLoopOK size k i rem = true := by
  intro k
  induction k with
  | zero => intro i rem _ _; rfl
  | succ k ih =>
    intro i rem hw hr
    have h0 := hw i (by omega) (by omega)
    have r0 := hr i (by omega) (by omega)
    unfold bucketsLoopOK
    rw [width_eq]
    simp only [Bool.and_eq_true, decide_eq_true_eq]
    refine ⟨⟨h0, by omega⟩, ih _ _ (fun j h1 h2 => hw j (by omega) (by omega)) (fun j h1 h2 => ?_)⟩
    -- the width just consumed is smaller than what was left
    have r1 := hr (i + 1) (by omega) (by omega)
    have rj := hr j (by omega) (by omega)
    rw [show i + 1 + 1 = i + 2 by omega] at r1 ⊢
    omega

/-- facts about `size = fl(w / u)` for `1 ≤ u < w < 2^50`: a positive normal `M / 2^E`
within half a unit of its last place (`2^-Ks`) of the exact quotient -/
structure SizeFacts (w u : Nat) (size : F64) (M E Ks : Nat) : Prop where
  hu1 : 1 ≤ u
  huw : u < w
  hw50 : w < 1125899906842624
  norm : IsNorm size M E
  hE : E ≤ 52
  hKs1 : 1 ≤ Ks
  hKs2 : Ks ≤ 52
  up : 2 * (M * 2 ^ Ks * u) ≤ (2 * (w * 2 ^ Ks) + u) * 2 ^ E
  lo : (2 * (w * 2 ^ Ks)) * 2 ^ E ≤ 2 * (M * 2 ^ Ks * u) + u * 2 ^ E
  brK : F64.p52 * u ≤ w * 2 ^ Ks
  hEK1 : E ≤ Ks
  hEK2 : Ks ≤ E + 1

theorem size_facts (count threshold : Int) (h3 : 3 ≤ threshold) (hlt : threshold < count)
    (hc : count ≤ 1125899906842624) :
    ∃ M E Ks, SizeFacts (count - 2).toNat (threshold - 2).toNat (bucketSize count threshold) M E Ks := by
  obtain ⟨Kw, _, _, hNw⟩ := ofInt_norm (count - 2) (by omega) (by omega)
  obtain ⟨Ku, _, _, hNu⟩ := ofInt_norm (threshold - 2) (by omega) (by omega)
  generalize hw : (count - 2).toNat = w at *
  generalize hu : (threshold - 2).toNat = u at *
  have hu1 : 1 ≤ u := by omega
  have huw : u < w := by omega
  have hw50 : w < 1125899906842624 := by omega
  obtain ⟨Ks, hKs1, hKs2, hlo, hhi⟩ := bracket_exists w u hu1 (Nat.le_of_lt huw)
    (Nat.lt_of_lt_of_le (show w < 1 * 2 ^ 52 by omega) (Nat.mul_le_mul_right _ hu1))
  -- `float64(w) / float64(u)` is the fraction `w/u` scaled by a power of two
  have hsz : bucketSize count threshold = ⟨(1074 - Ks) * F64.p52 + rq (w * 2 ^ Ks) u⟩ := by
    unfold bucketSize
    rw [div_norm _ _ _ _ _ _ hNw hNu]
    by_cases h : Kw ≤ Ku
    · rw [if_pos h, Nat.mul_assoc, ← Nat.pow_add, show Kw + (Ku - Kw) = Ku by omega]
      exact roundRat_eq_mul w u Ks _ hu1 (Nat.two_pow_pos _) hKs1 hKs2 hlo hhi
    · rw [if_neg h, Nat.mul_assoc, ← Nat.pow_add, show Ku + (Kw - Ku) = Kw by omega]
      exact roundRat_eq_mul w u Ks _ hu1 (Nat.two_pow_pos _) hKs1 hKs2 hlo hhi
  obtain ⟨hb1, hb2⟩ := rq_bounds (w * 2 ^ Ks) u hu1 hlo hhi
  obtain ⟨M, E, hN, hE, hME, _⟩ := decode Ks (rq (w * 2 ^ Ks) u) hKs1 hKs2 hb1 hb2
  obtain ⟨herr1, herr2⟩ := rq_err (w * 2 ^ Ks) u hu1
  obtain ⟨hEK1, hEK2⟩ := exp_within_one M _ Ks E hN.lo hN.hi hb1 hb2 hME
  rw [← hsz] at hN
  generalize rq (w * 2 ^ Ks) u = Q at *
  -- with `M·2^Ks = Q·2^E` the error bounds of `Q` become those of `M`
  have e : M * 2 ^ Ks * u = Q * u * 2 ^ E := by rw [hME, Nat.mul_right_comm]
  refine ⟨M, E, Ks, ⟨hu1, huw, hw50, hN, hE, hKs1, hKs2, ?_, ?_, hlo, hEK1, hEK2⟩⟩
  · rw [e, ← Nat.mul_assoc]; exact Nat.mul_le_mul_right _ herr1
  · rw [e, show 2 * (Q * u * 2 ^ E) + u * 2 ^ E = (2 * (Q * u) + u) * 2 ^ E by rw [Nat.add_mul, Nat.mul_assoc 2]]
    exact Nat.mul_le_mul_right _ herr2

/-! ### integer inequalities behind `firstFetch_le` -/

/-- `M = (I+1)·e − 1` (the fraction of `size` is all ones) is impossible for a `size` within half a unit in the last
place (`1/(e·v)`, `v ≥ 1`) of `w/u` when `2u < e`: (`lo`) gives `w < (I+1)·u`, then (`up`) gives `2·v·e ≤ 2·v·u + u`. -/
theorem frac_not_all_ones (e v u w M I : Nat) (he : 0 < e) (hv1 : 1 ≤ v) (hu1 : 1 ≤ u) (h2u : 2 * u < e)
    (hM : M + 1 = (I + 1) * e)
    (hup : 2 * (M * (e * v) * u) ≤ (2 * (w * (e * v)) + u) * e)
    (hlo : 2 * (w * (e * v)) * e ≤ 2 * (M * (e * v) * u) + u * e) : False := by
  -- divide both by e
  have hlo' : 2 * (w * v * e) ≤ 2 * (M * v * u) + u := by
    apply Nat.le_of_mul_le_mul_right _ he
    have e1 : 2 * (w * v * e) * e = 2 * (w * (e * v)) * e := by ac_rfl
    have e2 : (2 * (M * v * u) + u) * e = 2 * (M * (e * v) * u) + u * e := by
      rw [Nat.add_mul]; congr 1; ac_rfl
    rw [e1, e2]; exact hlo
  have hup' : 2 * (M * v * u) ≤ 2 * (w * v * e) + u := by
    apply Nat.le_of_mul_le_mul_right _ he
    have e1 : 2 * (M * v * u) * e = 2 * (M * (e * v) * u) := by ac_rfl
    have e2 : (2 * (w * v * e) + u) * e = (2 * (w * (e * v)) + u) * e := by
      congr 2; ac_rfl
    rw [e1, e2]; exact hup
  -- M·v·u = (I+1)·u·(v·e) − v·u
  have hMvu : M * v * u + v * u = (I + 1) * u * (v * e) := by
    have : M * v * u + v * u = (M + 1) * (v * u) := by
      rw [Nat.add_mul, Nat.one_mul]; congr 1; ac_rfl
    rw [this, hM]; ac_rfl
  have huv : u ≤ v * u := Nat.le_mul_of_pos_left u hv1
  have hwlt : w < (I + 1) * u := by
    apply Nat.lt_of_mul_lt_mul_right (a := v * e)
    rw [show w * (v * e) = w * v * e by ac_rfl]
    omega
  have hw1 : w * v * e + v * e ≤ (I + 1) * u * (v * e) := by
    have : (w + 1) * (v * e) ≤ (I + 1) * u * (v * e) := Nat.mul_le_mul_right _ hwlt
    rw [Nat.add_mul, Nat.one_mul, show w * (v * e) = w * v * e by ac_rfl] at this
    exact this
  have h9 : v * (2 * u) < v * e := Nat.mul_lt_mul_of_pos_left h2u hv1
  rw [show v * (2 * u) = 2 * (v * u) by ac_rfl] at h9
  omega

/-- `TT (2^E + M) E K ≤ M / 2^E + 1` with the division cleared (`e = 2^E`, `k = 2^K`), for `k = e` when the fraction
`R` of `M/e` is below `e` … -/
theorem TT_le_same (e M I R : Nat) (hdm : e * I + R = M) (hR : R < e) :
    2 * ((e + M) * e) + e < (I + 2) * (2 * e * e) := by
  have e3 : 2 * ((e + M) * e) + e = 2 * (e * e) + 2 * (M * e) + e := by
    rw [Nat.add_mul, Nat.mul_add]
  have e4 : (I + 2) * (2 * e * e) = 2 * (I * (e * e)) + 4 * (e * e) := by
    rw [Nat.add_mul]; congr 1 <;> ac_rfl
  have e5 : M * e = I * (e * e) + R * e := by
    rw [← hdm, Nat.add_mul]; congr 1; ac_rfl
  have h10 : (R + 1) * e ≤ e * e := Nat.mul_le_mul_right e hR
  rw [Nat.add_mul, Nat.one_mul] at h10
  rw [e3, e4, e5]
  omega

/-- … and for `2k = e` when it is below `e − 1` -/
theorem TT_le_half (k M I R : Nat) (hdm : 2 * k * I + R = M) (hR : R + 2 ≤ 2 * k) :
    2 * ((2 * k + M) * k) + 2 * k < (I + 2) * (2 * (2 * k) * k) := by
  have e3 : 2 * ((2 * k + M) * k) + 2 * k = 4 * (k * k) + 2 * (M * k) + 2 * k := by
    rw [Nat.add_mul, Nat.mul_add]; congr 1; congr 1; ac_rfl
  have e4 : (I + 2) * (2 * (2 * k) * k) = 4 * (I * (k * k)) + 8 * (k * k) := by
    rw [Nat.add_mul]; congr 1 <;> ac_rfl
  have e5 : M * k = 2 * (I * (k * k)) + R * k := by
    rw [← hdm, Nat.add_mul]; congr 1; ac_rfl
  have h10 : (R + 2) * k ≤ 2 * k * k := Nat.mul_le_mul_right k hR
  rw [Nat.add_mul, show 2 * k * k = 2 * (k * k) by ac_rfl] at h10
  rw [e3, e4, e5]
  omega

/-! ### the boundaries `Bf` under `SizeFacts` -/

section
variable {w u M E Ks : Nat} {size : F64} (hf : SizeFacts w u size M E Ks)
include hf

theorem size_ge_one : 2 ^ E ≤ M := by
  have h1 : 2 ^ E ≤ 2 ^ 52 := Nat.pow_le_pow_right (by decide) hf.hE
  have h2 : (2:Nat) ^ 52 = F64.p52 := by decide
  have := hf.norm.lo
  omega

theorem jM_lt (j : Nat) (hj : j ≤ u + 1) :
    j * M < 2 ^ E * 2 ^ 52 := by
  have hu1 := hf.hu1
  have huw := hf.huw
  have hw50 := hf.hw50
  -- 2·M·u ≤ (2w+u)·2^E  (from `up`, since u ≤ u·2^Ks), then j ≤ 2u
  have hpK : 0 < 2 ^ Ks := Nat.two_pow_pos Ks
  have hup : 2 * (M * u) ≤ (2 * w + u) * 2 ^ E := by
    apply Nat.le_of_mul_le_mul_right _ hpK
    have e1 : 2 * (M * u) * 2 ^ Ks = 2 * (M * 2 ^ Ks * u) := by ac_rfl
    have e2 : (2 * w + u) * 2 ^ E * 2 ^ Ks = (2 * (w * 2 ^ Ks) + u * 2 ^ Ks) * 2 ^ E := by
      have : (2 * w + u) * 2 ^ Ks = 2 * (w * 2 ^ Ks) + u * 2 ^ Ks := by
        rw [Nat.add_mul]; congr 1; ac_rfl
      rw [← this]; ac_rfl
    rw [e1, e2]
    refine Nat.le_trans hf.up (Nat.mul_le_mul_right _ ?_)
    have : u ≤ u * 2 ^ Ks := Nat.le_mul_of_pos_right u hpK
    omega
  have e52 : (2:Nat) ^ 52 = 4503599627370496 := by decide
  rw [e52]
  -- multiply the goal by 2u
  have h2u : 0 < 2 * u := by omega
  apply Nat.lt_of_mul_lt_mul_left (a := 2 * u)
  have hj2 : j ≤ 2 * u := by omega
  have h1 : 2 * u * (j * M) = j * (2 * (M * u)) := by ac_rfl
  have h2 : j * (2 * (M * u)) ≤ j * ((2 * w + u) * 2 ^ E) := Nat.mul_le_mul_left j hup
  have h3 : j * ((2 * w + u) * 2 ^ E) ≤ 2 * u * ((2 * w + u) * 2 ^ E) := Nat.mul_le_mul_right _ hj2
  have h4 : 2 * u * ((2 * w + u) * 2 ^ E) < 2 * u * (2 ^ E * 4503599627370496) := by
    apply Nat.mul_lt_mul_of_pos_left _ h2u
    rw [Nat.mul_comm (2 ^ E)]
    exact Nat.mul_lt_mul_of_pos_right (by omega) (Nat.two_pow_pos E)
  rw [h1]
  omega

theorem Bf_eq (j : Int) (hj1 : 1 ≤ j) (hj : j ≤ u + 1) :
    ∃ K, 1 ≤ K ∧ K ≤ 52 ∧ Bracket (j.toNat * M) E K ∧ Bf size j = ((TT (j.toNat * M) E K : Nat) : Int) :=
  toInt64_mul_ofInt size M E hf.norm hf.hE j hj1 (by have := hf.hw50; have := hf.huw; omega)
    (jM_lt hf j.toNat (by omega))

/-- **Every bucket is at least one point wide**: `int(float64(j+n)·size) ≥ int(float64(j)·size) + n`, because `size ≥ 1`. -/
theorem Bf_mono (j n : Int) (hj1 : 1 ≤ j) (hn : 0 ≤ n) (hj : j + n ≤ u + 1) :
    Bf size j + n ≤ Bf size (j + n) := by
  obtain ⟨K, _, _, hb, e⟩ := Bf_eq hf j hj1 (by omega)
  obtain ⟨K', _, _, hb', e'⟩ := Bf_eq hf (j + n) (by omega) hj
  rw [e, e']
  have hstep : j.toNat * M + n.toNat * 2 ^ E ≤ (j + n).toNat * M := by
    rw [show (j + n).toNat = j.toNat + n.toNat by omega, Nat.add_mul]
    exact Nat.add_le_add_left (Nat.mul_le_mul_left _ (size_ge_one hf)) _
  have := TT_add n.toNat _ _ E K K' hb hb' hstep
  omega

theorem firstFetch_ge :
    ∃ K, 1 ≤ K ∧ K ≤ 52 ∧ Bracket (2 ^ E + M) E K ∧
      firstFetch size = ((TT (2 ^ E + M) E K : Nat) : Int) ∧ 2 ≤ firstFetch size := by
  have hpE : 0 < 2 ^ E := Nat.two_pow_pos E
  have hME := size_ge_one hf
  have h2M := jM_lt hf 2 (by have := hf.hu1; omega)
  obtain ⟨K, hK1, hK2, hlo, hhi⟩ := bracket_exists (2 ^ E + M) (2 ^ E) hpE (Nat.le_add_right _ _) (by omega)
  have hff : firstFetch size = ((TT (2 ^ E + M) E K : Nat) : Int) := by
    -- `1 + size` is the fraction `(2^E + M) / 2^E`, scaled by `2^(52 − E)`
    have hg : 2 ^ E * 2 ^ (52 - E) = 2 ^ 52 := by rw [← Nat.pow_add]; congr 1; have := hf.hE; omega
    unfold firstFetch
    rw [add_one_norm size M E hf.norm hf.hE, show F64.p52 = 2 ^ 52 by decide, ← hg, ← Nat.add_mul]
    exact toInt64_roundRat (2 ^ E + M) (2 ^ E) K _ hpE (Nat.two_pow_pos _) hK1 hK2 hlo hhi
  refine ⟨K, hK1, hK2, ⟨hlo, hhi⟩, hff, ?_⟩
  have h1 := TT_ge_floor (2 ^ E + M) E K
  have h2 : 2 ≤ (2 ^ E + M) / 2 ^ E := (Nat.le_div_iff_mul_le hpE).mpr (by omega)
  omega

theorem Bf_one :
    Bf size 1 = ((M / 2 ^ E : Nat) : Int) := by
  obtain ⟨K, _, _, hb, e⟩ := Bf_eq hf 1 (by omega) (by omega)
  simp only [Int.toNat_one, Nat.one_mul] at hb e
  have hpE : 0 < 2 ^ E := Nat.two_pow_pos E
  have hKE : K = E := bracket_unique M (2 ^ E) K E hb.1 hb.2
    (Nat.mul_le_mul_right _ hf.norm.lo) (Nat.mul_lt_mul_of_pos_right hf.norm.hi hpE)
  rw [e, hKE]
  congr 1
  unfold TT
  have e1 : 2 * (M * 2 ^ E) + 2 ^ E = 2 ^ E * (2 * M + 1) := by
    rw [Nat.mul_add, Nat.mul_one]; congr 1; ac_rfl
  have e2 : 2 * 2 ^ E * 2 ^ E = 2 ^ E * (2 * 2 ^ E) := by ac_rfl
  rw [e1, e2, Nat.mul_div_mul_left _ _ hpE, ← Nat.div_div_eq_div_mul]
  have : (2 * M + 1) / 2 = M := by omega
  rw [this]

/-- `4·u < 2^Ks`: the quotient `w/u < 2^50` needs at least two more bits than `u` has -/
theorem four_u_lt : 4 * u < 2 ^ Ks := by
  have hw50 := hf.hw50
  have h := hf.brK
  have hpK : 0 < 2 ^ Ks := Nat.two_pow_pos Ks
  have h2 : w * 2 ^ Ks < 1125899906842624 * 2 ^ Ks := Nat.mul_lt_mul_of_pos_right hw50 hpK
  unfold F64.p52 at h
  omega

/-- the boundary after the last sampled bucket does not exceed `count − 2` -/
theorem Bf_last_le :
    Bf size (u : Int) ≤ (w : Int) := by
  have hu1 := hf.hu1
  obtain ⟨K, _, _, hb, e⟩ := Bf_eq hf u (by omega) (by omega)
  rw [e, Int.toNat_natCast] at *
  have hpE : 0 < 2 ^ E := Nat.two_pow_pos E
  have hpK : 0 < 2 ^ K := Nat.two_pow_pos K
  have hpKs : 0 < 2 ^ Ks := Nat.two_pow_pos Ks
  have h4 := four_u_lt hf
  have hlt : TT (u * M) E K < w + 1 := by
    unfold TT
    rw [Nat.div_lt_iff_lt_mul (Nat.mul_pos (Nat.mul_pos (by decide) hpE) hpK)]
    apply Nat.lt_of_mul_lt_mul_right (a := 2 ^ Ks)
    have hup := hf.up
    generalize 2 ^ Ks = ks at *
    generalize 2 ^ K = k at *
    generalize 2 ^ E = e at *
    -- atoms: P = M·ks·u·k, wke = w·ks·e·k, uek = u·e·k, eks = e·ks, ekks = e·k·ks
    have e1 : (2 * (u * M * k) + e) * ks = 2 * (M * ks * u * k) + e * ks := by
      rw [Nat.add_mul]; congr 1; ac_rfl
    have e2 : (w + 1) * (2 * e * k) * ks = 2 * (w * ks * e * k) + 2 * (e * k * ks) := by
      rw [Nat.add_mul, Nat.add_mul, Nat.one_mul]; congr 1 <;> ac_rfl
    have h1 : 2 * (M * ks * u) * k ≤ (2 * (w * ks) + u) * e * k := Nat.mul_le_mul_right k hup
    have e3 : 2 * (M * ks * u) * k = 2 * (M * ks * u * k) := by ac_rfl
    have e4 : (2 * (w * ks) + u) * e * k = 2 * (w * ks * e * k) + u * e * k := by
      rw [Nat.add_mul, Nat.add_mul]; congr 1; ac_rfl
    rw [e3, e4] at h1
    -- u·e·k + e·ks < 2·e·k·ks   from 4u < ks and k ≥ 1
    have h5 : 4 * (u * e * k) ≤ e * k * ks := by
      have : 4 * u ≤ ks := Nat.le_of_lt h4
      have := Nat.mul_le_mul_left (e * k) this
      have e5 : e * k * (4 * u) = 4 * (u * e * k) := by ac_rfl
      rw [e5] at this; exact this
    have h6 : e * ks ≤ e * k * ks := by
      have : e * ks * 1 ≤ e * ks * k := Nat.mul_le_mul_left _ hpK
      have e6 : e * ks * k = e * k * ks := by ac_rfl
      rw [Nat.mul_one, e6] at this; exact this
    have h7 : 0 < e * k * ks := Nat.mul_pos (Nat.mul_pos hpE hpK) hpKs
    rw [e1, e2]
    omega
  omega

/-- the first fetch takes at most `⌊size⌋ + 1` points: `1 + size` is not rounded up to the next integer -/
theorem firstFetch_le :
    firstFetch size ≤ ((M / 2 ^ E : Nat) : Int) + 1 := by
  obtain ⟨K0, hK01, _, hb0, e0, _⟩ := firstFetch_ge hf
  rw [e0]
  have hu1 := hf.hu1
  have hpE : 0 < 2 ^ E := Nat.two_pow_pos E
  have h4 := four_u_lt hf
  -- 2u < 2^E, so E ≥ 1
  have h2u : 2 * u < 2 ^ E := by
    have : 2 ^ Ks ≤ 2 ^ (E + 1) := Nat.pow_le_pow_right (by decide) hf.hEK2
    rw [Nat.pow_succ] at this; omega
  have hE1 : 1 ≤ E := Nat.pos_of_ne_zero (by rintro rfl; omega)
  -- K0 ∈ {E − 1, E}
  have hbM : Bracket M E E := ⟨Nat.mul_le_mul_right _ hf.norm.lo, Nat.mul_lt_mul_of_pos_right hf.norm.hi hpE⟩
  have hK0E : K0 ≤ E := bracket_antitone M (2 ^ E + M) E E K0 hbM hb0 (Nat.le_add_left _ _)
  have hb2M : Bracket (2 * M) E (E - 1) := by
    have e : 2 * M * 2 ^ (E - 1) = M * 2 ^ E := by
      rw [show E = (E - 1) + 1 by omega, Nat.pow_succ]; simp only [Nat.add_sub_cancel]; ac_rfl
    unfold Bracket; rw [e]; exact hbM
  have hM2E := size_ge_one hf
  have hEK0 : E - 1 ≤ K0 := bracket_antitone (2 ^ E + M) (2 * M) E K0 (E - 1) hb0 hb2M (by omega)
  have hdm := Nat.div_add_mod M (2 ^ E)
  have hmod := Nat.mod_lt M hpE
  -- not both: K0 = E − 1 and the fraction of M / 2^E all ones
  have hexcl : ¬ (K0 + 1 = E ∧ M % 2 ^ E + 1 = 2 ^ E) := by
    rintro ⟨_, hr⟩
    obtain ⟨v, hv, hv1⟩ : ∃ v, 2 ^ Ks = 2 ^ E * v ∧ 1 ≤ v :=
      ⟨2 ^ (Ks - E), by rw [← Nat.pow_add]; congr 1; have := hf.hEK1; omega, Nat.two_pow_pos _⟩
    have hup := hf.up
    have hlo := hf.lo
    rw [hv] at hup hlo
    refine frac_not_all_ones (2 ^ E) v u w M (M / 2 ^ E) hpE hv1 hu1 h2u ?_ hup hlo
    rw [Nat.add_mul, Nat.one_mul, Nat.mul_comm]; omega
  have hlt : TT (2 ^ E + M) E K0 < M / 2 ^ E + 2 := by
    unfold TT
    rw [Nat.div_lt_iff_lt_mul (Nat.mul_pos (Nat.mul_pos (by decide) hpE) (Nat.two_pow_pos K0))]
    rcases Nat.lt_or_ge K0 E with hk | hk
    · have hk' : K0 + 1 = E := by omega
      have e2 : 2 ^ E = 2 * 2 ^ K0 := by rw [← hk', Nat.pow_succ, Nat.mul_comm]
      have hR : ¬ M % 2 ^ E + 1 = 2 ^ E := fun h => hexcl ⟨hk', h⟩
      rw [e2] at hdm hmod hR ⊢
      exact TT_le_half _ _ _ _ hdm (by omega)
    · rw [show K0 = E by omega]
      exact TT_le_same _ _ _ _ hdm hmod
  omega

theorem bucketsOK_of (count : Int) (hcw : count = w + 2) :
    (decide (2 ≤ firstFetch size) && bucketsLoopOK size u 0 (count - min (firstFetch size) count)) = true := by
  obtain ⟨_, _, _, _, _, hf2⟩ := firstFetch_ge hf
  have hfle := firstFetch_le hf
  have hB1 := Bf_one hf
  have hBu := Bf_last_le hf
  have hmono := Bf_mono hf
  have hu1 := hf.hu1
  -- consumed before the last bucket fetch: f0 + B(u) − B(1) ≤ w + 1 = count − 1
  have hB1u := hmono 1 (u - 1) (by omega) (by omega) (by omega)
  rw [show (1 : Int) + (u - 1) = u by omega] at hB1u
  rw [show min (firstFetch size) count = firstFetch size by omega]
  simp only [Bool.and_eq_true, decide_eq_true_eq]
  refine ⟨hf2, loopOK size u 0 _ (fun j h1 h2 => ?_) (fun j h1 h2 => ?_)⟩
  · have := hmono (j + 1) 1 (by omega) (by omega) (by omega)
    rw [show j + 1 + 1 = j + 2 by omega] at this
    omega
  · have := hmono (j + 1) (u - (j + 1)) (by omega) (by omega) (by omega)
    rw [show j + 1 + (u - (j + 1)) = u by omega] at this
    rw [Int.zero_add]
    omega

end

/-- **The bucket arithmetic is sound for every pair** `3 ≤ threshold < count ≤ 2^50`: with the
float arithmetic of the code the first fetch asks for at least two points and every bucket
fetch asks for, and gets, at least one. -/
theorem bucketsOK_general (count threshold : Int) (h3 : 3 ≤ threshold) (hlt : threshold < count)
    (hc : count ≤ 1125899906842624) : bucketsOK count threshold = true := by
  obtain ⟨M, E, Ks, hf⟩ := size_facts count threshold h3 hlt hc
  exact bucketsOK_of hf count (by omega)

end Vegeta.Proofs.Buckets
