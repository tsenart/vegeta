/-
The redirect loop of `client.Do` (`clientDo`) through the answer of the installed `CheckRedirect`
(`decision`): one hop at a time; hops the policy follows can be skipped; what comes out is the
final answer, the response of a hop, or a stop text.  Stated in the functions' namespace.
-/
import Vegeta.Model.Hit
namespace Vegeta.Model.Hit
open Vegeta.Go

/-- what the installed `CheckRedirect` answers at a redirect response when `via` requests have been made -/
def decision (policy : Option Int) (via : Nat) : RedirectDecision :=
  match policy with
  | some n => checkRedirect n via
  | none => defaultCheckRedirect via

def stopText (policy : Option Int) : Bytes :=
  match policy with
  | some n => stoppedText n
  | none => stoppedText 10

theorem decision_follow {n : Int} {via : Nat} (hne : n ≠ noFollow) (h : (via : Int) ≤ n) :
    decision (some n) via = .follow := by
  show checkRedirect n via = _
  rw [checkRedirect, if_neg hne, if_neg (Int.not_lt.mpr h)]

theorem decision_stop {n : Int} {via : Nat} (hne : n ≠ noFollow) (h : n < (via : Int)) :
    decision (some n) via = .stop := by
  show checkRedirect n via = _
  rw [checkRedirect, if_neg hne, if_pos h]

theorem decision_default_follow {via : Nat} (h : via < 10) : decision none via = .follow := by
  show defaultCheckRedirect via = _
  rw [defaultCheckRedirect, if_neg (Nat.not_le.mpr h)]

theorem stopText_ne_nil (policy : Option Int) : stopText policy ≠ [] := by
  cases policy <;> exact List.append_ne_nil_of_right_ne_nil _ (List.cons_ne_nil _ _)

theorem clientDo_cons (policy : Option Int) (via : Nat) (h : Hop) (hs : List Hop) (fin : Final) :
    clientDo policy via (h :: hs) fin =
      match decision policy via with
      | .useLast => .resp h.resp
      | .stop => .err (h.stopPrefix ++ stopText policy)
      | .follow => clientDo policy (via + 1) hs fin := by
  simp only [clientDo]; rfl

theorem clientDo_drop (policy : Option Int) (fin : Final) : ∀ (hops : List Hop) (via i : Nat),
    (∀ j, j < i → decision policy (j + via) = .follow) →
    clientDo policy via hops fin = clientDo policy (i + via) (hops.drop i) fin := by
  intro hops
  induction hops with
  | nil => intro via i _; rw [List.drop_nil]; cases fin <;> rfl
  | cons a r ih =>
    intro via i hf
    cases i with
    | zero => rw [Nat.zero_add, List.drop_zero]
    | succ i =>
      rw [clientDo_cons, show decision policy via = .follow from Nat.zero_add via ▸ hf 0 (Nat.zero_lt_succ _),
        List.drop_succ_cons, Nat.succ_add_eq_add_succ]
      exact ih (via + 1) i fun j hj => Nat.succ_add_eq_add_succ j via ▸ hf (j + 1) (Nat.succ_lt_succ hj)

/-- a response is the final answer or a hop's; an error text is the transport's or ends in the stop text -/
theorem clientDo_sound (policy : Option Int) (fin : Final) : ∀ (hops : List Hop) (via : Nat),
    (∀ r, clientDo policy via hops fin = .resp r → fin = .response r ∨ ∃ h ∈ hops, h.resp = r) ∧
    (∀ text, clientDo policy via hops fin = .err text →
      fin = .transportErr text ∨ ∃ p, text = p ++ stopText policy) := by
  intro hops
  induction hops with
  | nil =>
    intro via
    cases fin with
    | transportErr t => exact ⟨fun _ h => DoResult.noConfusion h, fun text h => Or.inl (DoResult.err.inj h ▸ rfl)⟩
    | response r => exact ⟨fun r' h => Or.inl (DoResult.resp.inj h ▸ rfl), fun _ h => DoResult.noConfusion h⟩
  | cons h hs ih =>
    intro via
    rw [clientDo_cons]
    cases decision policy via with
    | useLast =>
      refine ⟨fun r hr => Or.inr ⟨h, List.mem_cons_self, ?_⟩, fun _ hr => DoResult.noConfusion hr⟩
      exact DoResult.resp.inj hr
    | stop =>
      refine ⟨fun _ hr => DoResult.noConfusion hr, fun text hr => Or.inr ⟨h.stopPrefix, ?_⟩⟩
      exact (DoResult.err.inj hr).symm
    | follow =>
      refine ⟨fun r hr => ((ih (via + 1)).1 r hr).imp id ?_, (ih (via + 1)).2⟩
      exact fun ⟨h', hm, he⟩ => ⟨h', List.mem_cons_of_mem _ hm, he⟩

end Vegeta.Model.Hit
