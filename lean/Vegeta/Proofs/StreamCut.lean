/-
Truncated result streams: an encoded JSON record is one line, `ReadBytes('\n')` on a cut stream
never yields a partial line, the JSON decoder on a stream cut anywhere returns exactly the records
lying wholly before the cut, and the CSV / JSON encoders hand whole records to the writer per call.
-/
import Vegeta.Proofs.CodecDomain
import Vegeta.Proofs.CodecDecimal
import Vegeta.Proofs.CodecBase64
import Vegeta.Proofs.CodecJSONString
import Vegeta.Proofs.CodecJSONResult
import Vegeta.Proofs.CodecRFC3339
namespace Vegeta.Proofs.Codec
open Vegeta.Go Vegeta.Model.Codec Vegeta.Model.GobFrame

/-- a record line: some bytes without a newline, then exactly one newline -/
def IsLine (l : Bytes) : Prop := ∃ body, l = body ++ [10] ∧ 10 ∉ body

/-- pointwise relation of two lists (the `List.Forall₂` of Batteries/Mathlib, which core Lean lacks) -/
inductive Forall₂ {α β : Type} (R : α → β → Prop) : List α → List β → Prop
  | nil : Forall₂ R [] []
  | cons {a : α} {b : β} {as : List α} {bs : List β} : R a b → Forall₂ R as bs → Forall₂ R (a :: as) (b :: bs)

theorem Forall₂.length_eq {α β : Type} {R : α → β → Prop} {as : List α} {bs : List β}
    (h : Forall₂ R as bs) : as.length = bs.length := by
  induction h with
  | nil => rfl
  | cons _ _ ih => simp [ih]

theorem Forall₂.forall_left {α β : Type} {R : α → β → Prop} {P : α → Prop} {as : List α} {bs : List β}
    (h : Forall₂ R as bs) (hP : ∀ a b, R a b → P a) : ∀ a ∈ as, P a := by
  induction h with
  | nil => exact fun _ h => nomatch h
  | cons hab _ ih => exact List.forall_mem_cons.2 ⟨hP _ _ hab, ih⟩

/-- number of leading lines lying wholly before a cut after `k` bytes -/
def linesBefore : List Bytes → Nat → Nat
  | [], _ => 0
  | l :: ls, k => if l.length ≤ k then 1 + linesBefore ls (k - l.length) else 0

example : linesBefore [[1, 10], [2, 3, 10]] 4 = 1 := by decide +kernel
example : linesBefore [[1, 10], [2, 3, 10]] 5 = 2 := by decide +kernel
example : linesBefore [[1, 10], [2, 3, 10]] 1 = 0 := by decide +kernel

/-- all bytes are at least 0x20 (no control bytes, in particular no newline) -/
def Ge32 (b : Bytes) : Prop := ∀ c ∈ b, 32 ≤ c

theorem Ge32.nil : Ge32 [] := by intro c hc; cases hc

theorem Ge32.cons {a : Nat} {b : Bytes} (ha : 32 ≤ a) (hb : Ge32 b) : Ge32 (a :: b) := by
  intro c hc
  rcases List.mem_cons.1 hc with h | h
  · omega
  · exact hb c h

theorem Ge32.append {a b : Bytes} (ha : Ge32 a) (hb : Ge32 b) : Ge32 (a ++ b) := by
  intro c hc
  rcases List.mem_append.1 hc with h | h
  · exact ha c h
  · exact hb c h

theorem fmtNat_ge32 (n : Nat) : Ge32 (fmtNat n) := fun c hc => by
  have := fmtNat_digits n c hc; omega

theorem fmtInt_ge32 (i : Int) : Ge32 (fmtInt i) := fun c hc => by
  have := fmtInt_chars i c hc; omega

theorem timeMarshalJSON_ge32 (ns offMin : Int) (ts : Bytes) (h : timeMarshalJSON ns offMin = some ts) :
    Ge32 ts := by
  unfold timeMarshalJSON at h
  cases hf : fmtRFC3339 ns offMin with
  | none => rw [hf] at h; cases h
  | some b =>
    rw [hf] at h
    injection h with h
    subst h
    exact Ge32.cons (by decide)
      (Ge32.append (fun c hc => (fmtRFC3339_ok ns offMin b hf c hc).1) (Ge32.cons (by decide) Ge32.nil))

theorem jsonString_ge32 (s : Bytes) : Ge32 (jsonString s) := by
  unfold jsonString
  exact Ge32.cons (by decide) (Ge32.append (jsonEscape_no_ctl s) (Ge32.cons (by decide) Ge32.nil))

theorem null_ge32 : Ge32 [110, 117, 108, 108] := by
  intro c hc; simp at hc; omega

theorem jsonBody_ge32 (b : Option Bytes) : Ge32 (jsonBody b) := by
  cases b with
  | none => exact null_ge32
  | some b =>
    unfold jsonBody
    refine Ge32.cons (by decide) (Ge32.append ?_ (Ge32.cons (by decide) Ge32.nil))
    intro c hc
    exact (b64Encode_safe b c hc).2.2.2.2.2.1

theorem commaJoin_ge32 (xs : List Bytes) (h : ∀ x ∈ xs, Ge32 x) : Ge32 (commaJoin xs) := by
  induction xs with
  | nil => exact Ge32.nil
  | cons x r ih =>
    cases r with
    | nil => exact h x (by simp)
    | cons y r =>
      unfold commaJoin
      exact Ge32.append (h x (by simp)) (Ge32.cons (by decide) (ih (fun z hz => h z (List.mem_cons_of_mem _ hz))))

theorem jsonHeaderEntry_ge32 (kv : Bytes × List Bytes) : Ge32 (jsonHeaderEntry kv) := by
  unfold jsonHeaderEntry
  refine Ge32.append (jsonString_ge32 _) (Ge32.cons (by decide) ?_)
  split
  · exact null_ge32
  · refine Ge32.cons (by decide) (Ge32.append (commaJoin_ge32 _ ?_) (Ge32.cons (by decide) Ge32.nil))
    intro x hx
    obtain ⟨v, _, rfl⟩ := List.mem_map.1 hx
    exact jsonString_ge32 v

theorem jsonHeaders_ge32 (h : Option Header) : Ge32 (jsonHeaders h) := by
  cases h with
  | none => exact null_ge32
  | some h =>
    unfold jsonHeaders
    refine Ge32.cons (by decide) (Ge32.append (commaJoin_ge32 _ ?_) (Ge32.cons (by decide) Ge32.nil))
    intro x hx
    obtain ⟨kv, _, rfl⟩ := List.mem_map.1 hx
    exact jsonHeaderEntry_ge32 kv

theorem K_ge32 {n : Bytes} (h : ∀ c ∈ n, 32 ≤ c) : Ge32 (K n) :=
  Ge32.cons (by decide) (Ge32.append h (Ge32.cons (by decide) (Ge32.cons (by decide) Ge32.nil)))

/-- bytes ≥ 0x20 followed by one newline; kept under appending in front, so it can be read off the
right-nested form of an encoded record -/
def EndsNL (s : Bytes) : Prop := ∃ body, s = body ++ [10] ∧ Ge32 body

theorem EndsNL.nl : EndsNL [10] := ⟨[], rfl, Ge32.nil⟩

theorem EndsNL.append {a b : Bytes} (ha : Ge32 a) (hb : EndsNL b) : EndsNL (a ++ b) := by
  obtain ⟨body, rfl, h⟩ := hb
  exact ⟨a ++ body, (List.append_assoc _ _ _).symm, Ge32.append ha h⟩

theorem EndsNL.cons {c : Nat} {b : Bytes} (hc : 32 ≤ c) (hb : EndsNL b) : EndsNL (c :: b) :=
  EndsNL.append (a := [c]) (Ge32.cons hc Ge32.nil) hb

/-- `,"n":v` in front of the rest of the record -/
theorem EndsNL.member {n v rest : Bytes} (hn : ∀ c ∈ n, 32 ≤ c) (hv : Ge32 v) (h : EndsNL rest) :
    EndsNL (44 :: (K n ++ (v ++ rest))) :=
  .cons (by decide) (.append (K_ge32 hn) (.append hv h))

theorem EndsNL.isLine {s : Bytes} (h : EndsNL s) : IsLine s := by
  obtain ⟨body, rfl, hb⟩ := h
  exact ⟨body, rfl, fun h10 => absurd (hb 10 h10) (by decide)⟩

/-- whatever the result (valid UTF-8 or not, any numbers), an encoded JSON record contains the byte 0x0A exactly
once, as its last byte (cited by `Props.C09.json_record_single_newline`) -/
theorem encodeJSON_single_newline (offMin : Int) (r : Result) (b : Bytes)
    (h : encodeJSON offMin r = some b) : IsLine b := by
  cases hts : timeMarshalJSON r.timestamp offMin with
  | none => simp [encodeJSON, hts] at h
  | some ts =>
    rw [encodeJSON_shape offMin r ts hts] at h
    cases h
    have hts' := timeMarshalJSON_ge32 _ _ _ hts
    unfold lineBody
    exact EndsNL.isLine <| .cons (by decide) <| .append (K_ge32 (by decide)) <| .append (jsonString_ge32 _) <|
      .member (by decide) (fmtNat_ge32 _) <| .member (by decide) (fmtNat_ge32 _) <|
      .member (by decide) hts' <| .member (by decide) (fmtInt_ge32 _) <|
      .member (by decide) (fmtNat_ge32 _) <| .member (by decide) (fmtNat_ge32 _) <|
      .member (by decide) (jsonString_ge32 _) <| .member (by decide) (jsonBody_ge32 _) <|
      .member (by decide) (jsonString_ge32 _) <| .member (by decide) (jsonString_ge32 _) <|
      .member (by decide) (jsonHeaders_ge32 _) <| .cons (by decide) .nl

example : splitLine [1, 2, 10, 3] = some ([1, 2, 10], [3]) := by decide +kernel
example : splitLine [1, 2, 3] = none := by decide +kernel

theorem splitLine_body (body rest : Bytes) (h : 10 ∉ body) :
    splitLine (body ++ 10 :: rest) = some (body ++ [10], rest) := by
  induction body with
  | nil => simp [splitLine]
  | cons c body ih =>
    have hc : c ≠ 10 := fun e => h (by simp [e])
    have hb : 10 ∉ body := fun e => h (List.mem_cons_of_mem _ e)
    simp [splitLine, hc, ih hb]

theorem splitLine_line (l rest : Bytes) (hl : IsLine l) : splitLine (l ++ rest) = some (l, rest) := by
  obtain ⟨body, rfl, hb⟩ := hl
  rw [List.append_assoc]
  exact splitLine_body body rest hb

theorem splitLine_none (s : Bytes) (h : 10 ∉ s) : splitLine s = none := by
  induction s with
  | nil => rfl
  | cons c s ih =>
    have hc : c ≠ 10 := fun e => h (by simp [e])
    have hb : 10 ∉ s := fun e => h (List.mem_cons_of_mem _ e)
    simp [splitLine, hc, ih hb]

theorem take_line_no_nl (l : Bytes) (hl : IsLine l) (k : Nat) (hk : k < l.length) : 10 ∉ l.take k := by
  obtain ⟨body, rfl, hb⟩ := hl
  have hk' : k ≤ body.length := by simp at hk; omega
  rw [List.take_append_of_le_length hk']
  intro h
  exact hb (List.mem_of_mem_take h)

theorem decodeJSONF_cut (lines : List Bytes) (rs : List Result)
    (h : Forall₂ (fun l r => IsLine l ∧ decodeJSONLine l = .ok r) lines rs) :
    ∀ (k fuel : Nat), linesBefore lines k < fuel →
      decodeJSONF fuel (lines.flatten.take k) = (rs.take (linesBefore lines k), .eof) := by
  induction h with
  | nil =>
    intro k fuel hf
    cases fuel with
    | zero => omega
    | succ f => simp [decodeJSONF, linesBefore]
  | @cons l r ls rs' hlr _ ih =>
    intro k fuel hf
    cases fuel with
    | zero => omega
    | succ f =>
      simp only [linesBefore] at hf
      simp only [List.flatten_cons, linesBefore]
      by_cases hk : l.length ≤ k
      · rw [if_pos hk, List.take_append, List.take_of_length_le hk]
        have hne : (l ++ List.take (k - l.length) ls.flatten).isEmpty = false := by
          obtain ⟨body, rfl, _⟩ := hlr.1
          simp
        unfold decodeJSONF
        rw [hne, splitLine_line _ _ hlr.1]
        simp only [Bool.false_eq_true, if_false, hlr.2]
        rw [if_pos hk] at hf
        rw [ih (k - l.length) f (by omega)]
        simp [Nat.add_comm 1]
      · rw [if_neg hk]
        have hk' : k < l.length := by omega
        rw [List.take_append_of_le_length (by omega)]
        unfold decodeJSONF
        by_cases he : (List.take k l).isEmpty
        · simp [he]
        · simp only [he, Bool.false_eq_true, if_false, splitLine_none _ (take_line_no_nl l hlr.1 k hk')]
          simp

theorem linesBefore_le_length (lines : List Bytes) (h : ∀ l ∈ lines, 1 ≤ l.length) (k : Nat) :
    linesBefore lines k ≤ (lines.flatten.take k).length := by
  induction lines generalizing k with
  | nil => simp [linesBefore]
  | cons l ls ih =>
    simp only [linesBefore]
    split
    · have h1 := h l (by simp)
      have h2 := ih (fun x hx => h x (List.mem_cons_of_mem _ hx)) (k - l.length)
      simp only [List.flatten_cons, List.length_take, List.length_append] at h2 ⊢
      omega
    · omega

/-- a stream of record lines cut after ANY number of bytes decodes to the results of the lines lying wholly before
the cut, then end-of-stream: never a partial record (`Props.C09.json_cut_prefix` applies it to the encoder's lines) -/
theorem decodeJSON_cut (lines : List Bytes) (rs : List Result)
    (h : Forall₂ (fun l r => IsLine l ∧ decodeJSONLine l = .ok r) lines rs) (k : Nat) :
    decodeJSON (lines.flatten.take k) = (rs.take (linesBefore lines k), .eof) := by
  unfold decodeJSON
  apply decodeJSONF_cut lines rs h
  have hl : ∀ l ∈ lines, 1 ≤ l.length := fun l hl => by
    obtain ⟨body, rfl, _⟩ := h.forall_left (P := IsLine) (fun _ _ hlr => hlr.1) l hl
    simp
  have := linesBefore_le_length lines hl k
  omega

/-- `linesBefore` counts exactly the complete lines: they fit before the cut and the next one does not -/
theorem linesBefore_spec (lines : List Bytes) (k : Nat) :
    linesBefore lines k ≤ lines.length ∧ ((lines.take (linesBefore lines k)).flatten).length ≤ k ∧
      (∀ l, lines[linesBefore lines k]? = some l → k < ((lines.take (linesBefore lines k + 1)).flatten).length) := by
  induction lines generalizing k with
  | nil => simp [linesBefore]
  | cons l ls ih =>
    simp only [linesBefore]
    split
    · obtain ⟨h1, h2, h3⟩ := ih (k - l.length)
      refine ⟨by simp only [List.length_cons]; omega, ?_, ?_⟩
      · rw [Nat.add_comm 1, List.take_succ_cons, List.flatten_cons, List.length_append]
        omega
      · intro x hx
        rw [Nat.add_comm 1, List.getElem?_cons_succ] at hx
        have := h3 x hx
        rw [Nat.add_comm 1, List.take_succ_cons, List.flatten_cons, List.length_append]
        omega
    · refine ⟨by omega, by simp, ?_⟩
      intro x _
      simp
      omega

theorem linesBefore_all (lines : List Bytes) : linesBefore lines lines.flatten.length = lines.length := by
  induction lines with
  | nil => rfl
  | cons l ls ih =>
    simp only [linesBefore, List.flatten_cons, List.length_append, List.length_cons]
    rw [if_pos (Nat.le_add_right _ _), Nat.add_sub_cancel_left, ih, Nat.add_comm]

theorem decodeJSON_lines (lines : List Bytes) (rs : List Result)
    (h : Forall₂ (fun l r => IsLine l ∧ decodeJSONLine l = .ok r) lines rs) :
    decodeJSON lines.flatten = (rs, .eof) := by
  have hk := decodeJSON_cut lines rs h lines.flatten.length
  rwa [List.take_length, linesBefore_all, h.length_eq, List.take_length] at hk

theorem bufFlush_bufWrite (cap : Nat) (st : EncSt) (p : Bytes) :
    bufFlush (bufWrite cap st p) = { out := st.out ++ st.buf ++ p, buf := [] } := by
  unfold bufFlush bufWrite
  simp only
  split
  · simp [List.append_assoc]
  · simp only [List.append_assoc, List.take_append_drop]

theorem csv_calls_from (rs : List Result) (st : EncSt) (hst : st.buf = []) :
    (rs.foldl csvEncodeCall st).out = st.out ++ encodeCSVAll rs ∧ (rs.foldl csvEncodeCall st).buf = [] := by
  induction rs generalizing st with
  | nil => simp [encodeCSVAll, hst]
  | cons r rs ih =>
    rw [List.foldl_cons]
    have h := ih (csvEncodeCall st r) (by unfold csvEncodeCall; rw [bufFlush_bufWrite])
    refine ⟨?_, h.2⟩
    rw [h.1]
    unfold csvEncodeCall
    rw [bufFlush_bufWrite, hst]
    simp [encodeCSVAll, List.append_assoc]

/-- Write + Flush per call: after the calls for `rs` the writer has exactly the records of `rs` and nothing is held
back (`Props.C09.csv_encode_emits_whole_records` applies it to `rs.take k`) -/
theorem csv_calls_whole_records (rs : List Result) :
    (rs.foldl csvEncodeCall {}).out = encodeCSVAll rs ∧ (rs.foldl csvEncodeCall {}).buf = [] := by
  have h := csv_calls_from rs {} rfl
  simpa using h

theorem encodeJSONAll_cons_eq_some {offMin : Int} {r : Result} {rs : List Result} {s : Bytes}
    (h : encodeJSONAll offMin (r :: rs) = some s) :
    ∃ a b, encodeJSON offMin r = some a ∧ encodeJSONAll offMin rs = some b ∧ s = a ++ b := by
  simp only [encodeJSONAll] at h
  -- `encodeJSONAll` is `some` only when both parts are
  cases h1 : encodeJSON offMin r <;> cases h2 : encodeJSONAll offMin rs <;> simp_all

theorem json_calls_from (offMin : Int) (rs : List Result) (st : EncSt) (hst : st.buf = []) (b : Bytes)
    (h : encodeJSONAll offMin rs = some b) :
    (rs.foldl (jsonEncodeCall offMin) st).out = st.out ++ b ∧
      (rs.foldl (jsonEncodeCall offMin) st).buf = [] := by
  induction rs generalizing st b with
  | nil =>
    simp only [encodeJSONAll] at h
    injection h with h
    subst h
    simp [hst]
  | cons r rs ih =>
    obtain ⟨a, b', ha, hb, rfl⟩ := encodeJSONAll_cons_eq_some h
    have hcall : jsonEncodeCall offMin st r = { out := st.out ++ a, buf := [] } := by
      unfold jsonEncodeCall bufFlush
      rw [ha]
      simp [hst]
    rw [List.foldl_cons, hcall]
    have h := ih { out := st.out ++ a, buf := [] } rfl b' hb
    exact ⟨by rw [h.1]; simp [List.append_assoc], h.2⟩

/-- the same for the JSON encoder when every call succeeds (cited by `Props.C09.json_encode_emits_whole_records`) -/
theorem json_calls_whole_records (offMin : Int) (rs : List Result) (b : Bytes)
    (h : encodeJSONAll offMin rs = some b) :
    (rs.foldl (jsonEncodeCall offMin) {}).out = b ∧ (rs.foldl (jsonEncodeCall offMin) {}).buf = [] := by
  have h := json_calls_from offMin rs {} rfl b h
  simpa using h

end Vegeta.Proofs.Codec
