/-
Lemmas about the JSON targeter model.  The header merge is read through `vlookup`: per key, the
values of the source are appended.  The line reader is followed on a file given by its lines
(`fileOf`): a call skips blank lines and delivers the first non-blank one trimmed.
-/
import Vegeta.Model.JSONTargets
namespace Vegeta.Proofs.JSONTargets
open Vegeta.Go
open Vegeta.Model.Histogram (trimSpace)
open Vegeta.Model.JSONTargets

theorem vlookup_vset (m : VMap) (k k' : Bytes) (vs : List Bytes) :
    vlookup (vset m k vs) k' = if k = k' then some vs else vlookup m k' := by
  induction m with
  | nil => simp only [vset, vlookup]
  | cons e r ih =>
    obtain ⟨k0, v0⟩ := e
    simp only [vset]
    by_cases h0 : k0 = k
    · subst h0
      simp only [↓reduceIte, vlookup]
      by_cases h1 : k0 = k' <;> simp [h1]
    · simp only [h0, ↓reduceIte, vlookup, ih]
      by_cases h1 : k0 = k'
      · subst h1
        simp [Ne.symm h0]
      · simp [h1]

theorem vlookup_vappend (m : VMap) (k k' : Bytes) (vs : List Bytes) :
    vlookup (vappend m k vs) k' = if k = k' then some ((vlookup m k).getD [] ++ vs) else vlookup m k' := by
  simp only [vappend, vlookup_vset]

theorem vlookup_of_not_mem (m : VMap) (k : Bytes) (h : k ∉ m.map (·.1)) : vlookup m k = none := by
  induction m with
  | nil => rfl
  | cons e r ih =>
    obtain ⟨k0, v0⟩ := e
    rw [List.map_cons, List.mem_cons, not_or] at h
    rw [vlookup, if_neg (Ne.symm h.1), ih h.2]

theorem vlookup_vmerge (src : VMap) (hnd : (src.map (·.1)).Nodup) : ∀ (m : VMap) (k : Bytes),
    vlookup (vmerge m src) k =
      match vlookup src k with
      | none => vlookup m k
      | some vs => some ((vlookup m k).getD [] ++ vs) := by
  induction src with
  | nil => intro m k; rfl
  | cons e r ih =>
    intro m k
    obtain ⟨k0, v0⟩ := e
    rw [List.map_cons, List.nodup_cons] at hnd
    show vlookup (vmerge (vappend m k0 v0) r) k = _
    rw [ih hnd.2, vlookup_vappend, vlookup]
    by_cases h0 : k0 = k
    · subst h0; simp [vlookup_of_not_mem r k0 hnd.1]
    · simp [h0]

/-- what the unlocked part of the JSON targeter returns: the decoded method and URL, the decoded
body or else the default body, and per key the default values followed by the decoded ones -/
theorem finish_spec (cfg : Cfg) (line : Bytes) (t : JRec) (h : finish cfg line = .ok t)
    (hd : (cfg.hdr.map (·.1)).Nodup) (hr : ∀ r, cfg.dec line = some r → (r.header.map (·.1)).Nodup) :
    ∃ r, cfg.dec line = some r ∧ r.method ≠ [] ∧ r.url ≠ [] ∧ t.method = r.method ∧ t.url = r.url ∧
      t.body = (if r.body.length > 0 then r.body else cfg.body) ∧
      ∀ k, vlookup t.header k =
        match vlookup cfg.hdr k, vlookup r.header k with
        | none, none => none
        | some ds, none => some ds
        | none, some vs => some vs
        | some ds, some vs => some (ds ++ vs) := by
  unfold finish at h
  cases hdec : cfg.dec line with
  | none => rw [hdec] at h; cases h
  | some r =>
    rw [hdec] at h
    dsimp only at h
    by_cases hm : r.method = []
    · rw [if_pos hm] at h; cases h
    rw [if_neg hm] at h
    by_cases hu : r.url = []
    · rw [if_pos hu] at h; cases h
    rw [if_neg hu] at h
    cases h
    refine ⟨r, rfl, hm, hu, rfl, rfl, rfl, fun k => ?_⟩
    dsimp only
    rw [vlookup_vmerge _ (hr r hdec), vlookup_vmerge _ hd]
    cases vlookup cfg.hdr k <;> cases vlookup r.header k <;> rfl

theorem readLine_line (l : Bytes) (hl : 10 ∉ l) (rest : Bytes) : readLine (l ++ 10 :: rest) = some (l ++ [10], rest) := by
  induction l with
  | nil => simp [readLine]
  | cons c t ih =>
    rw [List.mem_cons, not_or] at hl
    simp [readLine, Ne.symm hl.1, ih hl.2]

theorem readLine_tail (t : Bytes) (ht : 10 ∉ t) : readLine t = none := by
  induction t with
  | nil => rfl
  | cons c r ih =>
    rw [List.mem_cons, not_or] at ht
    simp [readLine, Ne.symm ht.1, ih ht.2]

/-- a file: newline-terminated lines, then an unterminated rest -/
def fileOf (ls : List Bytes) (tail : Bytes) : Bytes :=
  match ls with
  | [] => tail
  | l :: r => l ++ 10 :: fileOf r tail

/-- the trimmed non-blank lines, in order: what the targeter decodes -/
def nonBlank : List Bytes → List Bytes
  | [] => []
  | l :: r => if trimSpace (l ++ [10]) = [] then nonBlank r else trimSpace (l ++ [10]) :: nonBlank r

theorem fileOf_length (ls : List Bytes) (tail : Bytes) : ls.length ≤ (fileOf ls tail).length := by
  induction ls with
  | nil => simp
  | cons l r ih => simp [fileOf]; omega

theorem popLine_nil (tail : Bytes) (ht : 10 ∉ tail) (f : Nat) : popLine (f + 1) (fileOf [] tail) = (none, []) := by
  simp [fileOf, popLine, readLine_tail tail ht]

theorem popLine_cons (l : Bytes) (hl : 10 ∉ l) (r : List Bytes) (tail : Bytes) (f : Nat) :
    popLine (f + 1) (fileOf (l :: r) tail) =
      if trimSpace (l ++ [10]) = [] then popLine f (fileOf r tail)
      else (some (trimSpace (l ++ [10])), fileOf r tail) := by
  simp only [fileOf, popLine, readLine_line l hl]

theorem popLine_fuel (tail : Bytes) (ht : 10 ∉ tail) : ∀ (ls : List Bytes) (f g : Nat), (∀ l ∈ ls, 10 ∉ l) →
    ls.length < f → ls.length < g → popLine f (fileOf ls tail) = popLine g (fileOf ls tail) := by
  intro ls
  induction ls with
  | nil =>
    intro f g _ hf hg
    obtain ⟨f, rfl⟩ := Nat.exists_eq_add_one.mpr hf
    obtain ⟨g, rfl⟩ := Nat.exists_eq_add_one.mpr hg
    rw [popLine_nil tail ht, popLine_nil tail ht]
  | cons l r ih =>
    intro f g hls hf hg
    obtain ⟨f, rfl⟩ := Nat.exists_eq_add_one.mpr (Nat.zero_lt_of_lt hf)
    obtain ⟨g, rfl⟩ := Nat.exists_eq_add_one.mpr (Nat.zero_lt_of_lt hg)
    rw [List.forall_mem_cons] at hls
    rw [popLine_cons l hls.1, popLine_cons l hls.1,
      ih f g hls.2 (Nat.lt_of_succ_lt_succ hf) (Nat.lt_of_succ_lt_succ hg)]

theorem call_cons (cfg : Cfg) (l : Bytes) (hl : 10 ∉ l) (r : List Bytes) (hr : ∀ x ∈ r, 10 ∉ x) (tail : Bytes)
    (ht : 10 ∉ tail) :
    call cfg (fileOf (l :: r) tail) =
      if trimSpace (l ++ [10]) = [] then call cfg (fileOf r tail)
      else (finish cfg (trimSpace (l ++ [10])), fileOf r tail) := by
  rw [call, call, popLine_cons l hl]
  by_cases hb : trimSpace (l ++ [10]) = []
  · rw [if_pos hb, if_pos hb, popLine_fuel tail ht r _ ((fileOf r tail).length + 1) hr
      (fileOf_length (l :: r) tail) (Nat.lt_succ_of_le (fileOf_length r tail))]
  · rw [if_neg hb, if_neg hb]

theorem calls_empty (cfg : Cfg) : ∀ j, (calls cfg j []).1 = List.replicate j (.error eNoTargets) := by
  intro j
  induction j with
  | zero => rfl
  | succ j ih => simp [calls, call, popLine, readLine, ih, List.replicate_succ]

/-- **The JSON targeter on a file**: the calls return `finish` of every trimmed non-blank
newline-terminated line, in order, and `ErrNoTargets` ever after; an unterminated last line is
never delivered. -/
theorem calls_file (cfg : Cfg) (tail : Bytes) (ht : 10 ∉ tail) : ∀ (ls : List Bytes), (∀ l ∈ ls, 10 ∉ l) → ∀ k,
    (calls cfg ((nonBlank ls).length + k) (fileOf ls tail)).1 =
      (nonBlank ls).map (finish cfg) ++ List.replicate k (.error eNoTargets) := by
  intro ls
  induction ls with
  | nil =>
    intro _ k
    simp only [nonBlank, List.length_nil, Nat.zero_add, List.map_nil, List.nil_append]
    cases k with
    | zero => rfl
    | succ k =>
      -- the call on the unterminated rest empties the reader
      simp only [calls, call, popLine_nil tail ht, List.replicate_succ, calls_empty cfg k]
  | cons l r ih =>
    intro hls k
    rw [List.forall_mem_cons] at hls
    have hr := ih hls.2 k
    rw [nonBlank]
    split
    · rw [← hr]
      cases (nonBlank r).length + k with
      | zero => rfl
      | succ n => rw [calls, calls, call_cons cfg l hls.1 r hls.2 tail ht, if_pos ‹_›]
    · rw [List.length_cons, Nat.add_right_comm, calls, call_cons cfg l hls.1 r hls.2 tail ht, if_neg ‹_›]
      simp only [List.map_cons, List.cons_append, hr]

end Vegeta.Proofs.JSONTargets
