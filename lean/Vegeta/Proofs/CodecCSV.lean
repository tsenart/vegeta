/-
Proofs about the `encoding/csv` model: a written record contains no '\r' unless a field does (so `readLine`'s
CR/LF normalisation leaves written streams alone), and `csv.Reader.Read ∘ csv.Writer.Write = id` on records
of at least two fields, whatever follows the record in the stream.
-/
import Vegeta.Model.CodecResult
namespace Vegeta.Proofs.Codec
open Vegeta.Go Vegeta.Model.Codec

/-- `readLine`'s normalisation does nothing on input without '\r' -/
theorem normCRLF_id (s : Bytes) (h : 13 ∉ s) : normCRLF s = s := by
  induction s with
  | nil => simp [normCRLF]
  | cons c r ih =>
    simp only [List.mem_cons, not_or] at h
    have hc : c ≠ 13 := fun e => h.1 e.symm
    rw [normCRLF.eq_def]
    simp [hc, ih h.2]

theorem quoteBody_noCR (f : Bytes) (h : 13 ∉ f) : 13 ∉ quoteBody f := by
  induction f with
  | nil => simp [quoteBody]
  | cons c r ih =>
    simp only [List.mem_cons, not_or] at h
    have := ih h.2
    unfold quoteBody
    -- either arm prepends only `c`, which is not 13
    split <;> simp_all

theorem writeField_noCR (f : Bytes) (h : 13 ∉ f) : 13 ∉ writeField f := by
  have := quoteBody_noCR f h
  unfold writeField
  -- the quoted body between two quotes, or `f` itself
  split <;> simp_all

theorem joinFields_noCR : ∀ (fs : List Bytes), (∀ f ∈ fs, 13 ∉ f) → 13 ∉ joinFields fs
  | [], _ => by simp [joinFields]
  | [f], h => by
    simp only [joinFields]
    exact writeField_noCR f (h f (by simp))
  | f :: g :: fs, h => by
    have h1 := writeField_noCR f (h f (by simp))
    have h2 := joinFields_noCR (g :: fs) (fun x hx => h x (List.mem_cons_of_mem _ hx))
    simp only [joinFields, List.mem_append, List.mem_cons, not_or]
    exact ⟨h1, by decide, h2⟩

theorem writeRecord_noCR (fs : List Bytes) (h : ∀ f ∈ fs, 13 ∉ f) : 13 ∉ writeRecord fs := by
  have := joinFields_noCR fs h
  simp [writeRecord, this]

theorem needsQuotes_false (f : Bytes) (h : needsQuotes f = false) :
    (∀ x ∈ f, x ≠ 10 ∧ x ≠ 13 ∧ x ≠ 34 ∧ x ≠ 44) ∧ (f ≠ [] → spaceRuneLen f = 0) := by
  cases f with
  | nil => exact ⟨fun _ h => (nomatch h), fun h => absurd rfl h⟩
  | cons a t =>
    simp only [needsQuotes, List.isEmpty_cons, Bool.not_false, Bool.true_and, Bool.or_eq_false_iff,
      List.any_eq_false, bne_eq_false_iff_eq] at h
    refine ⟨fun x hx => ?_, fun _ => h.2⟩
    have := h.1.2 x hx
    simp only [isCsvSpecial, Bool.or_eq_true, beq_iff_eq, not_or] at this
    omega

/-- a separator after a field that does not begin with a space rune cannot complete one: the bytes that
continue a multi-byte space are all ≥ 0x80 -/
theorem spaceRuneLen_append (f : Bytes) (hf : f ≠ []) (h0 : spaceRuneLen f = 0) (c : Nat)
    (hc : c = 44 ∨ c = 10) (r : Bytes) : spaceRuneLen (f ++ c :: r) = 0 := by
  match f, hf with
  | a :: f', _ =>
    rw [spaceRuneLen.eq_def] at h0 ⊢
    simp only [List.cons_append] at h0 ⊢
    split at h0
    · omega
    · rename_i hn
      rw [if_neg hn]
      -- the default arm of the goal's `match` is `0 = 0` (closed first: `simp_all` is slow on it); in every
      -- other arm `c`, or by `h0` a byte of `f`, would have to be a continuation byte
      match f' with
      | [] =>
        clear h0
        simp only [List.nil_append]
        split <;> first | rfl | (simp_all <;> omega)
      | [b] =>
        simp only [List.cons_append, List.nil_append]
        split <;> first | rfl | (simp_all <;> omega)
      | b :: d :: f'' =>
        simp only [List.cons_append]
        split <;> first | rfl | (simp_all <;> omega)

theorem trimLead_keep (a : Nat) (t : Bytes) (h : a = 10 ∨ spaceRuneLen (a :: t) = 0) :
    trimLead (a :: t) = a :: t := by
  simp only [trimLead, List.length_cons, trimLeadF]
  rcases h with h | h <;> simp [h]

theorem scanUnquoted_append (f : Bytes) (hf : ∀ x ∈ f, x ≠ 44 ∧ x ≠ 10) (c : Nat)
    (hc : c = 44 ∨ c = 10) (r : Bytes) : scanUnquoted (f ++ c :: r) = (f, c :: r) := by
  induction f with
  | nil => simp [scanUnquoted, hc]
  | cons a t ih =>
    have ha := hf a (by simp)
    have := ih (fun x hx => hf x (List.mem_cons_of_mem _ hx))
    simp [scanUnquoted, ha.1, ha.2, this]

theorem scanQuoted_quoteBody (f : Bytes) (d : Nat) (hd : d ≠ 34) (r : Bytes) :
    scanQuoted (quoteBody f ++ 34 :: d :: r) = some (f, d :: r) := by
  induction f with
  | nil => simp [quoteBody, scanQuoted, hd]
  | cons a t ih =>
    unfold quoteBody
    split
    · rename_i h
      subst h
      simp [scanQuoted, ih]
    · rename_i h
      rw [List.cons_append, scanQuoted.eq_def]
      simp [h, ih]

theorem parseFields_unq (fuel : Nat) (s : Bytes) (acc : List Bytes) (a : Nat) (t : Bytes)
    (hs : trimLead s = a :: t) (ha : a ≠ 34) :
    parseFields (fuel + 1) s acc =
      if (scanUnquoted (a :: t)).1.any (· == 34) then .err
      else match (scanUnquoted (a :: t)).2 with
        | [] => .record ((scanUnquoted (a :: t)).1 :: acc).reverse []
        | d :: r' =>
          if d = 44 then parseFields fuel r' ((scanUnquoted (a :: t)).1 :: acc)
          else .record ((scanUnquoted (a :: t)).1 :: acc).reverse r' := by
  rw [parseFields, hs]
  split
  · rename_i heq
    injection heq with h1 _
    exact absurd h1 ha
  · rfl

theorem parseFields_field (fuel : Nat) (f : Bytes) (c : Nat) (hc : c = 44 ∨ c = 10) (r : Bytes)
    (acc : List Bytes) :
    parseFields (fuel + 1) (writeField f ++ c :: r) acc =
      if c = 44 then parseFields fuel r (f :: acc) else .record (f :: acc).reverse r := by
  unfold writeField
  by_cases hq : needsQuotes f = true
  · rw [if_pos hq]
    have hc34 : c ≠ 34 := by omega
    have e : 34 :: (quoteBody f ++ [34]) ++ c :: r = 34 :: (quoteBody f ++ 34 :: c :: r) := by
      simp
    rw [e, parseFields, trimLead_keep _ _ (.inr (by simp [spaceRuneLen]))]
    simp only [scanQuoted_quoteBody f c hc34 r]
    rcases hc with rfl | rfl <;> simp
  · rw [if_neg hq]
    obtain ⟨hsp, h0⟩ := needsQuotes_false f (by simpa using hq)
    have hsc := scanUnquoted_append f (fun x hx => ⟨(hsp x hx).2.2.2, (hsp x hx).1⟩) c hc r
    have h34 : f.any (· == 34) = false := by
      simp only [List.any_eq_false, beq_iff_eq]
      exact fun x hx => (hsp x hx).2.2.1
    -- the text starts with a byte that `trimLead` keeps and that is no quote: `c` or the first of `f`
    obtain ⟨a, t, e, hk, ha⟩ : ∃ a t, f ++ c :: r = a :: t ∧
        (a = 10 ∨ spaceRuneLen (a :: t) = 0) ∧ a ≠ 34 := by
      cases f with
      | nil =>
        refine ⟨c, r, rfl, ?_, by omega⟩
        rcases hc with rfl | rfl
        · exact .inr (by simp [spaceRuneLen])
        · exact .inl rfl
      | cons a t =>
        exact ⟨a, t ++ c :: r, rfl, .inr (spaceRuneLen_append (a :: t) (by simp) (h0 (by simp)) c hc r),
          (hsp a (by simp)).2.2.1⟩
    rw [e] at hsc ⊢
    rw [parseFields_unq fuel _ acc a t (trimLead_keep a t hk) ha, hsc]
    simp [h34]

theorem joinFields_length : ∀ (fs : List Bytes), fs.length ≤ (joinFields fs).length + 1
  | [] => by simp
  | [f] => by simp
  | f :: g :: fs => by
    have := joinFields_length (g :: fs)
    simp only [joinFields, List.length_cons, List.length_append] at this ⊢
    omega

theorem parseFields_joinFields (rest : Bytes) : ∀ (fs : List Bytes) (fuel : Nat) (acc : List Bytes),
    fs ≠ [] → fs.length ≤ fuel →
    parseFields fuel (joinFields fs ++ 10 :: rest) acc = .record (acc.reverse ++ fs) rest
  | [], _, _, h, _ => absurd rfl h
  | [f], fuel, acc, _, hl => by
    match fuel, hl with
    | k + 1, _ =>
      rw [joinFields, parseFields_field k f 10 (.inr rfl) rest acc]
      simp
  | f :: g :: fs, fuel, acc, _, hl => by
    match fuel, hl with
    | k + 1, hl =>
      have e : joinFields (f :: g :: fs) ++ 10 :: rest
          = writeField f ++ 44 :: (joinFields (g :: fs) ++ 10 :: rest) := by
        simp [joinFields]
      rw [e, parseFields_field k f 44 (.inl rfl) _ acc, if_pos rfl,
        parseFields_joinFields rest (g :: fs) k (f :: acc) (by simp)
          (by simp only [List.length_cons] at hl ⊢; omega)]
      simp

theorem writeRecord_cons (fs : List Bytes) (h2 : 2 ≤ fs.length) (rest : Bytes) :
    ∃ a t, writeRecord fs ++ rest = a :: t ∧ a ≠ 10 := by
  match fs, h2 with
  | f :: g :: fs, _ =>
    simp only [writeRecord, joinFields, writeField]
    by_cases hq : needsQuotes f = true
    · rw [if_pos hq]
      exact ⟨34, _, by simp; rfl, by decide⟩
    · rw [if_neg hq]
      cases f with
      | nil => exact ⟨44, _, by simp; rfl, by decide⟩
      | cons a t =>
        exact ⟨a, _, by simp; rfl, ((needsQuotes_false _ (by simpa using hq)).1 a (by simp)).1⟩

/-- **csv.Reader.Read ∘ csv.Writer.Write = id** on any record of at least two fields, whatever follows
it in the stream: the reader returns exactly the written fields and stops exactly after the record. -/
theorem readRecord_writeRecord (fs : List Bytes) (h2 : 2 ≤ fs.length) (rest : Bytes) :
    readRecord (writeRecord fs ++ rest) = .record fs rest := by
  -- the record does not start with a newline, so `dropNL` keeps it
  obtain ⟨a, t, e, ha⟩ := writeRecord_cons fs h2 rest
  have hne : fs ≠ [] := by
    intro h; subst h; simp at h2
  have hl : fs.length ≤ (writeRecord fs ++ rest).length + 1 := by
    have := joinFields_length fs
    simp only [writeRecord, List.length_append, List.length_cons]
    omega
  unfold readRecord
  rw [e, dropNL, if_neg ha]
  simp only
  have e2 : writeRecord fs ++ rest = joinFields fs ++ 10 :: rest := by simp [writeRecord]
  rw [← e, e2]
  rw [e2] at hl
  rw [parseFields_joinFields rest fs _ [] hne hl]
  rfl

theorem readRecord_nil : readRecord [] = .eof := by
  simp [readRecord, dropNL]

example : readRecord (writeRecord [[97,44,98],[],[32,120,34,121]] ++ [49])
    = .record [[97,44,98],[],[32,120,34,121]] [49] := by decide

example : writeRecord [[97,44,98],[],[32,120,34,121]]
    = [34,97,44,98,34,44,44,34,32,120,34,34,121,34,10] := by decide

example : readRecord (writeRecord [[],[]] ++ writeRecord [[10],[13,10]])
    = .record [[],[]] (writeRecord [[10],[13,10]]) := by decide

example : readRecord (writeRecord [[10],[13,10]]) = .record [[10],[13,10]] [] := by decide

example : readRecord (writeRecord [[0xE2,0x80],[0xC2]] ++ [0xA0]) = .record [[0xE2,0x80],[0xC2]] [0xA0] := by
  decide

example : readRecord [10, 10] = .eof := by decide

example : readRecord [34, 97, 10] = .err := by decide

example : normCRLF [97, 13, 10, 98, 13] = [97, 10, 98] := by decide

end Vegeta.Proofs.Codec
