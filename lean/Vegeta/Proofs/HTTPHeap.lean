/-
Heap-level lemmas for C14: a call copies the default slices (`copyDefaults`) and appends the target's
own values to the copies (`appendStr`); what that does to the views of the default map, of the target
under construction and of targets returned earlier, and in which arrays the slices of returned targets
lie (`callL_arrays`, `callsL_arrays`).
-/
import Vegeta.Model.HTTPTargets
import Vegeta.Proofs.HTTPTargetsL
namespace Vegeta.Proofs.HTTPHeap
open Vegeta.Go
open Vegeta.Model.HTTPTargets
open Vegeta.Proofs.HTTPTargetsL

/-- values of `key` among parsed header lines, in file order -/
def ownVals (hs : List (Bytes × Bytes)) (key : Bytes) : List Bytes :=
  (hs.filter fun kv => kv.1 = key).map (·.2)

theorem ownVals_append (a b : List (Bytes × Bytes)) (k : Bytes) : ownVals (a ++ b) k = ownVals a k ++ ownVals b k := by
  simp [ownVals]

/-- a slice is backed by an allocation of exactly its capacity (or has no capacity at all) -/
def SliceOK (h : Heap) (s : Slice) : Prop :=
  s.len ≤ s.cap ∧ (s.cap = 0 ∨ ∃ cells, h[s.arr]? = some cells ∧ cells.length = s.cap)

theorem sliceOK_nil (h : Heap) : SliceOK h nilSlice := ⟨Nat.le_refl _, Or.inl rfl⟩

theorem view_length {h : Heap} {s : Slice} (hs : SliceOK h s) : (view h s).length = s.len := by
  obtain ⟨h1, h2⟩ := hs
  rcases h2 with h0 | ⟨cells, hc, hl⟩
  · have : s.len = 0 := by omega
    simp [view, this]
  · simp [view, hc]; omega

theorem arr_lt_of_ok {h : Heap} {s : Slice} (hs : SliceOK h s) (hc : 0 < s.cap) : s.arr < h.length := by
  rcases hs.2 with h0 | ⟨cells, hc', _⟩
  · omega
  · exact (List.getElem?_eq_some_iff.mp hc').1

theorem view_congr {h h' : Heap} {s : Slice} (hs : s.len = 0 ∨ h'[s.arr]? = h[s.arr]?) : view h' s = view h s := by
  rcases hs with h0 | he
  · simp [view, h0]
  · simp [view, he]

theorem len_zero_of_cap_zero {h : Heap} {s : Slice} (hs : SliceOK h s) (hc : ¬ 0 < s.cap) : s.len = 0 := by
  have := hs.1; omega

theorem hlookup_hinsert (m : HMap) (k k' : Bytes) (s : Slice) :
    hlookup (hinsert m k s) k' = if k = k' then some s else hlookup m k' := by
  induction m with
  | nil =>
    simp only [hinsert, hlookup]
  | cons e r ih =>
    obtain ⟨k0, s0⟩ := e
    simp only [hinsert]
    by_cases h0 : k0 = k
    · subst h0
      simp only [↓reduceIte, hlookup]
      by_cases h1 : k0 = k' <;> simp [h1]
    · simp only [h0, ↓reduceIte, hlookup, ih]
      by_cases h1 : k0 = k'
      · subst h1
        have : ¬ k = k0 := fun e => h0 e.symm
        simp [this]
      · simp [h1]

theorem lookup_getD_ok {m : HMap} {h : Heap} (hok : ∀ k s, hlookup m k = some s → SliceOK h s) (k : Bytes) :
    SliceOK h ((hlookup m k).getD nilSlice) := by
  cases hk : hlookup m k with
  | none => exact sliceOK_nil h
  | some s => exact hok k s hk

theorem lookup_of_cap {m : HMap} {k : Bytes} {s : Slice} (hs : (hlookup m k).getD nilSlice = s) (hc : 0 < s.cap) :
    hlookup m k = some s := by
  cases hk : hlookup m k with
  | none => rw [hk] at hs; subst hs; exact absurd hc (by simp [nilSlice])
  | some s' => rw [hk] at hs; exact congrArg some hs

theorem lookup_map_view {m : HMap} {h : Heap} {k : Bytes} {o : Option (List Bytes)}
    (hk : (hlookup m k).isSome = o.isSome) (hv : view h ((hlookup m k).getD nilSlice) = o.getD []) :
    (hlookup m k).map (view h) = o := by
  cases hl : hlookup m k with
  | none =>
    rw [hl] at hk
    cases o with
    | none => rfl
    | some x => cases hk
  | some s =>
    rw [hl] at hk hv
    cases o with
    | none => cases hk
    | some x => exact congrArg some hv

theorem view_modify_below {h : Heap} {t : Slice} (j : Nat) (v : Bytes) (hle : t.len ≤ j) :
    view (h.modify t.arr fun cells => cells.set j v) t = view h t := by
  simp only [view, List.getElem?_modify_eq]
  cases h[t.arr]? with
  | none => simp
  | some cells => simp [List.take_set_of_le hle]

/-- `h'` extends `h`: nothing that existed was touched -/
def Extends (h h' : Heap) : Prop := h.length ≤ h'.length ∧ ∀ a, a < h.length → h'[a]? = h[a]?

theorem extends_refl (h : Heap) : Extends h h := ⟨Nat.le_refl _, fun _ _ => rfl⟩

theorem extends_trans {a b c : Heap} (h1 : Extends a b) (h2 : Extends b c) : Extends a c :=
  ⟨Nat.le_trans h1.1 h2.1, fun i hi => by rw [h2.2 i (by have := h1.1; omega), h1.2 i hi]⟩

theorem extends_append (h : Heap) (c : List Bytes) : Extends h (h ++ [c]) :=
  ⟨by simp, fun a ha => List.getElem?_append_left ha⟩

theorem sliceOK_extends {h h' : Heap} {s : Slice} (e : Extends h h') (hs : SliceOK h s) : SliceOK h' s := by
  refine ⟨hs.1, ?_⟩
  rcases hs.2 with h0 | ⟨cells, hc, hl⟩
  · exact Or.inl h0
  · exact Or.inr ⟨cells, by rw [e.2 _ (List.getElem?_eq_some_iff.mp hc).1, hc], hl⟩

theorem view_extends {h h' : Heap} {s : Slice} (e : Extends h h') (hs : SliceOK h s) : view h' s = view h s := by
  by_cases hc : 0 < s.cap
  · exact view_congr (Or.inr (e.2 _ (arr_lt_of_ok hs hc)))
  · exact view_congr (Or.inl (len_zero_of_cap_zero hs hc))

/-- What `append` through the slice `s` may do to the heap, whether it adds one value or many:
the resulting slice is well formed and lives in `s`'s own array or in a fresh one, nothing but
`s`'s array is written, and every other slice stays well formed. -/
structure AppendStep (h : Heap) (s : Slice) (h' : Heap) (s' : Slice) : Prop where
  ok : SliceOK h' s'
  grows : h.length ≤ h'.length
  arr : 0 < s'.cap → (s'.arr = s.arr ∧ 0 < s.cap) ∨ s'.arr = h.length
  frame : ∀ a, a < h.length → (0 < s.cap → a ≠ s.arr) → h'[a]? = h[a]?
  keeps : ∀ t, SliceOK h t → SliceOK h' t

theorem AppendStep.view_other {h h' : Heap} {s s' t : Slice} (st : AppendStep h s h' s') (ht : SliceOK h t)
    (hne : 0 < t.cap → 0 < s.cap → t.arr ≠ s.arr) : view h' t = view h t := by
  by_cases hc : 0 < t.cap
  · exact view_congr (Or.inr (st.frame _ (arr_lt_of_ok ht hc) (hne hc)))
  · exact view_congr (Or.inl (len_zero_of_cap_zero ht hc))

theorem AppendStep.refl {h : Heap} {s : Slice} (hs : SliceOK h s) : AppendStep h s h s :=
  ⟨hs, Nat.le_refl _, fun hc => Or.inl ⟨rfl, hc⟩, fun _ _ _ => rfl, fun _ ht => ht⟩

theorem AppendStep.inPlace {h : Heap} {s : Slice} (f : List Bytes → List Bytes) (n : Nat) (hs : SliceOK h s)
    (hcap : 0 < s.cap) (hn : n ≤ s.cap) (hf : ∀ cells, h[s.arr]? = some cells → (f cells).length = cells.length) :
    AppendStep h s (h.modify s.arr f) { s with len := n } := by
  have keeps : ∀ t, SliceOK h t → SliceOK (h.modify s.arr f) t := by
    intro t ht
    refine ⟨ht.1, ?_⟩
    rcases ht.2 with h0 | ⟨cells, hc, hl⟩
    · exact Or.inl h0
    · right
      by_cases he : s.arr = t.arr
      · rw [← he] at hc
        exact ⟨f cells, by rw [← he, List.getElem?_modify_eq, hc]; rfl, by rw [hf cells hc, hl]⟩
      · exact ⟨cells, by rw [List.getElem?_modify_ne _ _ he, hc], hl⟩
  exact ⟨⟨hn, (keeps s hs).2⟩, by rw [List.length_modify]; exact Nat.le_refl _, fun _ => Or.inl ⟨rfl, hcap⟩,
    fun a _ hne => List.getElem?_modify_ne _ _ (fun e => hne hcap e.symm), keeps⟩

theorem AppendStep.fresh {h : Heap} (s : Slice) (cells : List Bytes) (n cap : Nat) (hn : n ≤ cap)
    (hc : cells.length = cap) : AppendStep h s (h ++ [cells]) { arr := h.length, len := n, cap := cap } :=
  ⟨⟨hn, Or.inr ⟨cells, List.getElem?_concat_length, hc⟩⟩, by simp, fun _ => Or.inr rfl,
    fun _ ha _ => List.getElem?_append_left ha, fun _ ht => sliceOK_extends (extends_append h cells) ht⟩

theorem view_fresh (h : Heap) (pre pad : List Bytes) (n cap : Nat) (hn : pre.length = n) :
    view (h ++ [pre ++ pad]) { arr := h.length, len := n, cap := cap } = pre := by
  simp only [view, List.getElem?_concat_length, Option.getD_some]
  exact List.take_left' hn

theorem growCap_gt (c : Nat) : c < growCap c := by
  unfold growCap; split <;> omega

theorem appendStr_step (h : Heap) (s : Slice) (v : Bytes) (hs : SliceOK h s) :
    AppendStep h s (appendStr h s v).1 (appendStr h s v).2 ∧
    view (appendStr h s v).1 (appendStr h s v).2 = view h s ++ [v] := by
  by_cases hlt : s.len < s.cap
  · have e : appendStr h s v = (h.modify s.arr (fun cells => cells.set s.len v), { s with len := s.len + 1 }) := by
      simp [appendStr, hlt]
    rw [e]
    refine ⟨AppendStep.inPlace _ _ hs (by omega) (by omega) (fun cells _ => List.length_set), ?_⟩
    rcases hs.2 with h0 | ⟨cells, hc, hl⟩
    · omega
    · simp only [view, List.getElem?_modify_eq, hc, Option.map_eq_map, Option.map_some, Option.getD_some]
      rw [List.take_add_one, List.take_set_of_le (Nat.le_refl _), List.getElem?_set]
      simp [hl, hlt]
  · have e : appendStr h s v = (h ++ [(view h s ++ [v]) ++ List.replicate (growCap s.cap - (s.len + 1)) []],
        { arr := h.length, len := s.len + 1, cap := growCap s.cap }) := by
      simp [appendStr, hlt]
    rw [e]
    have hlen : (view h s ++ [v]).length = s.len + 1 := by simp [view_length hs]
    have hg := growCap_gt s.cap
    have := hs.1
    exact ⟨AppendStep.fresh s _ _ _ (by omega) (by rw [List.length_append, hlen, List.length_replicate]; omega),
      view_fresh h _ _ _ _ hlen⟩

/-! ### the header map under construction: invariant, copy of the defaults, one header line -/

/-- the default header map as the caller built it: every slice is backed by an allocation -/
structure WfDefaults (cfg : Cfg) (h : Heap) : Prop where
  ok : ∀ k s, hlookup cfg.hdr k = some s → SliceOK h s

theorem wf_extends {cfg : Cfg} {h h' : Heap} (e : Extends h h') (wf : WfDefaults cfg h) : WfDefaults cfg h' :=
  ⟨fun k s hk => sliceOK_extends e (wf.ok k s hk)⟩

/-- State of the header map `m` under construction and of the heap `h`, relative to the heap
`hS` at the start of the call: nothing older than the call was touched, every entry of the map is
a nil slice or lives in an array allocated during this call, distinct keys in distinct arrays. -/
structure CallInv (hS : Heap) (m : HMap) (h : Heap) : Prop where
  ext : Extends hS h
  ok : ∀ k s, hlookup m k = some s → SliceOK h s
  fresh : ∀ k s, hlookup m k = some s → 0 < s.cap → hS.length ≤ s.arr
  distinct : ∀ k1 s1 k2 s2, hlookup m k1 = some s1 → hlookup m k2 = some s2 →
    0 < s1.cap → 0 < s2.cap → s1.arr = s2.arr → k1 = k2

theorem CallInv.update {hS h h' : Heap} {m m' : HMap} {k : Bytes} {s : Slice} (inv : CallInv hS m h)
    (hl : ∀ k', hlookup m' k' = if k = k' then some s else hlookup m k')
    (hext : Extends hS h') (hkeep : ∀ t, SliceOK h t → SliceOK h' t) (hok : SliceOK h' s)
    (hfresh : 0 < s.cap → hS.length ≤ s.arr)
    (hnew : ∀ k2 s2, hlookup m k2 = some s2 → 0 < s.cap → 0 < s2.cap → s.arr = s2.arr → k = k2) :
    CallInv hS m' h' := by
  refine ⟨hext, ?_, ?_, ?_⟩
  · intro k' t hk'
    rw [hl] at hk'
    split at hk'
    · cases hk'; exact hok
    · exact hkeep t (inv.ok k' t hk')
  · intro k' t hk' hc
    rw [hl] at hk'
    split at hk'
    · cases hk'; exact hfresh hc
    · exact inv.fresh k' t hk' hc
  · intro k1 s1 k2 s2 h1 h2 c1 c2 harr
    rw [hl] at h1 h2
    split at h1 <;> split at h2
    · rename_i a b; rw [← a, ← b]
    · rename_i a _; cases h1; rw [← a]; exact hnew k2 s2 h2 c1 c2 harr
    · rename_i _ b; cases h2; rw [← b]; exact (hnew k1 s1 h1 c2 c1 harr.symm).symm
    · exact inv.distinct k1 s1 k2 s2 h1 h2 c1 c2 harr

/-- `m[k] = append(m[k], …)`: the array of `m[k]` belongs to `k` alone and is of this call, so the write
touches nothing else. -/
theorem CallInv.insert {hS h h' : Heap} {m : HMap} {s' : Slice} (inv : CallInv hS m h) (k : Bytes)
    (st : AppendStep h ((hlookup m k).getD nilSlice) h' s') :
    CallInv hS (hinsert m k s') h' ∧
    ∀ k', k ≠ k' → view h' ((hlookup m k').getD nilSlice) = view h ((hlookup m k').getD nilSlice) := by
  generalize hs : (hlookup m k).getD nilSlice = s at st
  have hfresh : 0 < s.cap → hS.length ≤ s.arr := fun hc => inv.fresh k s (lookup_of_cap hs hc) hc
  refine ⟨inv.update (hlookup_hinsert m k · s') ⟨Nat.le_trans inv.ext.1 st.grows, fun a ha => ?_⟩ st.keeps st.ok
    (fun hc => ?_) (fun k2 s2 h2 c1 c2 harr => ?_), fun k' hkk => ?_⟩
  · rw [← inv.ext.2 a ha]
    exact st.frame a (Nat.lt_of_lt_of_le ha inv.ext.1) (fun hc => by have := hfresh hc; omega)
  · rcases st.arr hc with ⟨e1, e2⟩ | e1
    · rw [e1]; exact hfresh e2
    · rw [e1]; exact inv.ext.1
  · rcases st.arr c1 with ⟨e1, e2⟩ | e1
    · exact inv.distinct k s k2 s2 (lookup_of_cap hs e2) h2 e2 c2 (by rw [← e1]; exact harr)
    · have := arr_lt_of_ok (inv.ok k2 s2 h2) c2; omega
  · apply st.view_other (lookup_getD_ok inv.ok k')
    intro hc' hc he
    exact hkk (inv.distinct k s k' _ (lookup_of_cap hs hc) (lookup_of_cap rfl hc') hc hc' he.symm)

theorem CallInv.weaken {hS hS' h : Heap} {m : HMap} (e : Extends hS hS') (inv : CallInv hS' m h) : CallInv hS m h :=
  ⟨extends_trans e inv.ext, inv.ok, fun k s hk hc => Nat.le_trans e.1 (inv.fresh k s hk hc), inv.distinct⟩

theorem copyDefaults_cons (k0 : Bytes) (s0 : Slice) (r : HMap) (h : Heap) :
    ∃ s' h', copyDefaults ((k0, s0) :: r) h = ((k0, s') :: (copyDefaults r h').1, (copyDefaults r h').2) ∧
      Extends h h' ∧ SliceOK h' s' ∧ view h' s' = view h s0 ∧ (0 < s'.cap → s'.arr = h.length ∧ h.length < h'.length) := by
  simp only [copyDefaults]
  by_cases hv : view h s0 = []
  · rw [if_pos hv]
    exact ⟨nilSlice, h, rfl, extends_refl h, sliceOK_nil h, by rw [hv]; rfl, fun hc => absurd hc (by simp [nilSlice])⟩
  · rw [if_neg hv]
    exact ⟨_, _, rfl, extends_append h _, ⟨Nat.le_refl _, Or.inr ⟨_, List.getElem?_concat_length, rfl⟩⟩,
      by simpa using view_fresh h (view h s0) [] (view h s0).length (view h s0).length rfl, fun _ => ⟨rfl, by simp⟩⟩

theorem copyDefaults_callInv : ∀ (d : HMap) (h : Heap), CallInv h (copyDefaults d h).1 (copyDefaults d h).2 := by
  intro d
  induction d with
  | nil => intro h; exact ⟨extends_refl h, nofun, nofun, nofun⟩
  | cons e r ih =>
    intro h
    obtain ⟨s', h', heq, hext, hok, _, harr⟩ := copyDefaults_cons e.1 e.2 r h
    have ih' := ih h'
    rw [heq]
    -- the copy lies at `h.length`, the arrays of the rest of the map after it
    refine (ih'.weaken hext).update (fun _ => rfl) (extends_trans hext ih'.ext) (fun _ ht => ht)
      (sliceOK_extends ih'.ext hok) (fun hc => Nat.le_of_eq (harr hc).1.symm) (fun k2 s2 h2 c1 c2 e => ?_)
    have := ih'.fresh k2 s2 h2 c2
    have := harr c1
    omega

theorem copyDefaults_lookup (hS : Heap) (k : Bytes) : ∀ (d : HMap) (h : Heap), Extends hS h →
    (∀ s0, hlookup d k = some s0 → SliceOK hS s0) →
    (hlookup (copyDefaults d h).1 k).isSome = (hlookup d k).isSome ∧
    view (copyDefaults d h).2 ((hlookup (copyDefaults d h).1 k).getD nilSlice) =
      match hlookup d k with
      | some s0 => view hS s0
      | none => [] := by
  intro d
  induction d with
  | nil => intro h _ _; simp [copyDefaults, hlookup, view, nilSlice]
  | cons e r ih =>
    intro h eh hok
    obtain ⟨s', h', heq, hext, hs', hview, -⟩ := copyDefaults_cons e.1 e.2 r h
    rw [heq]
    simp only [hlookup]
    by_cases hkk : e.1 = k
    · rw [if_pos hkk, if_pos hkk, Option.getD_some, view_extends (copyDefaults_callInv r h').ext hs', hview]
      exact ⟨rfl, view_extends eh (hok e.2 (by simp [hlookup, hkk]))⟩
    · rw [if_neg hkk, if_neg hkk]
      exact ih h' (extends_trans eh hext) (fun s1 h1 => hok s1 (by simp [hlookup, hkk, h1]))

/-- default values of a key as seen through heap `hS` -/
def dview (cfg : Cfg) (hS : Heap) (k : Bytes) : List Bytes :=
  match hlookup cfg.hdr k with
  | some s0 => view hS s0
  | none => []

/-- per key: the default values (as they were when the call started) then the own values added so far -/
def Vals (cfg : Cfg) (hS : Heap) (m : HMap) (h : Heap) (done : List (Bytes × Bytes)) : Prop :=
  ∀ k, view h ((hlookup m k).getD nilSlice) = dview cfg hS k ++ ownVals done k

theorem addHeader_inv (hS : Heap) (m : HMap) (h : Heap) (k v : Bytes) (inv : CallInv hS m h) :
    CallInv hS (addHeader m h k v).1 (addHeader m h k v).2 ∧
    ∀ (cfg : Cfg) (done : List (Bytes × Bytes)), Vals cfg hS m h done →
      Vals cfg hS (addHeader m h k v).1 (addHeader m h k v).2 (done ++ [(k, v)]) := by
  obtain ⟨st, hview⟩ := appendStr_step h ((hlookup m k).getD nilSlice) v (lookup_getD_ok inv.ok k)
  obtain ⟨inv', hother⟩ := inv.insert k st
  refine ⟨inv', fun cfg done hvals k' => ?_⟩
  show view (appendStr h ((hlookup m k).getD nilSlice) v).1
    ((hlookup (hinsert m k (appendStr h ((hlookup m k).getD nilSlice) v).2) k').getD nilSlice) = _
  rw [hlookup_hinsert, ownVals_append, ← List.append_assoc, ← hvals k']
  by_cases hkk : k = k'
  · subst hkk
    simp only [↓reduceIte, Option.getD_some, hview, ownVals, List.filter_cons_of_pos, List.filter_nil,
      List.map_cons, List.map_nil, decide_true]
  · have hov : ownVals [(k, v)] k' = [] := by simp [ownVals, hkk]
    rw [if_neg hkk, hov, List.append_nil]
    exact hother k' hkk

/-! ### a whole call is a fold of `addHeader` over the header lines it parsed -/

def applyOwn (m : HMap) (h : Heap) : List (Bytes × Bytes) → HMap × Heap
  | [] => (m, h)
  | (k, v) :: r => applyOwn (addHeader m h k v).1 (addHeader m h k v).2 r

theorem applyOwn_inv (hS : Heap) (own : List (Bytes × Bytes)) :
    ∀ (m : HMap) (h : Heap), CallInv hS m h →
      CallInv hS (applyOwn m h own).1 (applyOwn m h own).2 ∧
      ∀ (cfg : Cfg) (done : List (Bytes × Bytes)), Vals cfg hS m h done →
        Vals cfg hS (applyOwn m h own).1 (applyOwn m h own).2 (done ++ own) := by
  induction own with
  | nil => intro m h inv; exact ⟨inv, fun cfg done hv => by simpa [applyOwn] using hv⟩
  | cons e r ih =>
    intro m h inv
    obtain ⟨k, v⟩ := e
    obtain ⟨i1, v1⟩ := addHeader_inv hS m h k v inv
    obtain ⟨i2, v2⟩ := ih _ _ i1
    refine ⟨i2, ?_⟩
    intro cfg done hv
    have := v2 cfg (done ++ [(k, v)]) (v1 cfg done hv)
    simpa [applyOwn] using this

theorem applyOwn_append (m : HMap) (h : Heap) (a b : List (Bytes × Bytes)) :
    applyOwn m h (a ++ b) = applyOwn (applyOwn m h a).1 (applyOwn m h a).2 b := by
  induction a generalizing m h with
  | nil => rfl
  | cons e r ih => obtain ⟨k, v⟩ := e; simp only [List.cons_append, applyOwn, ih]

theorem applyOwn_lookup_isSome (own : List (Bytes × Bytes)) : ∀ (m : HMap) (h : Heap) (k : Bytes),
    (hlookup (applyOwn m h own).1 k).isSome = ((hlookup m k).isSome || !(ownVals own k).isEmpty) := by
  induction own with
  | nil => intro m h k; simp [applyOwn, ownVals]
  | cons e r ih =>
    intro m h k
    obtain ⟨k', v⟩ := e
    simp only [applyOwn]
    rw [ih]
    have hl : hlookup (addHeader m h k' v).1 k = if k' = k then some (appendStr h ((hlookup m k').getD nilSlice) v).2 else hlookup m k := by
      simp only [addHeader, hlookup_hinsert]
    rw [hl]
    by_cases hkk : k' = k
    · subst hkk; simp [ownVals]
    · simp [hkk, ownVals]

theorem headerL_fold (cfg : Cfg) : ∀ (ls : List Bytes) (tgt : Target) (h : Heap),
    ∃ own, ((headerL cfg ls tgt h).2.2.1.header, (headerL cfg ls tgt h).2.2.2) = applyOwn tgt.header h own := by
  intro ls
  induction ls with
  | nil => intro tgt h; exact ⟨[], rfl⟩
  | cons t r ih =>
    intro tgt h
    simp only [headerL]
    have hstep := headerStep_spec cfg (Vegeta.Model.Histogram.trimSpace t) tgt h
    cases hs : headerStep cfg (Vegeta.Model.Histogram.trimSpace t) tgt h with
    | stop e tgt' h' => rw [hs] at hstep; exact ⟨[], hstep.1⟩
    | next tgt' h' =>
      rw [hs] at hstep
      obtain ⟨own, o1⟩ := ih tgt' h'
      rcases hstep with e | ⟨k, v, e⟩
      · obtain ⟨e1, e2⟩ := Prod.mk.inj e
        exact ⟨own, by rw [← e1, ← e2]; exact o1⟩
      · refine ⟨(k, v) :: own, ?_⟩
        show _ = applyOwn (addHeader tgt.header h k v).1 (addHeader tgt.header h k v).2 own
        rw [← e]; exact o1

theorem requestLine_header {cfg : Cfg} {line : Bytes} {hdr : HMap} {tgt : Target} (h : requestLine cfg line hdr = .ok tgt) :
    tgt.header = hdr := by
  unfold requestLine at h
  repeat' split at h
  all_goals cases h
  rfl

/-- the header map a call builds from the heap `h`: copy the defaults, add the lines `own` -/
def built (cfg : Cfg) (h : Heap) (own : List (Bytes × Bytes)) : HMap × Heap :=
  applyOwn (copyDefaults cfg.hdr h).1 (copyDefaults cfg.hdr h).2 own

theorem built_inv (cfg : Cfg) (h : Heap) (own : List (Bytes × Bytes)) : CallInv h (built cfg h own).1 (built cfg h own).2 :=
  (applyOwn_inv h own _ _ (copyDefaults_callInv cfg.hdr h)).1

/-- what `C14.merge_semantics` says of a call, for the map it built -/
theorem built_merge (cfg : Cfg) (h : Heap) (wf : WfDefaults cfg h) (own : List (Bytes × Bytes)) (k : Bytes) :
    (hlookup (built cfg h own).1 k).map (view (built cfg h own).2) =
      match (hlookup cfg.hdr k).map (view h), ownVals own k with
      | none, [] => none
      | none, vs => some vs
      | some ds, vs => some (ds ++ vs) := by
  have hcopy := fun k' => copyDefaults_lookup h k' cfg.hdr h (extends_refl h) (wf.ok k')
  have v0 : Vals cfg h (copyDefaults cfg.hdr h).1 (copyDefaults cfg.hdr h).2 [] := by
    intro k'
    rw [(hcopy k').2]
    simp [dview, ownVals]
  have hv := (applyOwn_inv h own _ _ (copyDefaults_callInv cfg.hdr h)).2 cfg [] v0 k
  have hs := applyOwn_lookup_isSome own (copyDefaults cfg.hdr h).1 (copyDefaults cfg.hdr h).2 k
  rw [(hcopy k).1] at hs
  rw [List.nil_append] at hv
  apply lookup_map_view
  · rw [built, hs]
    cases hlookup cfg.hdr k <;> cases ownVals own k <;> rfl
  · rw [built, hv, dview]
    cases hlookup cfg.hdr k <;> cases ownVals own k <;> rfl

/-- a call that got past the skip loop copies the defaults and adds the header lines it parsed to the copy -/
theorem callL_fold (cfg : Cfg) (ls : List Bytes) (h : Heap) :
    ((callL cfg ls h).2.2 = h ∧ ∀ t, (callL cfg ls h).1 ≠ .ok t) ∨
    ∃ own, (callL cfg ls h).2.2 = (built cfg h own).2 ∧ ∀ t, (callL cfg ls h).1 = .ok t → t.header = (built cfg h own).1 := by
  cases hs : skipL ls with
  | none => rw [callL_none hs]; exact Or.inl ⟨rfl, nofun⟩
  | some lr =>
    obtain ⟨line, r⟩ := lr
    right
    cases hrq : requestLine cfg line (copyDefaults cfg.hdr h).1 with
    | error e => rw [callL_badRequest hs hrq]; exact ⟨[], rfl, nofun⟩
    | ok tgt =>
      have hh := requestLine_header hrq
      cases hret : returnsAfterPeek (peekL r []).1 with
      | true => rw [callL_returns hs hrq hret]; exact ⟨[], rfl, fun t ht => by cases ht; exact hh⟩
      | false =>
        obtain ⟨own, o1⟩ := headerL_fold cfg (peekL r []).2 tgt (copyDefaults cfg.hdr h).2
        rw [hh] at o1
        rw [callL_headers hs hrq hret rfl]
        refine ⟨own, congrArg Prod.snd o1, ?_⟩
        generalize (headerL cfg (peekL r []).2 tgt (copyDefaults cfg.hdr h).2).1 = e
        intro t ht
        cases e with
        | some e => cases ht
        | none => cases ht; exact congrArg Prod.fst o1

/-- **Frame**: a call touches nothing that existed before it, whatever the input and the
defaults; the slices of a returned target are well formed in the heap after the call. -/
theorem callL_frame (cfg : Cfg) (ls : List Bytes) (h : Heap) :
    Extends h (callL cfg ls h).2.2 ∧
    ∀ t, (callL cfg ls h).1 = .ok t → ∀ k s, hlookup t.header k = some s → SliceOK (callL cfg ls h).2.2 s := by
  rcases callL_fold cfg ls h with ⟨h1, h2⟩ | ⟨own, o1, o2⟩
  · rw [h1]; exact ⟨extends_refl h, fun t ht => absurd ht (h2 t)⟩
  · rw [o1]
    exact ⟨(built_inv cfg h own).ext, fun t ht k s hk => (built_inv cfg h own).ok k s (o2 t ht ▸ hk)⟩

theorem callsL_frame (cfg : Cfg) : ∀ (n : Nat) (ls : List Bytes) (h : Heap), Extends h (callsL cfg n ls h).2.2 := by
  intro n
  induction n with
  | zero => intro ls h; exact extends_refl h
  | succ n ih =>
    intro ls h
    simp only [callsL]
    exact extends_trans (callL_frame cfg ls h).1 (ih _ _)

/-- `C14.earlier_targets_stable` on the list-level calls -/
theorem callsL_stable (cfg : Cfg) : ∀ (n : Nat) (ls : List Bytes) (h : Heap),
    ∀ r ∈ (callsL cfg n ls h).1, ∀ t, r.1 = .ok t → ∀ k s, hlookup t.header k = some s →
      view (callsL cfg n ls h).2.2 s = view r.2 s := by
  intro n
  induction n with
  | zero => intro ls h r hr; simp [callsL] at hr
  | succ n ih =>
    intro ls h r hr t ht k s hk
    have f := callL_frame cfg ls h
    simp only [callsL] at hr ⊢
    simp only [List.mem_cons] at hr
    rcases hr with rfl | hr
    · exact view_extends (callsL_frame cfg n _ _) (f.2 t ht k s hk)
    · exact ih _ _ r hr t ht k s hk

/-- the arrays of a returned target are of its own call, one per key (`C14.no_shared_backing_within`) -/
theorem callL_arrays (cfg : Cfg) (ls : List Bytes) (h : Heap) (t : Target) (ht : (callL cfg ls h).1 = .ok t) :
    (∀ k s, hlookup t.header k = some s → 0 < s.cap → h.length ≤ s.arr ∧ s.arr < (callL cfg ls h).2.2.length) ∧
    (∀ k1 s1 k2 s2, hlookup t.header k1 = some s1 → hlookup t.header k2 = some s2 → 0 < s1.cap → 0 < s2.cap →
      s1.arr = s2.arr → k1 = k2) := by
  rcases callL_fold cfg ls h with ⟨_, h2⟩ | ⟨own, o1, o2⟩
  · exact absurd ht (h2 t)
  · have inv := built_inv cfg h own
    rw [o1, o2 t ht]
    exact ⟨fun k s hk hc => ⟨inv.fresh k s hk hc, arr_lt_of_ok (inv.ok k s hk) hc⟩, inv.distinct⟩

/-- `C14.no_shared_backing` on the list-level calls -/
theorem callsL_arrays (cfg : Cfg) : ∀ (n : Nat) (ls : List Bytes) (h : Heap),
    (∀ r ∈ (callsL cfg n ls h).1, ∀ t, r.1 = .ok t → ∀ k s, hlookup t.header k = some s → 0 < s.cap →
      h.length ≤ s.arr ∧ s.arr < r.2.length) ∧
    List.Pairwise (fun (r1 r2 : Outcome Target × Heap) => ∀ t1 t2, r1.1 = .ok t1 → r2.1 = .ok t2 →
      ∀ k1 s1 k2 s2, hlookup t1.header k1 = some s1 → hlookup t2.header k2 = some s2 → 0 < s1.cap → 0 < s2.cap →
        s1.arr ≠ s2.arr) (callsL cfg n ls h).1 := by
  intro n
  induction n with
  | zero => intro ls h; exact ⟨fun r hr => (by cases hr), List.Pairwise.nil⟩
  | succ n ih =>
    intro ls h
    obtain ⟨i1, i2⟩ := ih (callL cfg ls h).2.1 (callL cfg ls h).2.2
    have hext := (callL_frame cfg ls h).1
    simp only [callsL]
    constructor
    · intro r hr t ht k s hk hc
      simp only [List.mem_cons] at hr
      rcases hr with rfl | hr
      · exact (callL_arrays cfg ls h t ht).1 k s hk hc
      · have := i1 r hr t ht k s hk hc
        exact ⟨Nat.le_trans hext.1 this.1, this.2⟩
    · refine List.Pairwise.cons ?_ i2
      intro r2 hr2 t1 t2 ht1 ht2 k1 s1 k2 s2 hk1 hk2 c1 c2 heq
      have a1 := (callL_arrays cfg ls h t1 ht1).1 k1 s1 hk1 c1
      have a2 := i1 r2 hr2 t2 ht2 k2 s2 hk2 c2
      exact Nat.lt_irrefl _ (Nat.lt_of_lt_of_le (heq ▸ a1.2) a2.1)

end Vegeta.Proofs.HTTPHeap
