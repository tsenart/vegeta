/-
Invariants of the interleaving models of the targeters (C15).  Both keep the books of a multiset: what has left
the shared source is in the log or in the hands of a caller; a step moves one item between a caller's slot and
the source or the log.  For the static targeter the values handed out by the first `a` adds are `0 … a-1`
(`count_rotation` is `RoundRobin.count_window_eq` at start 0).
-/
import Vegeta.Model.TargeterConc
import Vegeta.Proofs.RoundRobin
namespace Vegeta.Proofs.TargeterConc
open Vegeta.Go
open Vegeta.Model.TargeterConc

theorem set_perm {α} {l : List α} {c : Nat} {x : α} (h : l[c]? = some x) (y : α) :
    (x :: l.set c y).Perm (y :: l) := by
  induction l generalizing c with
  | nil => simp at h
  | cons a l ih =>
    cases c with
    | zero =>
      obtain rfl : a = x := by simpa using h
      exact .swap ..
    | succ c => exact (List.Perm.swap ..).trans (((ih (by simpa using h)).cons a).trans (.swap ..))

section stream
variable {S R T : Type}

/-- items the callers hold between lock and return -/
def heldOf (loc : List (Local R)) : List R :=
  loc.filterMap fun
    | .holding r => some r
    | .idle => none

/-- results handed to callers (targets and decode errors), in completion order -/
def delivered (log : List (Ev T)) : List (Outcome T) :=
  log.filterMap fun
    | .result _ o => some o
    | .exhausted _ => none

/-- callers that were told `ErrNoTargets`, in order -/
def exhaustedCallers (log : List (Ev T)) : List Nat :=
  log.filterMap fun
    | .exhausted c => some c
    | .result _ _ => none

theorem heldOf_perm {a b : List (Local R)} (h : a.Perm b) : (heldOf a).Perm (heldOf b) :=
  h.filterMap _

-- `set_perm`: writing a slot makes `old :: slots` a permutation of `new :: slots`
theorem held_lock {loc : List (Local R)} {c : Nat} (r : R) (h : loc[c]? = some .idle) :
    (heldOf (loc.set c (.holding r))).Perm (r :: heldOf loc) :=
  heldOf_perm (set_perm h _)

theorem held_finish {loc : List (Local R)} {c : Nat} {r : R} (h : loc[c]? = some (.holding r)) :
    (r :: heldOf (loc.set c .idle)).Perm (heldOf loc) :=
  heldOf_perm (set_perm h _)

theorem delivered_exhausted (log : List (Ev T)) (c : Nat) : delivered (log ++ [.exhausted c]) = delivered log :=
  List.filterMap_append.trans (List.append_nil _)

theorem delivered_result (log : List (Ev T)) (c : Nat) (o : Outcome T) :
    delivered (log ++ [.result c o]) = delivered log ++ [o] :=
  List.filterMap_append

theorem exhaustedCallers_exhausted (log : List (Ev T)) (c : Nat) :
    exhaustedCallers (log ++ [.exhausted c]) = exhaustedCallers log ++ [c] :=
  List.filterMap_append

theorem exhaustedCallers_result (log : List (Ev T)) (c : Nat) (o : Outcome T) :
    exhaustedCallers (log ++ [.result c o]) = exhaustedCallers log :=
  List.filterMap_append.trans (List.append_nil _)

variable {sys : Sys S R T} {st st' : St S R T}

inductive Step (sys : Sys S R T) (st : St S R T) : Label → St S R T → Prop where
  | exhaust {c : Nat} {src' : S} : st.loc[c]? = some .idle → sys.pop st.src = (none, src') →
      Step sys st (.lock c) { st with src := src', log := st.log ++ [.exhausted c] }
  | take {c : Nat} {r : R} {src' : S} : st.loc[c]? = some .idle → sys.pop st.src = (some r, src') →
      Step sys st (.lock c) { st with src := src', loc := st.loc.set c (.holding r) }
  | finish {c : Nat} {r : R} : st.loc[c]? = some (.holding r) →
      Step sys st (.finish c) { st with loc := st.loc.set c .idle, log := st.log ++ [.result c (sys.dec r)] }

theorem step_iff {l : Label} : step sys st l = some st' ↔ Step sys st l st' := by
  constructor
  · intro hs
    cases l with
    | lock c =>
      simp only [step] at hs
      split at hs
      · rename_i hidle
        split at hs <;> rename_i hpop <;> cases hs
        · exact .exhaust hidle hpop
        · exact .take hidle hpop
      · cases hs
    | finish c =>
      simp only [step] at hs
      split at hs
      · rename_i hhold; cases hs; exact .finish hhold
      · cases hs
  · intro h
    cases h with
    | exhaust hidle hpop => simp only [step, hidle, hpop]
    | take hidle hpop => simp only [step, hidle, hpop]
    | finish hhold => simp only [step, hhold]

theorem run_nil (h : run sys st [] = some st') : st' = st := by
  simpa [run] using h.symm

theorem run_cons {l : Label} {ls : List Label} (h : run sys st (l :: ls) = some st') :
    ∃ s1, Step sys st l s1 ∧ run sys s1 ls = some st' := by
  simp only [run] at h
  split at h
  · rename_i s1 hs; exact ⟨s1, step_iff.mp hs, h⟩
  · cases h

theorem run_invariant {P : St S R T → Prop} (hP : ∀ st l st', P st → Step sys st l st' → P st')
    {tr : List Label} (h0 : P st) (h : run sys st tr = some st') : P st' := by
  induction tr generalizing st with
  | nil => rw [run_nil h]; exact h0
  | cons l ls ih =>
    obtain ⟨s1, hs, h⟩ := run_cons h
    exact ih (hP _ _ _ h0 hs) h

theorem run_loc_length {tr : List Label} (h : run sys st tr = some st') : st'.loc.length = st.loc.length := by
  refine run_invariant (P := fun s => s.loc.length = st.loc.length) ?_ rfl h
  intro s l s' hP hs
  cases hs <;> simpa using hP

/-- the items a source delivers when popped until it reports exhaustion -/
inductive Drains (sys : Sys S R T) : S → List R → Prop where
  | done {s : S} : (sys.pop s).1 = none → Drains sys s []
  | more {s s' : S} {r : R} {rs : List R} : sys.pop s = (some r, s') → Drains sys s' rs → Drains sys s (r :: rs)

theorem drains_exhausted {s : S} {rs : List R} (h : Drains sys s rs)
    (hex : (sys.pop s).1 = none) : rs = [] := by
  cases h with
  | done _ => rfl
  | more hp _ => rw [hp] at hex; cases hex

/-- once exhausted, always exhausted -/
def Stable (sys : Sys S R T) : Prop := ∀ s s', sys.pop s = (none, s') → (sys.pop s').1 = none

/-- every item popped so far has been delivered or is held by a caller; the rest is still
in the source, in order -/
def Inv (sys : Sys S R T) (all : List R) (st : St S R T) : Prop :=
  ∃ taken rest, all = taken ++ rest ∧ Drains sys st.src rest ∧
    (delivered st.log ++ (heldOf st.loc).map sys.dec).Perm (taken.map sys.dec)

theorem inv_init (sys : Sys S R T) (src : S) (all : List R) (callers : Nat) (h : Drains sys src all) :
    Inv sys all (init src callers) :=
  ⟨[], all, rfl, h, by simp [init, delivered, heldOf]⟩

theorem inv_step (stable : Stable sys) (all : List R) (st : St S R T) (l : Label) (st' : St S R T)
    (inv : Inv sys all st) (hs : Step sys st l st') : Inv sys all st' := by
  obtain ⟨taken, rest, h1, h2, h3⟩ := inv
  cases hs with
  | exhaust _ hpop =>
    obtain rfl := drains_exhausted h2 (by rw [hpop])
    exact ⟨taken, [], h1, .done (stable _ _ hpop), by rw [delivered_exhausted]; exact h3⟩
  | @take c r _ hidle hpop =>
    -- `r` moves from the source to caller `c`
    cases h2 with
    | done hn => rw [hpop] at hn; cases hn
    | more hp hd =>
    rw [hpop] at hp; cases hp
    refine ⟨taken ++ [r], _, by simp [h1], hd, ?_⟩
    rw [List.map_append]
    exact ((((held_lock r hidle).map sys.dec).append_left _).trans List.perm_middle).trans
      ((h3.cons _).trans (List.perm_append_singleton _ _).symm)
  | @finish c r hhold =>
    -- `r` moves from caller `c` to the log
    refine ⟨taken, rest, h1, h2, .trans ?_ h3⟩
    rw [delivered_result, List.append_assoc]
    exact ((held_finish hhold).map sys.dec).append_left _

/-- the callers of the `lock` labels of a schedule, in order -/
def lockCallers : List Label → List Nat
  | [] => []
  | .lock c :: r => c :: lockCallers r
  | .finish _ :: r => lockCallers r

theorem lockCallers_append (a b : List Label) : lockCallers (a ++ b) = lockCallers a ++ lockCallers b := by
  induction a with
  | nil => rfl
  | cons l r ih => cases l <;> simp [lockCallers, ih]

/-- at an exhausted source a `lock` step only tells its caller `ErrNoTargets`, and a `finish`
step turns a held item into a delivered one -/
theorem exhausted_run (stable : Stable sys) {tr : List Label} (hex : (sys.pop st.src).1 = none)
    (h : run sys st tr = some st') :
    (sys.pop st'.src).1 = none ∧
    exhaustedCallers st'.log = exhaustedCallers st.log ++ lockCallers tr ∧
    (heldOf st'.loc).length + (delivered st'.log).length = (heldOf st.loc).length + (delivered st.log).length := by
  induction tr generalizing st with
  | nil => rw [run_nil h]; exact ⟨hex, (List.append_nil _).symm, rfl⟩
  | cons l ls ih =>
    obtain ⟨s1, hs, h⟩ := run_cons h
    cases hs with
    | exhaust _ hpop =>
      obtain ⟨f1, f2, f3⟩ := ih (stable _ _ hpop) h
      exact ⟨f1, by rw [f2, exhaustedCallers_exhausted, List.append_assoc]; rfl, by rw [f3, delivered_exhausted]⟩
    | take _ hpop => rw [hpop] at hex; cases hex
    | finish hhold =>
      obtain ⟨f1, f2, f3⟩ := ih (by exact hex) h
      refine ⟨f1, by rw [f2, exhaustedCallers_result]; rfl, ?_⟩
      rw [f3, delivered_result, List.length_append, ← (held_finish hhold).length_eq]
      exact (Nat.add_right_comm _ 1 _).symm

end stream

/-! ### the static targeter -/

theorem sindex_nat (k i : Nat) (hk : 0 < k) : sindex k (i : Int) = .ok (i % k) := by
  unfold sindex
  rw [if_neg (Nat.ne_of_gt hk)]
  show (if Int.tmod i k < 0 then _ else _) = _
  rw [← Int.ofNat_tmod, if_neg (Int.not_lt.mpr (Int.natCast_nonneg _)), Int.toNat_natCast]

/-- the `a`-th `atomic.AddInt64(&i, 1)` (counter `a - 1` before it) returns `a`: no wrap below `2^63` -/
theorem wrapS64_pred_succ {a : Nat} (h : a < two63) : wrapS64 ((a : Int) - 1 + 1) = (a : Int) := by
  rw [Int.sub_add_cancel]
  apply wrapS64_id
  unfold inS64 minInt64 maxInt64
  unfold two63 at h
  omega

theorem div_shift {k j : Nat} (hj : j < k) (n : Nat) :
    (k - 1 - j + n) / k = n / k + if j < n % k then 1 else 0 := by
  have hk : 0 < k := by omega
  have hr := Nat.mod_lt n hk
  rw [show k - 1 - j + n = (k - 1 - j + n % k) + k * (n / k) by rw [Nat.add_assoc, Nat.mod_add_div],
    Nat.add_mul_div_left _ _ hk, Nat.add_comm]
  congr 1
  split
  · exact Nat.div_eq_of_lt_le (by omega) (by omega)
  · exact Nat.div_eq_of_lt (by omega)

theorem div_ceil_of_mod_pos {n k : Nat} (hk : 0 < k) (h : 0 < n % k) : (n + k - 1) / k = n / k + 1 := by
  have := div_shift hk n
  rwa [if_pos h, Nat.sub_zero, Nat.add_comm, ← Nat.add_sub_assoc hk] at this

/-- the counting lemma of strict rotation: among the draw numbers `0 … n-1`, target `j` of `k`
is hit `⌊n/k⌋` times, plus once more when `j < n mod k` -/
theorem count_rotation (k : Nat) (hk : 0 < k) (j : Nat) (hj : j < k) (n : Nat) :
    ((List.range n).filter (fun i => i % k == j)).length = n / k + if j < n % k then 1 else 0 := by
  -- the draws are the window of `n` counter values from `0`, whose visits `RoundRobin` counts
  have h := RoundRobin.count_window_eq hj 0 n
  rw [Nat.zero_add, Nat.mod_eq_of_lt (Nat.lt_of_le_of_lt (Nat.sub_le _ j) (Nat.sub_one_lt_of_lt hk)), div_shift hj] at h
  rw [← h, RoundRobin.window_eq_map_range, List.count_eq_countP, List.countP_map, List.countP_eq_length_filter]
  simp [Function.comp_def]

/-- static targeter: counter values handed out and not yet turned into an index -/
def pendingOf (loc : List (Option Int)) : List Int := loc.filterMap id

def addCount : List SLabel → Nat
  | [] => 0
  | .add _ :: r => addCount r + 1
  | .finish _ :: r => addCount r

theorem pendingOf_perm {a b : List (Option Int)} (h : a.Perm b) : (pendingOf a).Perm (pendingOf b) :=
  h.filterMap _

theorem pending_add {loc : List (Option Int)} {c : Nat} (v : Int) (h : loc[c]? = some none) :
    (pendingOf (loc.set c (some v))).Perm (v :: pendingOf loc) :=
  pendingOf_perm (set_perm h _)

theorem pending_finish {loc : List (Option Int)} {c : Nat} {v : Int} (h : loc[c]? = some (some v)) :
    (v :: pendingOf (loc.set c none)).Perm (pendingOf loc) :=
  pendingOf_perm (set_perm h _)

/-- after `a` atomic adds: the counter is `a - 1` and the values handed out — still pending or
already turned into an index — are exactly `0 … a-1` -/
structure SInv (k a : Nat) (s : SSt) : Prop where
  counter : s.counter = (a : Int) - 1
  perm : ((pendingOf s.loc).map (sindex k) ++ s.log.map (·.2)).Perm ((List.range a).map fun (i : Nat) => sindex k (i : Int))

theorem sinv_init (k callers : Nat) : SInv k 0 (sinit callers) :=
  ⟨by simp [sinit], by simp [sinit, pendingOf]⟩

theorem sinv_step {k a : Nat} {s s' : SSt} {l : SLabel} (inv : SInv k a s) (hs : sstep k s l = some s')
    (hlt : a + addCount [l] < two63) : SInv k (a + addCount [l]) s' := by
  cases l with
  | add c =>
    show SInv k (a + 1) s'
    simp only [sstep] at hs
    split at hs
    · rename_i hnone
      cases hs
      -- the add returns `a`, which becomes pending
      have hv : wrapS64 (s.counter + 1) = (a : Int) := by
        rw [inv.counter]; exact wrapS64_pred_succ (Nat.lt_of_succ_lt hlt)
      refine ⟨by simp only [hv, Int.natCast_succ, Int.add_sub_cancel], ?_⟩
      simp only [hv]
      rw [List.range_succ, List.map_append]
      exact (((pending_add (a : Int) hnone).map (sindex k)).append_right _).trans
        ((inv.perm.cons _).trans (List.perm_append_singleton _ _).symm)
    · cases hs
  | finish c =>
    show SInv k a s'
    simp only [sstep] at hs
    split at hs
    · rename_i v hsome
      cases hs
      -- `v` moves from pending to the log, as the index it selects
      refine ⟨inv.counter, .trans ?_ inv.perm⟩
      simp only [List.map_append, ← List.append_assoc]
      exact (List.perm_append_singleton _ _).trans (((pending_finish hsome).map (sindex k)).append_right _)
    · cases hs

theorem sinv_run {k a : Nat} {tr : List SLabel} {s s' : SSt} (inv : SInv k a s) (h : srun k s tr = some s')
    (hlt : a + addCount tr < two63) : SInv k (a + addCount tr) s' := by
  induction tr generalizing a s with
  | nil => simp only [srun, Option.some.injEq] at h; exact h ▸ inv
  | cons l ls ih =>
    simp only [srun] at h
    split at h
    · rename_i s1 hs
      have e : addCount (l :: ls) = addCount [l] + addCount ls := by cases l <;> simp [addCount, Nat.add_comm]
      rw [e, ← Nat.add_assoc] at hlt ⊢
      exact ih (sinv_step inv hs (Nat.lt_of_le_of_lt (Nat.le_add_right ..) hlt)) h hlt
    · cases h

end Vegeta.Proofs.TargeterConc
