/-
Termination of the closing sequence of an attack (C02, C04 "the attack then ends"):
once the main loop has left its `for` loop (pacer stop, deadline, Stop seen), every step any
attack goroutine or the consumer takes strictly decreases a natural-number measure, and some
such step is always enabled until the terminal state is reached.  Hence under the sole
assumption that enabled goroutines are eventually scheduled and the consumer keeps receiving,
the attack ends.  The bound is over runs of those steps; that the clock and external Stop calls
change neither measure nor control point is `env_step_keeps_mu`, step by step.
-/
import Vegeta.Proofs.AttackInv
namespace Vegeta.Proofs.Attack
open Vegeta.Model.Attack

def closing : PC → Bool
  | .closeTicks | .waitWG | .closeResults | .finalStop | .done => true
  | _ => false

def pcRank : PC → Nat
  | .closeTicks => 4 | .waitWG => 3 | .closeResults => 2 | .finalStop => 1 | _ => 0

/-- remaining steps of the worker that owns this hit (including its final `exit`) -/
def hitW (h : Hit) : Nat :=
  match h.phase with
  | .delivered => 0
  | .sending => 2
  | .stopping => 3
  | .hitting =>
    match h.entered, h.left with
    | none, _ => 5
    | some _, none => 4
    | some _, some _ => 3

def hitsW (hs : List Hit) : Nat := (hs.map hitW).sum

/-- Steps still to come: tick held (7) → critical section (6) → fresh hit (5) → … → idle (1) → exited;
starting (2) → idle. -/
def mu (s : St) : Nat :=
  pcRank s.pc + 2 * s.starting + s.idle + 7 * s.got + 6 * csN s + hitsW s.hits

/-- labels of the environment: the clock and external Stop calls -/
def isEnv : Lbl → Bool
  | .advance _ | .stop => true
  | _ => false

/-- A worker's step on its hit lowers the hit's weight by more than the `k` workers it sets idle. -/
theorem mu_setHit_lt {s : St} {i : Nat} {a : Hit} {f : Hit → Hit} (hi : s.hits[i]? = some a) (k : Nat)
    (hlt : hitW (f a) + k < hitW a) (dl : List Nat) (c : Bool) (r : List Bool) :
    mu { s with hits := setHit s.hits i f, idle := s.idle + k, delivered := dl, stopClosed := c,
                stopReturns := r } < mu s := by
  have := sum_modify hitW f s.hits i a hi
  simp only [mu, csN, hitsW, setHit] at this ⊢; omega

theorem mu_pc_lt {s s' : St} (hpc : pcRank s'.pc + 1 = pcRank s.pc) (h1 : s'.starting = s.starting) (h2 : s'.idle = s.idle)
    (h3 : s'.got = s.got) (h4 : s'.cs = s.cs) (h5 : s'.hits = s.hits) : mu s' < mu s := by
  simp only [mu, csN, h1, h2, h3, h4, h5]; omega

theorem closing_step_decreases (s s' : St) (l : Lbl) (hc : Core s) (hcl : closing s.pc = true) (henv : isEnv l = false)
    (hs : step s l = some s') : mu s' < mu s ∧ closing s'.pc = true := by
  cases step_rule hs with
  | advance _ | stop => cases henv
  | deadline hpc _ | paceStop hpc _ | paceWait _ hpc _ | wakeTry hpc _ _ | wakeBlock hpc _ _ | spawn hpc _ _ =>
    rw [hpc] at hcl; cases hcl
  | tick hpc _ | seeStop hpc _ => rcases hpc with hpc | hpc <;> rw [hpc] at hcl <;> cases hcl
  | closeTicks hpc | closeResults hpc | finalStop hpc | wgDone hpc _ =>
    exact ⟨mu_pc_lt (by rw [hpc]; rfl) rfl rfl rfl rfl rfl, rfl⟩
  | ready _ | exit _ _ => refine ⟨?_, hcl⟩; simp only [mu, csN]; omega
  | csEnter _ hcs =>
    refine ⟨?_, hcl⟩
    simp only [mu, csN, hcs, Option.isSome_some, Option.isSome_none, ↓reduceIte, Bool.false_eq_true]; omega
  | csLeave hcs =>
    refine ⟨?_, hcl⟩
    simp only [mu, csN, hcs, hitsW, List.map_append, List.sum_append, Option.isSome]
    simp [hitW]; omega
  | tgtErr hi hph hent => exact ⟨mu_setHit_lt hi 0 (by simp [hitW, hph, hent]) _ _ _, hcl⟩
  | stopRet hi hph => exact ⟨mu_setHit_lt hi 0 (by simp [hitW, hph]) _ _ _, hcl⟩
  | @enter i h hi hph hent =>
    exact ⟨mu_setHit_lt hi 0 (by simp only [hitW, hph, hent]; cases h.left <;> simp) _ _ _, hcl⟩
  | @leave i h hi hph hent hleft =>
    obtain ⟨e, he⟩ := Option.ne_none_iff_exists'.mp hent
    exact ⟨mu_setHit_lt hi 0 (by simp [hitW, hph, he, hleft]) _ _ _, hcl⟩
  | @finish i h hi hph _ =>
    exact ⟨mu_setHit_lt hi 0 (by simp only [hitW, hph]; cases h.entered <;> cases h.left <;> simp) _ _ _, hcl⟩
  | deliver hi hph _ => exact ⟨mu_setHit_lt hi 1 (by simp [hitW, hph]) _ _ _, hcl⟩
  | deliverClosed hi hph hrc => cases (hc.open_of_sending hi hph).symm.trans hrc

theorem closing_not_stuck (s : St) (hc : Core s) (hcl : closing s.pc = true) (hnd : s.pc ≠ .done) :
    ∃ l s', isEnv l = false ∧ step s l = some s' := by
  have enabled : ∀ {l s'}, isEnv l = false → Step s l s' → ∃ l s', isEnv l = false ∧ step s l = some s' :=
    fun he hs => ⟨_, _, he, step_iff.mpr hs⟩
  cases hp : s.pc with
  | pace | sleep | trySend | blockSend => rw [hp] at hcl; cases hcl
  | done => exact absurd hp hnd
  | closeTicks => exact enabled rfl (.closeTicks hp)
  | closeResults => exact enabled rfl (.closeResults hp)
  | finalStop => exact enabled rfl (.finalStop hp)
  | waitWG =>
    have htc : s.ticksClosed = true := hc.tc_at hp
    have hrc : s.resultsClosed = false := hc.rc_at hp
    by_cases hex : s.exited = s.nworkers
    · exact enabled rfl (.wgDone hp hex)
    by_cases h1 : 0 < s.starting
    · exact enabled rfl (.ready h1)
    by_cases h2 : 0 < s.idle
    · exact enabled rfl (.exit h2 htc)
    cases hcs : s.cs with
    | some t => exact enabled rfl (.csLeave hcs)
    | none =>
      by_cases h3 : 0 < s.got
      · exact enabled rfl (.csEnter h3 hcs)
      -- some hit still holds a worker
      have hb : 0 < busyHits s := by have := hc.pop; simp only [csN, hcs] at this; simp at this; omega
      obtain ⟨h, hm, hph⟩ := List.countP_pos_iff.mp hb
      obtain ⟨i, hi⟩ := List.getElem?_of_mem hm
      cases hphase : h.phase with
      | delivered => simp [hphase] at hph
      | sending => exact enabled rfl (.deliver hi hphase hrc)
      | stopping => exact enabled rfl (.stopRet hi hphase)
      | hitting =>
        cases he : h.entered with
        | none => exact enabled rfl (.finish hi hphase (.inl he))
        | some e =>
          cases hl : h.left with
          | none => exact enabled rfl (.leave hi hphase (by simp [he]) hl)
          | some l => exact enabled rfl (.finish hi hphase (.inr (by simp [hl])))

/-- Environment steps (the clock, external Stop calls) neither increase the measure nor leave
the closing sequence. -/
theorem env_step_keeps_mu (s s' : St) (l : Lbl) (henv : isEnv l = true) (hs : step s l = some s') :
    mu s' = mu s ∧ s'.pc = s.pc := by
  cases step_rule hs with
  | advance _ | stop => exact ⟨rfl, rfl⟩
  | _ => cases henv

/-- **Bounded termination**: from a reachable closing state, any sequence of non-environment
steps has length at most `mu s`; together with `closing_not_stuck` every maximal such sequence
reaches `done`. -/
theorem closing_run_bounded {w m d : Nat} : ∀ (ls : List Lbl) (s s' : St), Reachable w m d s → closing s.pc = true →
    (∀ l ∈ ls, isEnv l = false) → run s ls = some s' → ls.length + mu s' ≤ mu s := by
  intro ls
  induction ls with
  | nil => intro s s' _ _ _ hr; simp [run] at hr; subst hr; simp
  | cons l ls ih =>
    intro s s' hreach hcl hall hr
    simp only [run] at hr
    split at hr
    · rename_i s1 hs1
      have hd := closing_step_decreases s s1 l (core_reachable hreach) hcl (hall l (by simp)) hs1
      have := ih s1 s' (Reachable.step l hreach hs1) hd.2 (fun x hx => hall x (by simp [hx])) hr
      simp only [List.length_cons]; omega
    · cases hr

end Vegeta.Proofs.Attack
