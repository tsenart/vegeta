/-
The maps of the plot (attack → labeledSeries, label → timeSeries) never hold a key twice, so the
series handed to `Plot.data` are exactly the ones the look-ups find; they are handed over sorted
by `attack+label`.
-/
import Vegeta.Proofs.AssocList
import Vegeta.Proofs.PlotSort
namespace Vegeta.Proofs.PlotWF
open Vegeta.Go Vegeta.Model.LTTB Vegeta.Model.Plot
open Vegeta.Proofs.AssocList Vegeta.Proofs.PlotSort

def SeriesWF (ls : LabeledSeries) : Prop := (ls.series.map (·.1)).Nodup

def PlotWF (p : Plot) : Prop :=
  (p.map (·.1)).Nodup ∧ ∀ a ls, (a, ls) ∈ p → SeriesWF ls

theorem ensureSeries_nodup (ss : List (Bytes × TimeSeries)) (r : Result) (h : (ss.map (·.1)).Nodup) :
    ((ensureSeries ss r).map (·.1)).Nodup := by
  unfold ensureSeries
  split
  · exact h
  · rename_i hn
    rw [seriesLookup_eq] at hn
    rw [← alSet_absent ss _ _ hn]
    exact alSet_nodup _ _ _ h

theorem release_wf : ∀ (fuel : Nat) (ls ls' : LabeledSeries), SeriesWF ls → release fuel ls = .ok ls' → SeriesWF ls' := by
  intro fuel
  induction fuel with
  | zero => intro ls ls' h e; simp [release] at e; subst e; exact h
  | succ fuel ih =>
    intro ls ls' h e
    -- a turn changes the series map only by `seriesSet`, which keeps keys distinct
    unfold release at e
    split at e
    · cases e; exact h
    · split at e
      · cases e
      · split at e
        · rename_i p _ s _ s' _
          apply ih _ ls' _ e
          unfold SeriesWF
          simp only
          rw [seriesSet_eq]
          exact alSet_nodup _ _ _ h
        · cases e
        · cases e

theorem add_wf (ls ls' : LabeledSeries) (r : Result) (h : SeriesWF ls) (e : ls.add r = .ok ls') : SeriesWF ls' := by
  unfold LabeledSeries.add at e
  simp only [] at e
  split at e
  · cases e
    exact ensureSeries_nodup _ _ h
  · refine release_wf _ _ _ ?_ e
    exact ensureSeries_nodup ls.series r h

theorem plot_add_wf (p p' : Plot) (r : Result) (h : PlotWF p) (e : Plot.add p r = .ok p') : PlotWF p' := by
  unfold Plot.add at e
  simp only [] at e
  split at e
  · rename_i ls' hadd
    cases e
    obtain ⟨hk, hs⟩ := h
    have hls : SeriesWF ((plotLookup p r.attack).getD LabeledSeries.new) := by
      cases hl : plotLookup p r.attack with
      | none => simp [SeriesWF, LabeledSeries.new]
      | some ls0 =>
        simp only [Option.getD_some]
        rw [plotLookup_eq, ← alLookup_mem p hk] at hl
        exact hs _ _ hl
    have hls' := add_wf _ _ _ hls hadd
    rw [plotSet_eq]
    refine ⟨alSet_nodup _ _ _ hk, ?_⟩
    intro a ls hmem
    -- an entry of the updated map is the new one or an old one
    rw [alLookup_mem _ (alSet_nodup p r.attack ls' hk), alLookup_set] at hmem
    split at hmem
    · cases hmem; exact hls'
    · exact hs _ _ ((alLookup_mem p hk _ _).mpr hmem)
  · cases e
  · cases e

theorem addAll_wf : ∀ (rs : List Result) (p p' : Plot), PlotWF p → Plot.addAll p rs = .ok p' → PlotWF p' := by
  intro rs
  induction rs with
  | nil => intro p p' h e; simp [Plot.addAll] at e; subst e; exact h
  | cons r rs ih =>
    intro p p' h e
    unfold Plot.addAll at e
    split at e
    · rename_i p1 h1
      exact ih p1 p' (plot_add_wf p p1 r h h1) e
    · cases e
    · cases e

theorem empty_wf : PlotWF [] := by simp [PlotWF]

theorem allSeries_mem (p : Plot) (h : PlotWF p) (s : TimeSeries) :
    s ∈ allSeries p ↔ ∃ a l, (plotLookup p a).bind (fun ls => seriesLookup ls.series l) = some s := by
  obtain ⟨hk, hs⟩ := h
  unfold allSeries
  rw [(sortBy_perm _ _).mem_iff, List.mem_flatMap]
  constructor
  · rintro ⟨⟨a, ls⟩, he, hm⟩
    rw [List.mem_map] at hm
    obtain ⟨⟨l, s'⟩, hl, hs'⟩ := hm
    simp only at hs'
    subst hs'
    refine ⟨a, l, ?_⟩
    rw [plotLookup_eq, (alLookup_mem p hk a ls).mp he]
    simp only [Option.bind_some]
    rw [seriesLookup_eq]
    exact (alLookup_mem ls.series (hs a ls he) l s').mp hl
  · rintro ⟨a, l, hb⟩
    cases hl : plotLookup p a with
    | none => rw [hl] at hb; simp at hb
    | some ls =>
      rw [hl] at hb
      simp only [Option.bind_some] at hb
      rw [plotLookup_eq, ← alLookup_mem p hk] at hl
      refine ⟨(a, ls), hl, ?_⟩
      rw [List.mem_map]
      refine ⟨(l, s), ?_, rfl⟩
      rw [seriesLookup_eq, ← alLookup_mem ls.series (hs a ls hl)] at hb
      exact hb

theorem allSeries_sorted (p : Plot) :
    (allSeries p).Pairwise (fun a b => bytesLt (seriesKey b) (seriesKey a) = false) :=
  sortBy_sorted (fun a b => bytesLt (seriesKey a) (seriesKey b))
    (fun _ => bytesLt_irrefl _) (fun _ _ _ => bytesLt_trans _ _ _) _

end Vegeta.Proofs.PlotWF
