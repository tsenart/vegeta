/-
The JSON targeter's header merge in the reference model: it refines the by-value model
(`JSONTargets.vmerge`) and never lets a target share a backing array with the defaults, with
another key, or with anything that existed before the call.
-/
import Vegeta.Model.JSONTargetsRef
import Vegeta.Proofs.HTTPHeap
import Vegeta.Proofs.JSONTargets
namespace Vegeta.Proofs.JSONTargetsRef
open Vegeta.Go
open Vegeta.Model.HTTPTargets (Slice Heap HMap view hlookup hinsert nilSlice growCap)
open Vegeta.Model.JSONTargets (VMap vlookup vset vappend vmerge)
open Vegeta.Model.JSONTargetsRef
open Vegeta.Proofs.HTTPHeap

theorem writeAt_length (i : Nat) (vs cells : List Bytes) (h : i + vs.length ≤ cells.length) :
    (writeAt i vs cells).length = cells.length := by
  simp [writeAt]; omega

theorem take_writeAt (i : Nat) (vs cells : List Bytes) (h : i + vs.length ≤ cells.length) :
    (writeAt i vs cells).take (i + vs.length) = cells.take i ++ vs := by
  have h1 : (cells.take i ++ vs).length = i + vs.length := by simp; omega
  rw [writeAt, List.take_left' h1]

theorem take_writeAt_below (i j : Nat) (vs cells : List Bytes) (hj : j ≤ i) (hi : i ≤ cells.length) :
    (writeAt i vs cells).take j = cells.take j := by
  rw [writeAt, List.append_assoc, List.take_append_of_le_length (by simp; omega), List.take_take]
  congr 1; omega

theorem appendMany_step (h : Heap) (s : Slice) (vs : List Bytes) (hs : SliceOK h s) :
    AppendStep h s (appendMany h s vs).1 (appendMany h s vs).2 ∧
    view (appendMany h s vs).1 (appendMany h s vs).2 = view h s ++ vs := by
  by_cases hv : vs = []
  · have e : appendMany h s vs = (h, s) := by simp [appendMany, hv]
    rw [e, hv]
    exact ⟨AppendStep.refl hs, by simp⟩
  · by_cases hfit : s.len + vs.length ≤ s.cap
    · have e : appendMany h s vs = (h.modify s.arr (writeAt s.len vs), { s with len := s.len + vs.length }) := by
        simp [appendMany, hv, hfit]
      rw [e]
      have hcap : 0 < s.cap := by
        have : 0 < vs.length := List.length_pos_iff.mpr hv
        omega
      rcases hs.2 with h0 | ⟨cells, hc, hl⟩
      · omega
      · refine ⟨AppendStep.inPlace _ _ hs hcap hfit ?_, ?_⟩
        · intro c hc'
          rw [hc] at hc'; cases hc'
          exact writeAt_length _ _ _ (by omega)
        · simp only [view, List.getElem?_modify_eq, hc, Option.map_eq_map, Option.map_some, Option.getD_some]
          exact take_writeAt _ _ _ (by omega)
    · have e : appendMany h s vs = (h ++ [(view h s ++ vs) ++ List.replicate (max (growCap s.cap) (s.len + vs.length) - (s.len + vs.length)) []],
          { arr := h.length, len := s.len + vs.length, cap := max (growCap s.cap) (s.len + vs.length) }) := by
        simp [appendMany, hv, hfit]
      rw [e]
      have hlen : (view h s ++ vs).length = s.len + vs.length := by simp [view_length hs]
      have hbig : s.len + vs.length ≤ max (growCap s.cap) (s.len + vs.length) := Nat.le_max_right _ _
      exact ⟨AppendStep.fresh s _ _ _ hbig (by rw [List.length_append, hlen, List.length_replicate]; omega),
        view_fresh h _ _ _ _ hlen⟩

/-- the header map `m` under construction from heap `hS` on: entries are nil or fresh, distinct
keys in distinct arrays, nothing older touched, and it shows exactly the by-value map `vm` -/
structure MInv (hS : Heap) (m : HMap) (h : Heap) (vm : VMap) : Prop where
  ext : Extends hS h
  ok : ∀ k s, hlookup m k = some s → SliceOK h s
  fresh : ∀ k s, hlookup m k = some s → 0 < s.cap → hS.length ≤ s.arr
  distinct : ∀ k1 s1 k2 s2, hlookup m k1 = some s1 → hlookup m k2 = some s2 →
    0 < s1.cap → 0 < s2.cap → s1.arr = s2.arr → k1 = k2
  keys : ∀ k, (hlookup m k).isSome = (vlookup vm k).isSome
  vals : ∀ k, view h ((hlookup m k).getD nilSlice) = (vlookup vm k).getD []

/-- the aliasing part of `MInv` is the invariant of the http targeter's header map -/
theorem MInv.callInv {hS h : Heap} {m : HMap} {vm : VMap} (inv : MInv hS m h vm) : CallInv hS m h :=
  ⟨inv.ext, inv.ok, inv.fresh, inv.distinct⟩

theorem MInv.shows {hS h : Heap} {m : HMap} {vm : VMap} (inv : MInv hS m h vm) (k : Bytes) :
    (hlookup m k).map (view h) = vlookup vm k :=
  lookup_map_view (inv.keys k) (inv.vals k)

theorem minv_empty (h : Heap) : MInv h [] h [] :=
  ⟨extends_refl h, (by intro k s hk; cases hk), (by intro k s hk; cases hk), (by intro k1 s1 k2 s2 hk; cases hk),
   fun _ => rfl, fun _ => by simp [hlookup, vlookup, view, nilSlice]⟩

theorem mergeKey_eq (m : HMap) (h : Heap) (k : Bytes) (vs : List Bytes) :
    mergeKey m h k vs = (hinsert m k (appendMany h ((hlookup m k).getD nilSlice) vs).2,
      (appendMany h ((hlookup m k).getD nilSlice) vs).1) := rfl

theorem mergeKey_inv (hS : Heap) (m : HMap) (h : Heap) (vm : VMap) (k : Bytes) (vs : List Bytes) (inv : MInv hS m h vm) :
    MInv hS (mergeKey m h k vs).1 (mergeKey m h k vs).2 (vappend vm k vs) := by
  obtain ⟨st, hview⟩ := appendMany_step h ((hlookup m k).getD nilSlice) vs (lookup_getD_ok inv.ok k)
  obtain ⟨ci, hother⟩ := inv.callInv.insert k st
  simp only [mergeKey_eq]
  refine ⟨ci.ext, ci.ok, ci.fresh, ci.distinct, fun k' => ?_, fun k' => ?_⟩
  · rw [hlookup_hinsert, JSONTargets.vlookup_vappend]
    by_cases hkk : k = k'
    · simp [hkk]
    · simp only [hkk, ↓reduceIte]; exact inv.keys k'
  · rw [hlookup_hinsert, JSONTargets.vlookup_vappend]
    by_cases hkk : k = k'
    · subst hkk
      simp only [↓reduceIte, Option.getD_some]
      rw [hview, inv.vals k]
    · simp only [hkk, ↓reduceIte]
      rw [← inv.vals k']
      exact hother k' hkk

theorem mergeRef_inv (hS : Heap) : ∀ (src : List (Bytes × List Bytes)) (m : HMap) (h : Heap) (vm : VMap),
    MInv hS m h vm → MInv hS (mergeRef m h src).1 (mergeRef m h src).2 (vmerge vm src) := by
  intro src
  induction src with
  | nil => intro m h vm inv; exact inv
  | cons e r ih =>
    intro m h vm inv
    obtain ⟨k, vs⟩ := e
    have := ih _ _ _ (mergeKey_inv hS m h vm k vs inv)
    simpa [mergeRef, vmerge] using this

end Vegeta.Proofs.JSONTargetsRef
