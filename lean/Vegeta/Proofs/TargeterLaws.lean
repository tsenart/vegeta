/-
The two stream targeters as sources: exhaustion is stable, every call that does not report
exhaustion consumes input (so draining terminates), `ReadAllTargets`.
-/
import Vegeta.Proofs.HTTPTargetsL
import Vegeta.Proofs.TargeterConc
import Vegeta.Model.JSONTargets
namespace Vegeta.Proofs.TargeterLaws
open Vegeta.Go
open Vegeta.Model
open Vegeta.Model.TargeterConc
open Vegeta.Proofs.TargeterConc

theorem drains_of_measure {S R T : Type} (sys : Sys S R T) (μ : S → Nat)
    (hμ : ∀ s r s', sys.pop s = (some r, s') → μ s' < μ s) (s : S) : ∃ all, Drains sys s all := by
  induction s using (measure μ).wf.induction with
  | _ s ih =>
    cases hp : sys.pop s with
    | mk o s' =>
      cases o with
      | none => exact ⟨[], .done (by rw [hp])⟩
      | some r =>
        obtain ⟨all, ha⟩ := ih s' (hμ _ _ _ hp)
        exact ⟨r :: all, .more hp ha⟩

section json
open Vegeta.Model.JSONTargets

theorem readLine_length {src l rest : Bytes} (h : readLine src = some (l, rest)) : rest.length < src.length := by
  induction src generalizing l with
  | nil => simp [readLine] at h
  | cons c r ih =>
    simp only [readLine] at h
    split at h
    · cases h; exact Nat.lt_succ_self _
    · split at h
      · cases h
      · rename_i hr; cases h; exact Nat.lt_succ_of_lt (ih hr)

theorem popLine_length : ∀ (fuel : Nat) (src d rest : Bytes), popLine fuel src = (some d, rest) → rest.length < src.length := by
  intro fuel src d rest h
  induction fuel generalizing src with
  | zero => simp [popLine] at h
  | succ f ih =>
    simp only [popLine] at h
    split at h
    · cases h
    · rename_i hr
      split at h
      · exact Nat.lt_trans (ih _ h) (readLine_length hr)
      · cases h; exact readLine_length hr

theorem popLine_none : ∀ (fuel : Nat) (src : Bytes), src.length < fuel → (popLine fuel src).1 = none → (popLine fuel src).2 = [] := by
  intro fuel src hf hn
  induction fuel generalizing src with
  | zero => cases hf
  | succ f ih =>
    simp only [popLine] at hn ⊢
    split
    · rfl
    · rename_i l r hr
      rw [hr] at hn
      simp only at hn
      split
      · rename_i hd
        rw [if_pos hd] at hn
        exact ih r (Nat.lt_of_lt_of_le (readLine_length hr) (Nat.le_of_lt_succ hf)) hn
      · rename_i hd; rw [if_neg hd] at hn; cases hn

/-- exhaustion leaves the reader empty (`popLine_none`), and an empty reader is exhausted -/
theorem json_stable (cfg : JSONTargets.Cfg) : Stable (jsonSys cfg) := by
  intro s s' h
  have h2 := popLine_none (s.length + 1) s (Nat.lt_succ_self _) (congrArg Prod.fst h)
  rw [show (popLine (s.length + 1) s).2 = s' from congrArg Prod.snd h] at h2
  subst h2
  rfl

theorem json_drains (cfg : JSONTargets.Cfg) (src : Bytes) : ∃ all, Drains (jsonSys cfg) src all :=
  drains_of_measure (jsonSys cfg) List.length (fun _ _ _ hp => popLine_length _ _ _ _ hp) src

theorem finish_ne_panic (cfg : JSONTargets.Cfg) (line : Bytes) : JSONTargets.finish cfg line ≠ .panic := by
  unfold JSONTargets.finish
  cases cfg.dec line with
  | none => exact nofun
  | some t =>
    dsimp only
    by_cases h1 : t.method = []
    · rw [if_pos h1]; exact nofun
    · rw [if_neg h1]
      by_cases h2 : t.url = []
      · rw [if_pos h2]; exact nofun
      · rw [if_neg h2]; exact nofun

end json

section http
open Vegeta.Model.HTTPTargets
open Vegeta.Proofs.HTTPTargetsL

theorem headerStep_err {cfg : Cfg} {line : Bytes} {tgt tgt' : Target} {h h' : Heap} {e : Nat}
    (hs : headerStep cfg line tgt h = .stop (some e) tgt' h') : e ≠ eNoTargets := by
  have := headerStep_spec cfg line tgt h
  rw [hs] at this
  rcases this.2 with he | he | he <;> cases he <;> decide

theorem headerL_spec (cfg : Cfg) (ls : List Bytes) (tgt : Target) (h : Heap) :
    (headerL cfg ls tgt h).2.1.length ≤ ls.length ∧ ∀ e, (headerL cfg ls tgt h).1 = some e → e ≠ eNoTargets := by
  induction ls generalizing tgt h with
  | nil => exact ⟨Nat.le_refl _, nofun⟩
  | cons t r ih =>
    simp only [headerL]
    cases hs : headerStep cfg (Vegeta.Model.Histogram.trimSpace t) tgt h with
    | stop e' tgt' h' => exact ⟨Nat.le_succ _, fun e (he : e' = some e) => headerStep_err (he ▸ hs)⟩
    | next tgt' h' => exact ⟨Nat.le_succ_of_le (ih tgt' h').1, (ih tgt' h').2⟩

theorem requestLine_err {cfg : Cfg} {line : Bytes} {hdr : HMap} {e : Nat} (h : requestLine cfg line hdr = .error e) : e ≠ eNoTargets := by
  unfold requestLine at h
  repeat' split at h
  all_goals cases h
  all_goals decide

/-- `ErrNoTargets` comes from the skip loop running out of lines only, and leaves nothing behind;
every other outcome consumed at least one line; no call panics -/
theorem callL_cases (cfg : Cfg) (ls : List Bytes) (h : Heap) :
    (callL cfg ls h = (.error eNoTargets, [], h) ∧ skipL ls = none) ∨
    ((callL cfg ls h).1 ≠ .error eNoTargets ∧ (callL cfg ls h).1 ≠ .panic ∧ (callL cfg ls h).2.1.length < ls.length) := by
  cases hs : skipL ls with
  | none => exact .inl ⟨callL_none hs, rfl⟩
  | some lr =>
    obtain ⟨line, r⟩ := lr
    have hlen := skipL_length hs
    have hpl : (peekL r []).2.length ≤ r.length := peekL_length r []
    right
    cases hq : requestLine cfg line (copyDefaults cfg.hdr h).1 with
    | error e =>
      rw [callL_badRequest hs hq]
      exact ⟨fun he => requestLine_err hq (by cases he; rfl), nofun, hlen⟩
    | ok tgt =>
      cases hp : returnsAfterPeek (peekL r []).1 with
      | true => rw [callL_returns hs hq hp]; exact ⟨nofun, nofun, Nat.lt_of_le_of_lt hpl hlen⟩
      | false =>
        obtain ⟨hl, he⟩ := headerL_spec cfg (peekL r []).2 tgt (copyDefaults cfg.hdr h).2
        generalize hh : headerL cfg (peekL r []).2 tgt (copyDefaults cfg.hdr h).2 = res at hl he
        obtain ⟨e, r3, t3, h3⟩ := res
        rw [callL_headers hs hq hp hh]
        have hlt : r3.length < ls.length := Nat.lt_of_le_of_lt (Nat.le_trans hl hpl) hlen
        cases e with
        | none => exact ⟨nofun, nofun, hlt⟩
        | some e => exact ⟨fun hc => he e rfl (by cases hc; rfl), nofun, hlt⟩

/-- `callL_cases` for the targeter itself: no call panics; `ErrNoTargets` leaves the scanner empty,
every other outcome consumed at least one of the lines it would still deliver -/
theorem call_cases (cfg : Cfg) (st : St) :
    (call cfg st).1 ≠ .panic ∧
    (((call cfg st).1 = .error eNoTargets ∧ eff (call cfg st).2.ps = []) ∨
     ((call cfg st).1 ≠ .error eNoTargets ∧ (eff (call cfg st).2.ps).length < (eff st.ps).length)) := by
  obtain ⟨ps', c1, c2⟩ := call_refines cfg st
  rw [c1]
  simp only [c2]
  rcases callL_cases cfg (eff st.ps) st.heap with ⟨hc, _⟩ | ⟨hne, hnp, hlt⟩
  · rw [hc]; exact ⟨nofun, .inl ⟨rfl, rfl⟩⟩
  · exact ⟨hnp, .inr ⟨hne, hlt⟩⟩

theorem httpSys_pop (cfg : Cfg) (st : St) :
    (httpSys cfg).pop st =
      if (call cfg st).1 = .error eNoTargets then (none, (call cfg st).2) else (some (call cfg st).1, (call cfg st).2) := by
  simp only [httpSys]
  generalize call cfg st = res
  obtain ⟨o, st'⟩ := res
  cases o with
  | ok t => simp
  | panic => simp
  | error e => by_cases he : e = eNoTargets <;> simp [he]

theorem http_stable (cfg : Cfg) : Stable (httpSys cfg) := by
  intro s s' hp
  rw [httpSys_pop] at hp ⊢
  split at hp
  · cases hp
    -- the scanner is empty after `ErrNoTargets`, so the next call cannot consume a line
    rcases (call_cases cfg s).2 with ⟨_, he⟩ | ⟨hne, _⟩
    · rcases (call_cases cfg (call cfg s).2).2 with ⟨h, _⟩ | ⟨_, hlt⟩
      · rw [if_pos h]
      · rw [he] at hlt; cases hlt
    · contradiction
  · cases hp

theorem http_drains (cfg : Cfg) (st : St) : ∃ all, Drains (httpSys cfg) st all := by
  refine drains_of_measure (httpSys cfg) (fun st => (eff st.ps).length) ?_ st
  intro s r s' hp
  rw [httpSys_pop] at hp
  split at hp
  · cases hp
  · rename_i hne
    cases hp
    rcases (call_cases cfg s).2 with ⟨h, _⟩ | ⟨_, hlt⟩
    · contradiction
    · exact hlt

end http

section readall
open Vegeta.Model.HTTPTargets

/-- the calls of a targeter up to and including the first one that fails -/
inductive RunsTo {S T : Type} (step : S → Outcome T × S) : S → List T → Nat → S → Prop where
  | stop {s s' : S} {e : Nat} : step s = (.error e, s') → RunsTo step s [] e s'
  | more {s s1 s' : S} {t : T} {ts : List T} {e : Nat} :
      step s = (.ok t, s1) → RunsTo step s1 ts e s' → RunsTo step s (t :: ts) e s'

theorem RunsTo.det {S T : Type} {step : S → Outcome T × S} {s s' s2 : S} {ts ts2 : List T} {e e2 : Nat}
    (h : RunsTo step s ts e s') (h2 : RunsTo step s ts2 e2 s2) : ts = ts2 ∧ e = e2 ∧ s' = s2 := by
  induction h generalizing ts2 with
  | stop hs =>
    cases h2 with
    | stop hs2 => rw [hs] at hs2; cases hs2; exact ⟨rfl, rfl, rfl⟩
    | more hs2 _ => rw [hs] at hs2; cases hs2
  | more hs _ ih =>
    cases h2 with
    | stop hs2 => rw [hs] at hs2; cases hs2
    | more hs2 hr2 =>
      rw [hs] at hs2; cases hs2
      obtain ⟨a, b, c⟩ := ih hr2
      exact ⟨by rw [a], b, c⟩

/-- **`ReadAllTargets`**: if the targeter's successive calls yield `ts` and then fail with `e`,
the eager reader returns exactly `ts` when `e` is `ErrNoTargets` and there is at least one
target, `ErrNoTargets` when there is none, and aborts with `e` otherwise. -/
theorem readAllLoop_spec {S T : Type} (step : S → Outcome T × S) :
    ∀ (fuel : Nat) (s s' : S) (acc ts : List T) (e : Nat), RunsTo step s ts e s' → ts.length < fuel →
      readAllLoop step fuel s acc =
        (if e = eNoTargets then (if acc ++ ts = [] then .error eNoTargets else .ok (acc ++ ts)) else .error e, s') := by
  intro fuel s s' acc ts e hr hlen
  induction fuel generalizing s acc ts with
  | zero => cases hlen
  | succ f ih =>
    cases hr with
    | stop hs =>
      simp only [readAllLoop, hs, List.append_nil]
      split <;> rfl
    | more hs hrest =>
      simp only [readAllLoop, hs]
      rw [ih _ _ _ hrest (Nat.lt_of_succ_lt_succ hlen)]
      simp

theorem runsTo_of_measure {S T : Type} (step : S → Outcome T × S) (μ : S → Nat)
    (hok : ∀ s t s', step s = (.ok t, s') → μ s' < μ s) (hnp : ∀ s, (step s).1 ≠ .panic) (s : S) (n : Nat) (hn : μ s ≤ n) :
    ∃ ts e s', RunsTo step s ts e s' ∧ ts.length ≤ n := by
  induction s using (measure μ).wf.induction generalizing n with
  | _ s ih =>
    cases hs : step s with
    | mk o s1 =>
      cases o with
      | panic => exact absurd (by rw [hs]) (hnp s)
      | error e => exact ⟨[], e, s1, .stop hs, Nat.zero_le _⟩
      | ok t =>
        have hlt := hok _ _ _ hs
        cases n with
        | zero => exact absurd (Nat.lt_of_lt_of_le hlt hn) (Nat.not_lt_zero _)
        | succ n =>
          obtain ⟨ts, e, s', hr, hl⟩ := ih s1 hlt n (Nat.le_of_lt_succ (Nat.lt_of_lt_of_le hlt hn))
          exact ⟨t :: ts, e, s', .more hs hr, Nat.succ_le_succ hl⟩

theorem http_runsTo (cfg : Cfg) : ∀ (n : Nat) (st : St), (Vegeta.Proofs.HTTPTargetsL.eff st.ps).length ≤ n →
    ∃ ts e st', RunsTo (call cfg) st ts e st' ∧ ts.length ≤ n :=
  fun n st => runsTo_of_measure (call cfg) (fun st => (Vegeta.Proofs.HTTPTargetsL.eff st.ps).length)
    (fun s t s' hs => by
      rcases (call_cases cfg s).2 with ⟨he, _⟩ | ⟨_, hlt⟩
      · rw [hs] at he; cases he
      · rw [hs] at hlt; exact hlt)
    (fun s => (call_cases cfg s).1) st n

theorem json_runsTo (cfg : JSONTargets.Cfg) : ∀ (n : Nat) (src : Bytes), src.length ≤ n →
    ∃ ts e s', RunsTo (JSONTargets.call cfg) src ts e s' ∧ ts.length ≤ n :=
  fun n src => runsTo_of_measure (JSONTargets.call cfg) List.length
    (fun s t s' hs => by
      unfold JSONTargets.call at hs
      split at hs
      · cases hs
      · rename_i hp
        obtain ⟨_, rfl⟩ := Prod.mk.inj hs
        exact popLine_length _ _ _ _ hp)
    (fun s => by
      unfold JSONTargets.call
      split
      · simp
      · exact finish_ne_panic cfg _) src n

end readall

end Vegeta.Proofs.TargeterLaws
