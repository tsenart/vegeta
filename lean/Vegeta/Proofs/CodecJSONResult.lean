/-
The JSON result codec, one record: what the generated encoder (`MarshalEasyJSON` + newline) writes
for a result of the JSON domain is read back by the generated decoder (`UnmarshalEasyJSON` over the
jlexer token layer) as exactly that result.  The RFC 3339 layer enters as the hypothesis `TimeOK`.
-/
import Vegeta.Proofs.CodecDomain
import Vegeta.Proofs.CodecDecimal
import Vegeta.Proofs.CodecBase64
import Vegeta.Proofs.CodecJSONString
import Vegeta.Proofs.ResultKit
namespace Vegeta.Proofs.Codec
open Vegeta.Go Vegeta.Model.Codec

/-- what the RFC 3339 layer provides for the timestamp `ts` shown in zone `offMin` -/
def TimeOK (ts offMin : Int) : Prop :=
  ∃ b, timeMarshalJSON ts offMin = some (34 :: (b ++ [34])) ∧ timeUnmarshalJSON (34 :: (b ++ [34])) = .ok ts ∧
    ∀ c ∈ b, 32 ≤ c ∧ c < 128 ∧ c ≠ 34 ∧ c ≠ 92

theorem next_comma (s : Bytes) (fe : Bool) :
    Lex.next ⟨44 :: s, 44, fe⟩ = Lex.next ⟨s, 0, fe⟩ := by
  simp [Lex.next, fetchToken]

theorem next_colon (s : Bytes) (fe : Bool) :
    Lex.next ⟨58 :: s, 58, fe⟩ = Lex.next ⟨s, 0, fe⟩ := by
  simp [Lex.next, fetchToken]

theorem next_str_plain (n rest : Bytes) (fe : Bool) (h : ∀ c ∈ n, c ≠ 34 ∧ c ≠ 92) :
    Lex.next ⟨34 :: (n ++ 34 :: rest), 0, fe⟩ = .ok (.str n, ⟨rest, 0, fe⟩) := by
  simp [Lex.next, fetchToken, fetchString_plain n rest h]

theorem next_jsonString (s rest : Bytes) (fe : Bool) :
    Lex.next ⟨jsonString s ++ rest, 0, fe⟩ = .ok (.str (jsonEscape s), ⟨rest, 0, fe⟩) := by
  simp [Lex.next, jsonString, fetchToken, fetchString_jsonEscape s rest]

theorem fetchNumberP_digits (ds rest : Bytes) (hds : ∀ x ∈ ds, 48 ≤ x ∧ x ≤ 57) :
    ∀ hasE afterE hasDot, fetchNumberP hasE afterE hasDot (ds ++ 44 :: rest) = some (ds, 44 :: rest) := by
  induction ds with
  | nil => intro a b c; simp [fetchNumberP, isDigitB, isTokenEnd]
  | cons d ds ih =>
    intro a b c
    have hd := hds d (by simp)
    have := ih (fun x hx => hds x (by simp [hx])) a false c
    simp [fetchNumberP, isDigitB, hd.1, hd.2, this]

/-- a sign or digit is none of the bytes `fetchToken` dispatches on before it looks for a number -/
theorem numStart {d : Nat} (hd : d = 45 ∨ (48 ≤ d ∧ d ≤ 57)) :
    ¬ (d = 58 ∨ d = 44) ∧ ¬ (d = 32 ∨ d = 9 ∨ d = 13 ∨ d = 10) ∧ ¬ d = 34 ∧ ¬ (d = 123 ∨ d = 91) ∧
    ¬ (d = 125 ∨ d = 93) ∧ (isDigitB d = true ∨ d = 45) := by
  simp only [isDigitB, Bool.and_eq_true, decide_eq_true_eq]
  omega

theorem next_num (d : Nat) (ds rest : Bytes) (fe : Bool) (hd : d = 45 ∨ (48 ≤ d ∧ d ≤ 57))
    (hds : ∀ x ∈ ds, 48 ≤ x ∧ x ≤ 57) :
    Lex.next ⟨d :: (ds ++ 44 :: rest), 0, fe⟩ = .ok (.num (d :: ds), ⟨44 :: rest, 0, fe⟩) := by
  obtain ⟨h1, h2, h3, h4, h5, h6⟩ := numStart hd
  show fetchToken (d :: (ds ++ 44 :: rest)) 0 fe = _
  rw [fetchToken, if_neg h1, if_neg h2, if_neg h3, if_neg h4, if_neg h5, if_pos h6,
    fetchNumberP_digits ds rest hds false false false]
  simp

theorem next_fmtNat (n : Nat) (rest : Bytes) (fe : Bool) :
    Lex.next ⟨fmtNat n ++ 44 :: rest, 0, fe⟩ = .ok (.num (fmtNat n), ⟨44 :: rest, 0, fe⟩) := by
  obtain ⟨d, r, e, hd, hr⟩ := fmtNat_cons n
  rw [e]
  exact next_num d r rest fe (Or.inr hd) hr

theorem next_fmtInt (i : Int) (rest : Bytes) (fe : Bool) :
    Lex.next ⟨fmtInt i ++ 44 :: rest, 0, fe⟩ = .ok (.num (fmtInt i), ⟨44 :: rest, 0, fe⟩) := by
  obtain ⟨d, r, e, hd, hr⟩ := fmtInt_cons i
  rw [e]
  exact next_num d r rest fe hd hr

theorem next_null (c : Nat) (rest : Bytes) (fe : Bool) (hc : isTokenEnd c = true) :
    Lex.next ⟨110 :: 117 :: 108 :: 108 :: c :: rest, 0, fe⟩ = .ok (.null, ⟨c :: rest, 0, fe⟩) := by
  simp [Lex.next, fetchToken, fetchKeyword, hc, isDigitB]

theorem next_open (c : Nat) (rest : Bytes) (fe : Bool) (hc : c = 123 ∨ c = 91) :
    Lex.next ⟨c :: rest, 0, fe⟩ = .ok (.delim c, ⟨rest, 0, true⟩) := by
  rcases hc with rfl | rfl <;> simp [Lex.next, fetchToken]

theorem next_close (c : Nat) (rest : Bytes) (ws : Nat) (fe : Bool) (hc : c = 125 ∨ c = 93)
    (h : fe = true ∨ ws = 44) :
    Lex.next ⟨c :: rest, ws, fe⟩ = .ok (.delim c, ⟨rest, 0, fe⟩) := by
  rcases hc with rfl | rfl <;> rcases h with rfl | rfl <;> simp [Lex.next, fetchToken]

theorem plain_of_no_bs {n : Bytes} (h : ∀ c ∈ n, c ≠ 34 ∧ c ≠ 92) : 92 ∉ n :=
  fun hx => (h 92 hx).2 rfl

theorem lexString_colon (s : Bytes) (fe : Bool) :
    lexString ⟨58 :: s, 58, fe⟩ = lexString ⟨s, 0, fe⟩ := by
  simp only [lexString, next_colon]

theorem lexNumber_colon (s : Bytes) (fe : Bool) :
    lexNumber ⟨58 :: s, 58, fe⟩ = lexNumber ⟨s, 0, fe⟩ := by
  simp only [lexNumber, next_colon]

theorem lexDelim_colon (c : Nat) (s : Bytes) (fe : Bool) :
    lexDelim c ⟨58 :: s, 58, fe⟩ = lexDelim c ⟨s, 0, fe⟩ := by
  simp only [lexDelim, next_colon]

theorem lexRawString_colon (s : Bytes) (fe : Bool) :
    lexRawString ⟨58 :: s, 58, fe⟩ = lexRawString ⟨s, 0, fe⟩ := by
  simp only [lexRawString, next_colon]

theorem lexUint_colon (bits : Nat) (s : Bytes) (fe : Bool) :
    lexUint bits ⟨58 :: s, 58, fe⟩ = lexUint bits ⟨s, 0, fe⟩ := by
  simp only [lexUint, lexNumber_colon]

theorem lexInt_colon (bits : Nat) (s : Bytes) (fe : Bool) :
    lexInt bits ⟨58 :: s, 58, fe⟩ = lexInt bits ⟨s, 0, fe⟩ := by
  simp only [lexInt, lexNumber_colon]

theorem lexBytes_colon (s : Bytes) (fe : Bool) :
    lexBytes ⟨58 :: s, 58, fe⟩ = lexBytes ⟨s, 0, fe⟩ := by
  simp only [lexBytes, lexString_colon]

theorem lexString_jsonString (s rest : Bytes) (fe : Bool) (h : validUTF8 s = true) :
    lexString ⟨jsonString s ++ rest, 0, fe⟩ = .ok (s, ⟨rest, 0, fe⟩) := by
  simp only [lexString, next_jsonString, unescape_jsonEscape s h]

theorem lexString_plain (n rest : Bytes) (fe : Bool) (h : ∀ c ∈ n, c ≠ 34 ∧ c ≠ 92) :
    lexString ⟨34 :: (n ++ 34 :: rest), 0, fe⟩ = .ok (n, ⟨rest, 0, fe⟩) := by
  simp only [lexString, next_str_plain n rest fe h, unescape_plain n (plain_of_no_bs h)]

theorem lexUint_fmtNat (bits n : Nat) (rest : Bytes) (fe : Bool) (hb : bits ≤ 64) (h : n < 2 ^ bits) :
    lexUint bits ⟨fmtNat n ++ 44 :: rest, 0, fe⟩ = .ok (n, ⟨44 :: rest, 0, fe⟩) := by
  simp only [lexUint, lexNumber, next_fmtNat, ok_bind, parseUint_fmtNat bits n hb h, pure_eq_ok]

theorem lexInt_fmtInt (i : Int) (rest : Bytes) (fe : Bool) (h : inS64 i) :
    lexInt 64 ⟨fmtInt i ++ 44 :: rest, 0, fe⟩ = .ok (i, ⟨44 :: rest, 0, fe⟩) := by
  simp only [lexInt, lexNumber, next_fmtInt, ok_bind, parseInt_fmtInt i h, pure_eq_ok]

theorem lexBytes_body (b rest : Bytes) (fe : Bool) (h : ∀ x ∈ b, x < 256) :
    lexBytes ⟨jsonBody (some b) ++ rest, 0, fe⟩ = .ok (b, ⟨rest, 0, fe⟩) := by
  have e : jsonBody (some b) ++ rest = 34 :: (b64Encode b ++ 34 :: rest) := by
    simp [jsonBody]
  simp only [lexBytes, e, lexString_plain _ rest fe (b64Encode_plain b), ok_bind, b64Decode_b64Encode b h,
    pure_eq_ok]

theorem lexRawString_plain (n rest : Bytes) (fe : Bool) (h : ∀ c ∈ n, c ≠ 34 ∧ c ≠ 92) :
    lexRawString ⟨34 :: (n ++ [34]) ++ rest, 0, fe⟩ = .ok (34 :: (n ++ [34]), ⟨rest, 0, fe⟩) := by
  have e : 34 :: (n ++ [34]) ++ rest = 34 :: (n ++ 34 :: rest) := by simp
  simp only [lexRawString, e, next_str_plain n rest fe h]

/-- what is left of a written array or object after an element: `,x` per further element (`f x` its text), then the
closing byte -/
def sepTail {α : Type} (f : α → Bytes) (close : Nat) : List α → Bytes → Bytes
  | [], tail => close :: tail
  | x :: xs, tail => 44 :: (f x ++ sepTail f close xs tail)

abbrev arrTail := sepTail jsonString 93
abbrev objTail := sepTail jsonHeaderEntry 125

theorem commaJoin_sepTail {α : Type} (f : α → Bytes) (close : Nat) (x : α) (xs : List α) (tail : Bytes) :
    commaJoin ((x :: xs).map f) ++ close :: tail = f x ++ sepTail f close xs tail := by
  induction xs generalizing x with
  | nil => simp [commaJoin, sepTail]
  | cons w ws ih =>
    have := ih w
    simp only [List.map_cons] at this ⊢
    simp only [commaJoin, sepTail, List.append_assoc, List.cons_append, this]

theorem sepTail_length {α : Type} (f : α → Bytes) (close : Nat) (xs : List α) (tail : Bytes) :
    xs.length + 1 ≤ (sepTail f close xs tail).length := by
  induction xs with
  | nil => simp [sepTail]
  | cons v vs ih => simp [sepTail]; omega

theorem parseStrArray_tail (vs : List Bytes) (tail : Bytes) (hv : ∀ v ∈ vs, validUTF8 v = true) :
    ∀ fuel acc, vs.length < fuel →
      parseStrArray fuel ⟨arrTail vs tail, 44, false⟩ acc = .ok (acc.reverse ++ vs, ⟨tail, 0, false⟩) := by
  induction vs with
  | nil =>
    intro fuel acc hf
    cases fuel with
    | zero => omega
    | succ f =>
      simp only [parseStrArray, sepTail, next_close 93 tail 44 false (Or.inr rfl) (Or.inr rfl), ok_bind,
        if_true, pure_eq_ok, List.append_nil]
  | cons v vs ih =>
    intro fuel acc hf
    cases fuel with
    | zero => omega
    | succ f =>
      have hv1 := hv v (by simp)
      have ih' := ih (fun x hx => hv x (by simp [hx])) f (v :: acc) (by simp at hf; omega)
      have hne : ¬ (Tok.str (jsonEscape v) = Tok.delim 93) := nofun
      simp only [parseStrArray, sepTail, next_comma, next_jsonString, ok_bind, hne, if_false,
        lexString, unescape_jsonEscape v hv1, Lex.wantComma, ih']
      simp

/-- `[` has been read: the whole non-empty array -/
theorem parseStrArray_first (v : Bytes) (vs : List Bytes) (tail : Bytes)
    (hv : ∀ x ∈ v :: vs, validUTF8 x = true) (fuel : Nat) (hf : vs.length + 1 < fuel) :
    parseStrArray fuel ⟨jsonString v ++ arrTail vs tail, 0, true⟩ [] = .ok (v :: vs, ⟨tail, 0, false⟩) := by
  cases fuel with
  | zero => omega
  | succ f =>
    have hv1 := hv v (by simp)
    have ih' := parseStrArray_tail vs tail (fun x hx => hv x (by simp [hx])) f [v] (by omega)
    have hne : ¬ (Tok.str (jsonEscape v) = Tok.delim 93) := nofun
    simp only [parseStrArray, next_jsonString, ok_bind, hne, if_false,
      lexString, unescape_jsonEscape v hv1, Lex.wantComma, ih']
    simp

/-- the value part of a header entry -/
def hdrValue (vs : List Bytes) : Bytes :=
  if vs.isEmpty then [110, 117, 108, 108] else 91 :: (commaJoin (vs.map jsonString) ++ [93])

theorem jsonHeaderEntry_append (kv : Bytes × List Bytes) (T : Bytes) :
    jsonHeaderEntry kv ++ T = jsonString kv.1 ++ 58 :: (hdrValue kv.2 ++ T) := by
  simp [jsonHeaderEntry, hdrValue]

theorem objTail_head (h : Header) (tail : Bytes) :
    ∃ c T, objTail h tail = c :: T ∧ (c = 44 ∨ c = 125) := by
  cases h with
  | nil => exact ⟨125, tail, rfl, Or.inr rfl⟩
  | cons kv h => exact ⟨44, _, rfl, Or.inl rfl⟩

/-- one entry of the header object, from the state `l` whose next token is the written key -/
theorem parseHeaderObj_entry (l : Lex) (k : Bytes) (vs : List Bytes) (c : Nat) (T : Bytes) (fe' : Bool)
    (m : Header) (f : Nat) (hc : c = 44 ∨ c = 125)
    (hkv : validUTF8 k = true) (hvs : ∀ v ∈ vs, validUTF8 v = true)
    (hk : l.next = .ok (.str (jsonEscape k), ⟨58 :: (hdrValue vs ++ c :: T), 0, fe'⟩)) :
    parseHeaderObj (f + 1) l m = parseHeaderObj f ⟨c :: T, 44, false⟩ (headerSet k vs m) := by
  have hne : ¬ (Tok.str (jsonEscape k) = Tok.delim 125) := nofun
  have hte : isTokenEnd c = true := by rcases hc with rfl | rfl <;> decide
  cases vs with
  | nil =>
    simp only [parseHeaderObj, hk, ok_bind, hne, if_false, lexString, unescape_jsonEscape k hkv,
      Lex.wantColon, next_colon, hdrValue, List.isEmpty_nil, if_true, List.cons_append, List.nil_append,
      next_null c T false hte, Lex.wantComma]
  | cons v vs =>
    have e : hdrValue (v :: vs) ++ c :: T = 91 :: (jsonString v ++ arrTail vs (c :: T)) := by
      rw [← commaJoin_sepTail jsonString 93]
      simp [hdrValue]
    have hn2 : ¬ (Tok.delim 91 = Tok.null) := nofun
    have hfuel : vs.length + 1 < (jsonString v ++ arrTail vs (c :: T)).length + 1 := by
      have : vs.length + 1 ≤ (arrTail vs (c :: T)).length := sepTail_length _ _ vs _
      simp only [List.length_append]; omega
    simp only [parseHeaderObj, hk, ok_bind, hne, if_false, lexString, unescape_jsonEscape k hkv,
      Lex.wantColon, next_colon, e, next_open 91 _ false (Or.inr rfl), hn2, lexDelim,
      if_true, parseStrArray_first v vs (c :: T) hvs _ hfuel, Lex.wantComma]

theorem parseHeaderObj_tail (h : Header) (tail : Bytes)
    (hv : ∀ kv ∈ h, validUTF8 kv.1 = true ∧ ∀ v ∈ kv.2, validUTF8 v = true) :
    ∀ fuel m, h.length < fuel → ((m ++ h).map (·.1)).Nodup →
      parseHeaderObj fuel ⟨objTail h tail, 44, false⟩ m = .ok (m ++ h, ⟨tail, 0, false⟩) := by
  induction h with
  | nil =>
    intro fuel m hf _
    cases fuel with
    | zero => omega
    | succ f =>
      simp only [parseHeaderObj, sepTail, next_close 125 tail 44 false (Or.inl rfl) (Or.inr rfl), ok_bind,
        if_true, pure_eq_ok, List.append_nil]
  | cons kv h ih =>
    intro fuel m hf hnd
    cases fuel with
    | zero => omega
    | succ f =>
      obtain ⟨c, T, eT, hc⟩ := objTail_head h tail
      have hkv := hv kv (by simp)
      have hk : Lex.next ⟨objTail (kv :: h) tail, 44, false⟩ =
          .ok (.str (jsonEscape kv.1), ⟨58 :: (hdrValue kv.2 ++ c :: T), 0, false⟩) := by
        simp only [sepTail, next_comma, jsonHeaderEntry_append, next_jsonString, eT]
      rw [parseHeaderObj_entry _ kv.1 kv.2 c T false m f hc hkv.1 hkv.2 hk, ← eT]
      rw [headerSet_new _ _ _ (key_fresh hnd)]
      have := ih (fun x hx => hv x (by simp [hx])) f (m ++ [kv]) (by simp at hf; omega)
        (by simpa [List.append_assoc] using hnd)
      simpa [List.append_assoc] using this

/-- `{` has been read: the whole object -/
theorem parseHeaderObj_all (h : Header) (tail : Bytes)
    (hv : ∀ kv ∈ h, validUTF8 kv.1 = true ∧ ∀ v ∈ kv.2, validUTF8 v = true)
    (hnd : (h.map (·.1)).Nodup) :
    ∃ fe, parseHeaderObj ((commaJoin (h.map jsonHeaderEntry) ++ 125 :: tail).length + 1)
      ⟨commaJoin (h.map jsonHeaderEntry) ++ 125 :: tail, 0, true⟩ [] = .ok (h, ⟨tail, 0, fe⟩) := by
  cases h with
  | nil =>
    refine ⟨true, ?_⟩
    simp only [List.map_nil, commaJoin, List.nil_append, parseHeaderObj,
      next_close 125 tail 0 true (Or.inl rfl) (Or.inl rfl), ok_bind, if_true, pure_eq_ok]
  | cons kv h =>
    refine ⟨false, ?_⟩
    rw [commaJoin_sepTail jsonHeaderEntry 125]
    obtain ⟨c, T, eT, hc⟩ := objTail_head h tail
    have hkv := hv kv (by simp)
    have hk : Lex.next ⟨jsonHeaderEntry kv ++ objTail h tail, 0, true⟩ =
        .ok (.str (jsonEscape kv.1), ⟨58 :: (hdrValue kv.2 ++ c :: T), 0, true⟩) := by
      simp only [jsonHeaderEntry_append, next_jsonString, eT]
    rw [parseHeaderObj_entry _ kv.1 kv.2 c T true [] _ hc hkv.1 hkv.2 hk, ← eT]
    have hlen : h.length + 1 ≤ (objTail h tail).length := sepTail_length _ _ h tail
    have := parseHeaderObj_tail h tail (fun x hx => hv x (by simp [hx]))
      ((jsonHeaderEntry kv ++ objTail h tail).length) [kv]
      (by simp only [List.length_append]; omega) (by simpa using hnd)
    simpa [headerSet] using this

/-- a quoted member name and its colon -/
def K (n : Bytes) : Bytes := 34 :: (n ++ [34, 58])

theorem next_K (n rest : Bytes) (fe : Bool) (hn : ∀ c ∈ n, c ≠ 34 ∧ c ≠ 92) :
    Lex.next ⟨K n ++ rest, 0, fe⟩ = .ok (.str n, ⟨58 :: rest, 0, fe⟩) := by
  have e : K n ++ rest = 34 :: (n ++ 34 :: 58 :: rest) := by simp [K]
  rw [e, next_str_plain n _ fe hn]

theorem next_cK (n rest : Bytes) (hn : ∀ c ∈ n, c ≠ 34 ∧ c ≠ 92) :
    Lex.next ⟨44 :: (K n ++ rest), 44, false⟩ = .ok (.str n, ⟨58 :: rest, 0, false⟩) := by
  rw [next_comma, next_K n rest false hn]

/-- a member whose value is not `null`: key, colon, value, and on to the next turn -/
theorem members_step (f : Nat) (l : Lex) (r : Result) (n vt : Bytes) (fe' : Bool)
    (hn : ∀ c ∈ n, c ≠ 34 ∧ c ≠ 92)
    (hk : l.next = .ok (.str n, ⟨58 :: vt, 0, fe'⟩))
    (t2 : Tok) (l3 : Lex) (hv : Lex.next ⟨vt, 0, false⟩ = .ok (t2, l3)) (hnn : ¬ t2 = .null)
    (r' : Result) (tail : Bytes) (fe2 : Bool)
    (hm : parseMember n ⟨58 :: vt, 58, false⟩ r = .ok (r', ⟨tail, 0, fe2⟩)) :
    parseMembers (f + 1) l r = parseMembers f ⟨tail, 44, false⟩ r' := by
  have hne : ¬ (Tok.str n = Tok.delim 125) := nofun
  simp only [parseMembers, hk, ok_bind, hne, if_false, lexString, unescape_plain n (plain_of_no_bs hn),
    Lex.wantColon, next_colon, hv, hnn, hm, Lex.wantComma]

/-- a member whose value is `null` is left as it is -/
theorem members_step_null (f : Nat) (l : Lex) (r : Result) (n tail : Bytes) (c : Nat) (fe' : Bool)
    (hn : ∀ c ∈ n, c ≠ 34 ∧ c ≠ 92) (hc : isTokenEnd c = true)
    (hk : l.next = .ok (.str n, ⟨58 :: 110 :: 117 :: 108 :: 108 :: c :: tail, 0, fe'⟩)) :
    parseMembers (f + 1) l r = parseMembers f ⟨c :: tail, 44, false⟩ r := by
  have hne : ¬ (Tok.str n = Tok.delim 125) := nofun
  simp only [parseMembers, hk, ok_bind, hne, if_false, lexString, unescape_plain n (plain_of_no_bs hn),
    Lex.wantColon, next_colon, next_null c tail false hc, if_true, Lex.wantComma]

theorem members_end (f : Nat) (rest : Bytes) (r : Result) :
    parseMembers (f + 1) ⟨125 :: rest, 44, false⟩ r = .ok (r, ⟨rest, 0, false⟩) := by
  simp only [parseMembers, next_close 125 rest 44 false (Or.inl rfl) (Or.inr rfl), ok_bind, if_true, pure_eq_ok]

/-! One lemma per kind of value. `hpm` says what `parseMember` does on the name `n`; at the uses it is `rfl`
(the chain of name comparisons is evaluated). -/

/-- a string member after the first: `,"n":"…"` -/
theorem step_string (n : Bytes) (set : Bytes → Result → Result) (hn : ∀ c ∈ n, c ≠ 34 ∧ c ≠ 92)
    (hpm : ∀ l r, parseMember n l r = (do let (s, l') ← lexString l; pure (set s r, l')))
    (f : Nat) (s tail : Bytes) (r : Result) (hs : validUTF8 s = true) :
    parseMembers (f + 1) ⟨44 :: (K n ++ (jsonString s ++ tail)), 44, false⟩ r =
      parseMembers f ⟨tail, 44, false⟩ (set s r) :=
  members_step f _ r n _ false hn (next_cK n _ hn) _ _ (next_jsonString s tail false) nofun _ tail false
    (by rw [hpm, lexString_colon, lexString_jsonString s tail false hs]; rfl)

/-- an unsigned member of `bits` bits: `,"n":123` -/
theorem step_uint (bits : Nat) (hb : bits ≤ 64) (n : Bytes) (set : Nat → Result → Result)
    (hn : ∀ c ∈ n, c ≠ 34 ∧ c ≠ 92)
    (hpm : ∀ l r, parseMember n l r = (do let (m, l') ← lexUint bits l; pure (set m r, l')))
    (f m : Nat) (t : Bytes) (r : Result) (h : m < 2 ^ bits) :
    parseMembers (f + 1) ⟨44 :: (K n ++ (fmtNat m ++ 44 :: t)), 44, false⟩ r =
      parseMembers f ⟨44 :: t, 44, false⟩ (set m r) :=
  members_step f _ r n _ false hn (next_cK n _ hn) _ _ (next_fmtNat m t false) nofun _ _ false
    (by rw [hpm, lexUint_colon, lexUint_fmtNat bits m t false hb h]; rfl)

/-- the first member -/
theorem step_attack (f : Nat) (s tail : Bytes) (r : Result) (hs : validUTF8 s = true) :
    parseMembers (f + 1) ⟨K nAttack ++ (jsonString s ++ tail), 0, true⟩ r =
      parseMembers f ⟨tail, 44, false⟩ { r with attack := s } :=
  members_step f _ r nAttack _ true (by decide) (next_K nAttack _ true (by decide)) _ _
    (next_jsonString s tail false) nofun _ tail false
    (by
      show (do let (s, l') ← lexString _; pure ({ r with attack := s }, l')) = _
      rw [lexString_colon, lexString_jsonString s tail false hs]; rfl)

theorem step_timestamp (f : Nat) (b tail : Bytes) (ts : Int) (r : Result) (hb : ∀ c ∈ b, c ≠ 34 ∧ c ≠ 92)
    (ht : timeUnmarshalJSON (34 :: (b ++ [34])) = .ok ts) :
    parseMembers (f + 1) ⟨44 :: (K nTimestamp ++ (34 :: (b ++ [34]) ++ tail)), 44, false⟩ r =
      parseMembers f ⟨tail, 44, false⟩ { r with timestamp := ts } := by
  have e : 34 :: (b ++ [34]) ++ tail = 34 :: (b ++ 34 :: tail) := by simp
  refine members_step f _ r nTimestamp _ false (by decide) (next_cK nTimestamp _ (by decide))
    (.str b) ⟨tail, 0, false⟩ (by rw [e]; exact next_str_plain b tail false hb) nofun _ tail false ?_
  show (do
    let (raw, l') ← lexRawString _
    let t ← timeUnmarshalJSON raw
    pure ({ r with timestamp := t }, l')) = _
  rw [lexRawString_colon, lexRawString_plain b tail false hb]
  simp only [ok_bind, ht, pure_eq_ok]

theorem step_latency (f : Nat) (i : Int) (t : Bytes) (r : Result) (h : inS64 i) :
    parseMembers (f + 1) ⟨44 :: (K nLatency ++ (fmtInt i ++ 44 :: t)), 44, false⟩ r =
      parseMembers f ⟨44 :: t, 44, false⟩ { r with latency := i } :=
  members_step f _ r nLatency _ false (by decide) (next_cK nLatency _ (by decide)) _ _
    (next_fmtInt i t false) nofun _ _ false
    (by
      show (do let (n, l') ← lexInt 64 _; pure ({ r with latency := n }, l')) = _
      rw [lexInt_colon, lexInt_fmtInt i t false h]; rfl)

/-- the `body` member: `null` leaves the field as it is -/
def withBody (ob : Option Bytes) (r : Result) : Result :=
  match ob with
  | none => r
  | some b => { r with body := some b }

theorem step_body (f : Nat) (ob : Option Bytes) (t : Bytes) (r : Result)
    (h : ∀ b, ob = some b → ∀ x ∈ b, x < 256) :
    parseMembers (f + 1) ⟨44 :: (K nBody ++ (jsonBody ob ++ 44 :: t)), 44, false⟩ r =
      parseMembers f ⟨44 :: t, 44, false⟩ (withBody ob r) := by
  cases ob with
  | none => exact members_step_null f _ r nBody t 44 false (by decide) (by decide) (next_cK nBody _ (by decide))
  | some b =>
    have e : jsonBody (some b) ++ 44 :: t = 34 :: (b64Encode b ++ 34 :: 44 :: t) := by simp [jsonBody]
    refine members_step f _ r nBody _ false (by decide) (next_cK nBody _ (by decide))
      (.str (b64Encode b)) ⟨44 :: t, 0, false⟩ (by rw [e]; exact next_str_plain _ _ false (b64Encode_plain b)) nofun
      _ _ false ?_
    show (do let (b, l') ← lexBytes _; pure ({ r with body := some b }, l')) = _
    rw [lexBytes_colon, lexBytes_body b (44 :: t) false (h b rfl)]; rfl

/-- the `headers` member: `null` leaves the field as it is -/
def withHeaders (oh : Option Header) (r : Result) : Result :=
  match oh with
  | none => r
  | some h => { r with headers := some h }

theorem step_headers (f : Nat) (oh : Option Header) (t : Bytes) (r : Result)
    (hh : ∀ h, oh = some h → (h.map (·.1)).Nodup ∧
      ∀ kv ∈ h, validUTF8 kv.1 = true ∧ ∀ v ∈ kv.2, validUTF8 v = true) :
    parseMembers (f + 1) ⟨44 :: (K nHeaders ++ (jsonHeaders oh ++ 125 :: t)), 44, false⟩ r =
      parseMembers f ⟨125 :: t, 44, false⟩ (withHeaders oh r) := by
  cases oh with
  | none =>
    exact members_step_null f _ r nHeaders t 125 false (by decide) (by decide) (next_cK nHeaders _ (by decide))
  | some h =>
    obtain ⟨fe, hfe⟩ := parseHeaderObj_all h (125 :: t) (hh h rfl).2 (hh h rfl).1
    have e : jsonHeaders (some h) ++ 125 :: t = 123 :: (commaJoin (h.map jsonHeaderEntry) ++ 125 :: 125 :: t) := by
      simp [jsonHeaders]
    rw [e]
    refine members_step f _ r nHeaders _ false (by decide) (next_cK nHeaders _ (by decide))
      (.delim 123) _ (next_open 123 _ false (Or.inl rfl)) nofun _ _ fe ?_
    show (do
      let l1 ← lexDelim 123 _
      let (h, l') ← parseHeaderObj (l1.rest.length + 1) l1 []
      pure ({ r with headers := some h }, l')) = _
    rw [lexDelim_colon]
    simp only [lexDelim, next_open 123 _ false (Or.inl rfl), ok_bind, if_true, hfe, pure_eq_ok]
    rfl

/-- the members of the written object in right-nested form, `ts` being the written timestamp -/
def lineBody (r : Result) (ts : Bytes) : Bytes :=
  K nAttack ++ (jsonString r.attack ++ (44 :: (K nSeq ++ (fmtNat r.seq ++ (44 :: (K nCode ++ (fmtNat r.code ++
  (44 :: (K nTimestamp ++ (ts ++ (44 :: (K nLatency ++ (fmtInt r.latency ++ (44 :: (K nBytesOut ++
  (fmtNat r.bytesOut ++ (44 :: (K nBytesIn ++ (fmtNat r.bytesIn ++ (44 :: (K nError ++ (jsonString r.error ++
  (44 :: (K nBody ++ (jsonBody r.body ++ (44 :: (K nMethod ++ (jsonString r.method ++ (44 :: (K nURL ++
  (jsonString r.url ++ (44 :: (K nHeaders ++ (jsonHeaders r.headers ++ [125, 10]
  ))))))))))))))))))))))))))))))))))

theorem encodeJSON_shape (offMin : Int) (r : Result) (ts : Bytes)
    (h : timeMarshalJSON r.timestamp offMin = some ts) :
    encodeJSON offMin r = some (123 :: lineBody r ts) := by
  have e1 : kAttack = K nAttack := rfl
  have e2 : kSeq = 44 :: K nSeq := rfl
  have e3 : kCode = 44 :: K nCode := rfl
  have e4 : kTimestamp = 44 :: K nTimestamp := rfl
  have e5 : kLatency = 44 :: K nLatency := rfl
  have e6 : kBytesOut = 44 :: K nBytesOut := rfl
  have e7 : kBytesIn = 44 :: K nBytesIn := rfl
  have e8 : kError = 44 :: K nError := rfl
  have e9 : kBody = 44 :: K nBody := rfl
  have e10 : kMethod = 44 :: K nMethod := rfl
  have e11 : kURL = 44 :: K nURL := rfl
  have e12 : kHeaders = 44 :: K nHeaders := rfl
  simp only [encodeJSON, h, lineBody, e1, e2, e3, e4, e5, e6, e7, e8, e9, e10, e11, e12,
    List.append_assoc, List.cons_append]

/-- the first member alone makes the line long enough to fuel the twelve turns of the member loop -/
theorem lineBody_length (r : Result) (ts : Bytes) : 12 ≤ (123 :: lineBody r ts).length := by
  have h : ∀ rest : Bytes, 12 ≤ (123 :: (K nAttack ++ (jsonString r.attack ++ (44 :: rest)))).length := by
    intro rest
    simp only [K, nAttack, jsonString, List.length_cons, List.length_append]
    omega
  exact h _

theorem parseMembers_lineBody (r : Result) (hr : ReprJSONResult r) (b : Bytes)
    (hb : ∀ c ∈ b, c ≠ 34 ∧ c ≠ 92) (ht : timeUnmarshalJSON (34 :: (b ++ [34])) = .ok r.timestamp) (k : Nat) :
    parseMembers (k + 13) ⟨lineBody r (34 :: (b ++ [34])), 0, true⟩ {} = .ok (r, ⟨[10], 0, false⟩) := by
  unfold lineBody
  rw [step_attack _ _ _ _ hr.attack,
    step_uint 64 (by decide) nSeq (fun m a => { a with seq := m }) (by decide) (fun _ _ => rfl) _ _ _ _ hr.num.seq,
    step_uint 16 (by decide) nCode (fun m a => { a with code := m }) (by decide) (fun _ _ => rfl) _ _ _ _ hr.num.code,
    step_timestamp _ _ _ _ _ hb ht, step_latency _ _ _ _ hr.num.latency,
    step_uint 64 (by decide) nBytesOut (fun m a => { a with bytesOut := m }) (by decide) (fun _ _ => rfl) _ _ _ _
      hr.num.bytesOut,
    step_uint 64 (by decide) nBytesIn (fun m a => { a with bytesIn := m }) (by decide) (fun _ _ => rfl) _ _ _ _
      hr.num.bytesIn,
    step_string nError (fun s a => { a with error := s }) (by decide) (fun _ _ => rfl) _ _ _ _ hr.error,
    step_body _ _ _ _ hr.body,
    step_string nMethod (fun s a => { a with method := s }) (by decide) (fun _ _ => rfl) _ _ _ _ hr.method,
    step_string nURL (fun s a => { a with url := s }) (by decide) (fun _ _ => rfl) _ _ _ _ hr.url,
    step_headers _ _ _ _ hr.headers, members_end]
  rcases r with ⟨a, s, c, t, l, bo, bi, e, body, m, u, hd⟩
  cases body <;> cases hd <;> rfl

/-- **JSON round trip of one record**: for every result of the JSON domain, in any zone, the encoder
produces a line and the decoder (into a zero `Result`) returns exactly the result -/
theorem decodeJSONLine_encodeJSON (offMin : Int) (r : Result) (hr : ReprJSONResult r)
    (ht : TimeOK r.timestamp offMin) :
    ∃ b, encodeJSON offMin r = some b ∧ decodeJSONLine b = .ok r := by
  obtain ⟨b, hm, hu, hb⟩ := ht
  refine ⟨_, encodeJSON_shape offMin r _ hm, ?_⟩
  obtain ⟨k, hk⟩ : ∃ k, (123 :: lineBody r (34 :: (b ++ [34]))).length + 1 = k + 13 :=
    ⟨(123 :: lineBody r (34 :: (b ++ [34]))).length - 12, by have := lineBody_length r (34 :: (b ++ [34])); omega⟩
  have hp := parseMembers_lineBody r hr b (fun c hc => ⟨(hb c hc).2.2.1, (hb c hc).2.2.2⟩) hu k
  simp only [decodeJSONLine, next_open 123 _ false (Or.inl rfl), ok_bind, reduceCtorEq, if_false, lexDelim,
    if_true, hk, hp]
  rfl

/-- attack `a"\n<é`, body `[1,2,3]`, url `http://a/?q=&`, headers `{"X-A":["1","b c"],"K":null}`;
in zone +01:00 the line is
`{"attack":"a\"\n<é","seq":7,"code":200,"timestamp":"2023-11-14T23:13:20.123456789+01:00","latency":1500000,`
`"bytes_out":3,"bytes_in":42,"error":"","body":"AQID","method":"GET","url":"http://a/?q=&",`
`"headers":{"X-A":["1","b c"],"K":null}}` and a newline -/
def jsonExampleResult : Result :=
  { attack := [97, 34, 10, 60, 0xC3, 0xA9], seq := 7, code := 200, timestamp := 1700000000123456789,
    latency := 1500000, bytesOut := 3, bytesIn := 42, error := [], body := some [1, 2, 3],
    method := [71, 69, 84], url := [104, 116, 116, 112, 58, 47, 47, 97, 47, 63, 113, 61, 38],
    headers := some [([88, 45, 65], [[49], [98, 32, 99]]), ([75], [])] }

theorem jsonExampleResult_repr : ReprJSONResult jsonExampleResult where
  num := { seq := by decide +kernel, code := by decide +kernel, ts0 := by decide +kernel, ts1 := by decide +kernel, latency := by decide +kernel,
           bytesOut := by decide +kernel, bytesIn := by decide +kernel }
  attack := by decide +kernel
  error := by decide +kernel
  method := by decide +kernel
  url := by decide +kernel
  body := by intro b hb; cases hb; decide +kernel
  headers := by intro h hh; cases hh; decide +kernel

-- the timestamp hypothesis holds for it in zone +01:00 (`2023-11-14T23:13:20.123456789+01:00`)
theorem jsonExampleResult_time : TimeOK jsonExampleResult.timestamp 60 :=
  ⟨[50, 48, 50, 51, 45, 49, 49, 45, 49, 52, 84, 50, 51, 58, 49, 51, 58, 50, 48, 46, 49, 50, 51, 52, 53, 54, 55,
    56, 57, 43, 48, 49, 58, 48, 48], by decide +kernel, by decide +kernel, by decide +kernel⟩

-- the theorem applies …
example : ∃ b, encodeJSON 60 jsonExampleResult = some b ∧ decodeJSONLine b = .ok jsonExampleResult :=
  decodeJSONLine_encodeJSON 60 jsonExampleResult jsonExampleResult_repr jsonExampleResult_time

-- … and agrees with running the model
set_option maxRecDepth 100000 in
example : (encodeJSON 60 jsonExampleResult).map decodeJSONLine = some (.ok jsonExampleResult) := by decide +kernel

-- the zero `Result` (nil body, nil headers: both written as `null` and skipped by the decoder), in UTC
set_option maxRecDepth 100000 in
example : (encodeJSON 0 {}).map decodeJSONLine = some (.ok {}) := by decide +kernel

-- an empty, non-nil header map is written as `{}` and comes back as an empty non-nil map
set_option maxRecDepth 100000 in
example : (encodeJSON 0 { headers := some [] }).map decodeJSONLine = some (.ok { headers := some [] }) := by
  decide +kernel

-- outside the domain: a duplicate key collapses (the later value wins), so the line does not round-trip
set_option maxRecDepth 100000 in
example : (encodeJSON 0 { headers := some [([75], [[49]]), ([75], [[50]])] }).map decodeJSONLine =
    some (.ok { headers := some [([75], [[50]])] }) := by decide +kernel

-- outside the domain: invalid UTF-8 in a text comes back as U+FFFD
set_option maxRecDepth 100000 in
example : (encodeJSON 0 { error := [0xFF] }).map decodeJSONLine = some (.ok { error := [0xEF, 0xBF, 0xBD] }) := by
  decide +kernel

end Vegeta.Proofs.Codec
