/-
C08, transcoding chains for the *modelled* codecs: `chain_preserves` instantiated with the gob, CSV and
JSON result codecs of C07 (Model/GobValue.lean, Model/CodecResult.lean), so that no codec hypothesis is
left — for chains over {gob, csv, json} on the domain `ReprAll`, and for the sub-family {csv, json} on the
larger domain `ReprBoth` (without gob's size clause).
-/
import Vegeta.Proofs.Chain
import Vegeta.Props.C07
namespace Vegeta.Props.C08
open Vegeta.Go Vegeta.Model.DecoderFor Vegeta.Model.Codec Vegeta.Proofs.Codec
open Vegeta.Model.GobFrame Vegeta.Model.GobValue Vegeta.Proofs.Gob

/-- a zone offset `MarshalJSON` can print: whole minutes, less than a day -/
abbrev JZone := { z : Int // z.natAbs < 1440 }

/-- the modelled formats: CSV, and JSON written with the `time.Time`s in a given zone (a JSON step
may use a different zone each time: after a CSV step the times are local, after a JSON step they
carry the offset that was read) -/
inductive Fmt where
  | csv : Fmt
  | json : JZone → Fmt

/-- all `Decode` calls on a stream in the given format: the results and how the stream ended -/
def decodeStream : Fmt → Bytes → List Result × Term
  | .csv, s => decodeCSV s
  | .json _, s => decodeJSON s

/-- The codec family of the model.  A stream is `none` when an encoder failed; decoding succeeds
(`some out`) only if every `Decode` call up to the end of the stream succeeded and the stream ended
with `io.EOF`. -/
def resultCodecs : Codecs Fmt Result (Option Bytes) where
  enc f rs := match f with
    | .csv => some (encodeCSVAll rs)
    | .json z => encodeJSONAll z.val rs
  dec f s := match s with
    | none => none
    | some b => match decodeStream f b with
      | (out, .eof) => some out
      | (_, .err) => none

/-- the common domain of both codecs -/
def ReprBoth (r : Result) : Prop := ReprCSVResult r ∧ ReprJSONResult r

/-- header maps equal as maps: both nil, or the same entries in some order -/
def HdrEqv : Option Header → Option Header → Prop
  | none, none => True
  | some h1, some h2 => h1.Perm h2
  | _, _ => False

/-- the equivalence along a chain: every field equal, bodies equal as byte strings (nil ≡ empty),
headers equal as maps.  On the domain it implies `Result.Equal` (`aux_resEqv_equal`; for at most two
decoders directly: `decodedBy_equal`, Proofs/EqualLaws.lean). -/
def ResEqv (a b : Result) : Prop :=
  a.attack = b.attack ∧ a.seq = b.seq ∧ a.code = b.code ∧ a.timestamp = b.timestamp ∧
  a.latency = b.latency ∧ a.bytesOut = b.bytesOut ∧ a.bytesIn = b.bytesIn ∧ a.error = b.error ∧
  a.body.getD [] = b.body.getD [] ∧ a.method = b.method ∧ a.url = b.url ∧ HdrEqv a.headers b.headers

theorem aux_hdrEqv_refl (h : Option Header) : HdrEqv h h := by
  cases h with
  | none => trivial
  | some h => exact List.Perm.refl h

theorem aux_hdrEqv_trans (a b c : Option Header) (h1 : HdrEqv a b) (h2 : HdrEqv b c) : HdrEqv a c := by
  -- eight nil/non-nil cases: a false hypothesis, the goal `True`, or `Perm.trans`
  cases a <;> cases b <;> cases c <;> simp only [HdrEqv] at * <;> first | trivial | exact h1.trans h2

theorem aux_hdrEqv_cases {a b : Option Header} (h : HdrEqv a b) :
    (a = none ∧ b = none) ∨ ∃ x y, a = some x ∧ b = some y ∧ x.Perm y := by
  cases a <;> cases b
  · exact .inl ⟨rfl, rfl⟩
  · exact h.elim
  · exact h.elim
  · exact .inr ⟨_, _, rfl, rfl, h⟩

theorem aux_resEqv_refl (a : Result) : ResEqv a a :=
  ⟨rfl, rfl, rfl, rfl, rfl, rfl, rfl, rfl, rfl, rfl, rfl, aux_hdrEqv_refl _⟩

theorem aux_resEqv_trans (a b c : Result) (h1 : ResEqv a b) (h2 : ResEqv b c) : ResEqv a c := by
  obtain ⟨a1, a2, a3, a4, a5, a6, a7, a8, a9, a10, a11, a12⟩ := h1
  obtain ⟨b1, b2, b3, b4, b5, b6, b7, b8, b9, b10, b11, b12⟩ := h2
  exact ⟨a1.trans b1, a2.trans b2, a3.trans b3, a4.trans b4, a5.trans b5, a6.trans b6, a7.trans b7,
    a8.trans b8, a9.trans b9, a10.trans b10, a11.trans b11, aux_hdrEqv_trans _ _ _ a12 b12⟩

theorem aux_resEqv_csvDecoded (r : Result) : ResEqv r (csvDecoded r) := by
  refine ⟨rfl, rfl, rfl, rfl, rfl, rfl, rfl, rfl, ?_, rfl, rfl, ?_⟩
  · simp [csvDecoded]
  · simp only [csvDecoded]
    cases r.headers with
    | none => trivial
    | some h => exact (sortKV_perm h).symm

/-- closure of the common domain under the CSV decoder: the body comes back non-nil, the header map
with its keys sorted — both still representable in both formats, so the next encoder of the chain
accepts it -/
theorem aux_reprBoth_csvDecoded (r : Result) (hr : ReprBoth r) : ReprBoth (csvDecoded r) := by
  obtain ⟨hc, hj⟩ := hr
  have hnum : ReprNumbers (csvDecoded r) :=
    ⟨hc.num.seq, hc.num.code, hc.num.ts0, hc.num.ts1, hc.num.latency, hc.num.bytesOut, hc.num.bytesIn⟩
  -- the header map that comes back is the sorted original
  have hsort : ∀ h, (csvDecoded r).headers = some h → ∃ h', r.headers = some h' ∧ h = sortKV h' := by
    intro h hh
    cases h0 : r.headers with
    | none => simp [csvDecoded, h0] at hh
    | some h' => exact ⟨h', rfl, by simpa [csvDecoded, h0] using hh.symm⟩
  refine ⟨{ num := hnum, attack := hc.attack, error := hc.error, method := hc.method, url := hc.url,
            body := fun x hx => hc.body x hx, headers := ?_ },
          { num := hnum, attack := hj.attack, error := hj.error, method := hj.method, url := hj.url,
            body := ?_, headers := ?_ }⟩
  · intro h hh
    obtain ⟨h', h0, rfl⟩ := hsort h hh
    obtain ⟨⟨hn, hall⟩, hb⟩ := hc.headers h' h0
    have hp := sortKV_perm h'
    exact ⟨⟨((hp.map (·.1)).nodup_iff).2 hn, fun kv hkv => hall kv (hp.mem_iff.1 hkv)⟩,
      fun kv hkv => hb kv (hp.mem_iff.1 hkv)⟩
  · intro b hb x hx
    cases hb
    exact hc.body x hx
  · intro h hh
    obtain ⟨h', h0, rfl⟩ := hsort h hh
    obtain ⟨hn, hall⟩ := hj.headers h' h0
    have hp := sortKV_perm h'
    exact ⟨((hp.map (·.1)).nodup_iff).2 hn, fun kv hkv => hall kv (hp.mem_iff.1 hkv)⟩

/-- on the domain, the chain equivalence implies `Result.Equal` (in the direction the commands'
users compare: decoded against original) -/
theorem aux_resEqv_equal (r out : Result) (hr : ReprBoth r) (h : ResEqv r out) : out.equal r = true := by
  obtain ⟨a1, a2, a3, a4, a5, a6, a7, a8, a9, a10, a11, a12⟩ := h
  have hh : headerEqual out.headers r.headers = true := by
    rcases aux_hdrEqv_cases a12 with ⟨h1, h2⟩ | ⟨h, h', h1, h2, hp⟩
    · rw [h1, h2]; rfl
    · rw [h1, h2]
      exact headerEqual_of_perm h' h hp.symm (hr.2.headers h h1).1
  simp [Result.equal, ← a1, ← a2, ← a3, ← a4, ← a5, ← a6, ← a7, ← a8, ← a9, ← a10, ← a11, hh]

theorem aux_seqEq_map (f : Result → Result) (hf : ∀ r, ResEqv r (f r)) (rs : List Result) :
    SeqEq ResEqv rs (rs.map f) := by
  induction rs with
  | nil => exact SeqEq.nil
  | cons r rs ih => exact SeqEq.cons (hf r) ih

theorem aux_seqEq_equalAll : ∀ (rs out : List Result), (∀ r ∈ rs, ReprBoth r) → SeqEq ResEqv rs out →
    equalAll out rs = true := by
  intro rs out hd h
  induction h with
  | nil => rfl
  | cons hab _ ih =>
    simp only [equalAll, Bool.and_eq_true]
    exact ⟨aux_resEqv_equal _ _ (hd _ (by simp)) hab, ih (fun r hr => hd r (by simp [hr]))⟩

/-- **The per-format round trips hold for the modelled CSV and JSON codecs** on the common domain
(`decodeCSV_encodeCSVAll`, C07's `json_roundtrip`), and the domain is closed under what the decoders return:
the hypothesis `RoundTrips` of `chain_preserves` is discharged. -/
theorem roundTrips_csv_json :
    RoundTrips resultCodecs ResEqv (fun rs => ∀ r ∈ rs, ReprBoth r) where
  refl := aux_resEqv_refl
  trans := aux_resEqv_trans
  roundTrip := by
    intro f rs hd
    cases f with
    | csv =>
      refine ⟨rs.map csvDecoded, ?_, aux_seqEq_map _ aux_resEqv_csvDecoded rs, ?_⟩
      · simp only [resultCodecs, decodeStream, decodeCSV_encodeCSVAll rs (fun r hr => (hd r hr).1)]
      · exact List.forall_mem_map.2 fun r0 h0 => aux_reprBoth_csvDecoded r0 (hd r0 h0)
    | json z =>
      obtain ⟨s, hs, hdec⟩ := Vegeta.Props.C07.json_roundtrip z.val z.property rs (fun r hr => (hd r hr).2)
      refine ⟨rs, ?_, aux_seqEq_refl ResEqv aux_resEqv_refl rs, hd⟩
      simp only [resultCodecs, hs, decodeStream, hdec]

/-- **"Re-encoding a result file through any chain of formats with the encode command produces a
stream that decodes to the original sequence"** — for the modelled codecs, without any round-trip
hypothesis: for every chain over {csv, json} of ANY length (each JSON step in any zone), every
start format and every result list in the common domain `ReprBoth`, every encoder along the chain
succeeds, every intermediate stream decodes, and the final stream — decoded in the last format of
the chain — yields a list `equalAll` (pointwise `Result.Equal`) to the original and then `io.EOF`. -/
theorem chain_preserves_csv_json (chain : List Fmt) (f0 : Fmt) (rs : List Result)
    (hd : ∀ r ∈ rs, ReprBoth r) :
    ∃ fl s out, resultCodecs.runChain f0 (resultCodecs.enc f0 rs) chain = some (fl, some s) ∧
      fl = chain.getLast?.getD f0 ∧ decodeStream fl s = (out, .eof) ∧ equalAll out rs = true := by
  obtain ⟨fl, s, out, h1, h2, h3, h4⟩ :=
    chain_preserves resultCodecs ResEqv (fun rs => ∀ r ∈ rs, ReprBoth r) roundTrips_csv_json chain f0 rs hd
  cases s with
  | none => simp [resultCodecs] at h3
  | some b =>
    refine ⟨fl, b, out, h1, h2, ?_, aux_seqEq_equalAll rs out hd h4⟩
    simp only [resultCodecs] at h3
    cases hds : decodeStream fl b with
    | mk o t =>
      rw [hds] at h3
      cases t with
      | eof => simp only [Option.some.injEq] at h3; rw [h3]
      | err => cases h3

/-- a zone `Time.MarshalBinary` accepts (gob sends a `time.Time` through it) -/
abbrev GZone := { z : Zone // ZoneOK z }

/-- the three formats of `vegeta encode`; a gob or JSON step may carry the times in any zone -/
inductive AnyFmt where
  | gob : GZone → AnyFmt
  | csv : AnyFmt
  | json : JZone → AnyFmt

def decodeAny : AnyFmt → Bytes → List Result × Term
  | .gob _, s => decodeGob s
  | .csv, s => decodeCSV s
  | .json _, s => decodeJSON s

/-- the codec family of the model for all three formats (conventions as for `resultCodecs`) -/
def allCodecs : Codecs AnyFmt Result (Option Bytes) where
  enc f rs := match f with
    | .gob z => encodeGobAll z.val rs
    | .csv => some (encodeCSVAll rs)
    | .json z => encodeJSONAll z.val rs
  dec f s := match s with
    | none => none
    | some b => match decodeAny f b with
      | (out, .eof) => some out
      | (_, .err) => none

/-- **the common domain of all three codecs**: representable in CSV and in JSON, and — gob's only
own restriction — the gob value message stays below gob's size limit (2^33 bytes) in every zone.
(`ReprGobResult`'s other clauses, numeric ranges and distinct header keys, follow from `ReprBoth`.) -/
def ReprAll (r : Result) : Prop := ReprBoth r ∧ ∀ z, ReprGobResult z r

theorem aux_resEqv_gobDecoded (r : Result) : ResEqv r (gobDecoded r) :=
  ⟨rfl, rfl, rfl, rfl, rfl, rfl, rfl, rfl, (gobDecoded_body_getD r).symm, rfl, rfl, aux_hdrEqv_refl _⟩

/-- closure of `ReprBoth` under the gob decoder (an empty body comes back nil; nothing else changes) -/
theorem aux_reprBoth_gobDecoded (r : Result) (hr : ReprBoth r) : ReprBoth (gobDecoded r) := by
  obtain ⟨hc, hj⟩ := hr
  have hnum : ReprNumbers (gobDecoded r) :=
    ⟨hc.num.seq, hc.num.code, hc.num.ts0, hc.num.ts1, hc.num.latency, hc.num.bytesOut, hc.num.bytesIn⟩
  constructor
  · refine { num := hnum, attack := hc.attack, error := hc.error, method := hc.method, url := hc.url,
             body := ?_, headers := hc.headers }
    intro x hx
    simp only [gobDecoded] at hx
    split at hx
    · simp at hx
    · exact hc.body x hx
  · refine { num := hnum, attack := hj.attack, error := hj.error, method := hj.method, url := hj.url,
             body := ?_, headers := hj.headers }
    intro b hb x hx
    simp only [gobDecoded] at hb
    split at hb
    · cases hb
    · exact hj.body b hb x hx

/-- the length of the field part of a gob value depends only on the lengths of the field payloads -/
theorem aux_encFields_len : ∀ (fs fs' : List (Option Bytes)) (gap : Nat),
    fs.map (·.map List.length) = fs'.map (·.map List.length) →
    (encFields gap fs).length = (encFields gap fs').length := by
  intro fs
  induction fs with
  | nil =>
    intro fs' gap h
    cases fs' with
    | nil => rfl
    | cons a as => simp at h
  | cons f fs ih =>
    intro fs' gap h
    cases fs' with
    | nil => simp at h
    | cons f' fs' =>
      simp only [List.map_cons, List.cons.injEq] at h
      obtain ⟨h1, h2⟩ := h
      cases f with
      | none =>
        cases f' with
        | none => simp only [encFields]; exact ih fs' _ h2
        | some p' => simp at h1
      | some p =>
        cases f' with
        | none => simp at h1
        | some p' =>
          simp only [Option.map_some, Option.some.injEq] at h1
          simp only [encFields, List.length_append, h1, ih fs' 1 h2]

theorem aux_gHeader_len (h1 h2 : Header) (hp : h1.Perm h2) : (gHeader h1).length = (gHeader h2).length := by
  simp only [gHeader, List.length_append, hp.length_eq]
  exact congrArg _ (hp.flatMap_right _).length_eq

/-- equivalent results have gob value messages of the same length (in every zone), so gob's size
clause is invariant along a chain -/
theorem aux_payload_len (z : Zone) (a b : Result) (h : ResEqv a b) :
    (valuePayload z a).map List.length = (valuePayload z b).map List.length := by
  obtain ⟨a1, a2, a3, a4, a5, a6, a7, a8, a9, a10, a11, a12⟩ := h
  have hh : (a.headers.map gHeader).map List.length = (b.headers.map gHeader).map List.length := by
    rcases aux_hdrEqv_cases a12 with ⟨ha, hb⟩ | ⟨h, h', ha, hb, hp⟩
    · rw [ha, hb]
    · rw [ha, hb]
      exact congrArg some (aux_gHeader_len h h' hp)
  unfold valuePayload fieldPayloads
  simp only [← a1, ← a2, ← a3, ← a4, ← a5, ← a6, ← a7, ← a8, ← a9, ← a10, ← a11]
  cases (if a.timestamp = zeroTime ∧ z = Zone.utc then some none
      else (timeBinary z a.timestamp).map (fun b => some (gBytes b)) : Option (Option Bytes)) with
  | none => rfl
  | some tf =>
    simp only [Option.map_some, List.length_cons, Option.some.injEq, Nat.add_right_cancel_iff]
    apply aux_encFields_len
    simp only [List.map_cons, List.map_nil, hh]

/-- `ReprAll` is closed under the chain equivalence (given `ReprBoth` of the new result): what any
of the three decoders returns is again accepted by any of the three encoders -/
theorem aux_reprAll_of_eqv (a b : Result) (ha : ReprAll a) (h : ResEqv a b) (hb : ReprBoth b) : ReprAll b := by
  refine ⟨hb, fun z => ?_⟩
  refine { num := hb.1.num, headers := fun h' hh => (hb.2.headers h' hh).1, size := ?_ }
  intro p hp
  have hl := aux_payload_len z a b h
  rw [hp] at hl
  cases hpa : valuePayload z a with
  | none => rw [hpa] at hl; cases hl
  | some pa =>
    rw [hpa] at hl
    simp only [Option.map_some, Option.some.injEq] at hl
    rw [← hl]
    exact (ha.2 z).size pa hpa

/-- **The per-format round trips hold for all three modelled codecs** on the common domain `ReprAll`
(`decodeGob_encodeGobAll`, `decodeCSV_encodeCSVAll`, C07's `json_roundtrip`), and the domain is
closed under what each decoder returns (gob: empty body → nil; CSV: nil body → empty, header keys
sorted; JSON: unchanged). -/
theorem roundTrips_all_formats :
    RoundTrips allCodecs ResEqv (fun rs => ∀ r ∈ rs, ReprAll r) where
  refl := aux_resEqv_refl
  trans := aux_resEqv_trans
  roundTrip := by
    intro f rs hd
    cases f with
    | gob z =>
      obtain ⟨s, hs, hdec⟩ := decodeGob_encodeGobAll z.val rs z.property (fun r hr => (hd r hr).2 z.val)
      refine ⟨rs.map gobDecoded, ?_, aux_seqEq_map _ aux_resEqv_gobDecoded rs, ?_⟩
      · simp only [allCodecs, hs, decodeAny, hdec]
      · exact List.forall_mem_map.2 fun r0 h0 =>
          aux_reprAll_of_eqv r0 _ (hd r0 h0) (aux_resEqv_gobDecoded r0) (aux_reprBoth_gobDecoded r0 (hd r0 h0).1)
    | csv =>
      refine ⟨rs.map csvDecoded, ?_, aux_seqEq_map _ aux_resEqv_csvDecoded rs, ?_⟩
      · simp only [allCodecs, decodeAny, decodeCSV_encodeCSVAll rs (fun r hr => (hd r hr).1.1)]
      · exact List.forall_mem_map.2 fun r0 h0 =>
          aux_reprAll_of_eqv r0 _ (hd r0 h0) (aux_resEqv_csvDecoded r0) (aux_reprBoth_csvDecoded r0 (hd r0 h0).1)
    | json z =>
      obtain ⟨s, hs, hdec⟩ := Vegeta.Props.C07.json_roundtrip z.val z.property rs (fun r hr => (hd r hr).1.2)
      refine ⟨rs, ?_, aux_seqEq_refl ResEqv aux_resEqv_refl rs, hd⟩
      simp only [allCodecs, hs, decodeAny, hdec]

theorem aux_dec_allCodecs (f : AnyFmt) (s : Option Bytes) (out : List Result) (h : allCodecs.dec f s = some out) :
    ∃ b, s = some b ∧ decodeAny f b = (out, .eof) := by
  cases s with
  | none => cases h
  | some b =>
    refine ⟨b, rfl, ?_⟩
    simp only [allCodecs] at h
    cases hds : decodeAny f b with
    | mk o t =>
      rw [hds] at h
      cases t with
      | eof => cases h; rfl
      | err => cases h

/-- **"Re-encoding a result file through any chain of formats with the encode command produces a
stream that decodes to the original sequence"** — for all three formats, with no codec hypothesis
left: for every chain over {gob, csv, json} of ANY length (gob and JSON steps in any zone), every
start format and every result list in the common domain `ReprAll`, every encoder along the chain
succeeds, every intermediate stream decodes, and the final stream — decoded in the last format of
the chain — yields a list `equalAll` (pointwise `Result.Equal`) to the original and then `io.EOF`.
(What is not part of this statement: that `DecoderFor` picks, for each intermediate stream, the
decoder of the format it was written in — see `sniff_preserves_stream`, `detect_selects_own_format`
(Proofs/Sniff.lean) and the first-byte theorems of Props/C08.lean.) -/
theorem chain_preserves_all_formats (chain : List AnyFmt) (f0 : AnyFmt) (rs : List Result)
    (hd : ∀ r ∈ rs, ReprAll r) :
    ∃ fl s out, allCodecs.runChain f0 (allCodecs.enc f0 rs) chain = some (fl, some s) ∧
      fl = chain.getLast?.getD f0 ∧ decodeAny fl s = (out, .eof) ∧ equalAll out rs = true := by
  obtain ⟨fl, s, out, h1, h2, h3, h4⟩ :=
    chain_preserves allCodecs ResEqv (fun rs => ∀ r ∈ rs, ReprAll r) roundTrips_all_formats chain f0 rs hd
  obtain ⟨b, rfl, h5⟩ := aux_dec_allCodecs fl s out h3
  exact ⟨fl, b, out, h1, h2, h5, aux_seqEq_equalAll rs out (fun r hr => (hd r hr).1) h4⟩

/-- C07's CSV example result (text with comma, quote and newline, a body, a two-valued header) is in
the common domain -/
theorem aux_example_reprBoth : ReprBoth exampleResult :=
  ⟨exampleResult_repr,
   { num := exampleResult_repr.num
     attack := by decide +kernel, error := by decide +kernel, method := by decide +kernel, url := by decide +kernel
     body := by intro b hb; cases hb; decide +kernel
     headers := by intro h hh; cases hh; decide +kernel }⟩

example : ∃ fl s out,
    resultCodecs.runChain .csv (resultCodecs.enc .csv [exampleResult, exampleResult])
      [.json ⟨60, by decide⟩, .csv, .json ⟨-480, by decide⟩, .json ⟨0, by decide⟩, .csv] = some (fl, some s) ∧
    fl = Fmt.csv ∧ decodeStream fl s = (out, .eof) ∧ equalAll out [exampleResult, exampleResult] = true := by
  obtain ⟨fl, s, out, h1, h2, h3, h4⟩ := chain_preserves_csv_json
    [.json ⟨60, by decide⟩, .csv, .json ⟨-480, by decide⟩, .json ⟨0, by decide⟩, .csv] .csv
    [exampleResult, exampleResult] (by intro r hr; simp at hr; subst hr; exact aux_example_reprBoth)
  exact ⟨fl, s, out, h1, h2, h3, h4⟩

/-! … and in the common domain of all three formats: its gob value message is small in every zone -/

/-- the eight fields of the example after the timestamp -/
def examplePost : List (Option Bytes) :=
  [fInt exampleResult.latency, fUint exampleResult.bytesOut, fUint exampleResult.bytesIn, fString exampleResult.error,
   fString (exampleResult.body.getD []), fString exampleResult.method, fString exampleResult.url,
   exampleResult.headers.map gHeader]

theorem aux_example_payload_len (X : Bytes) :
    (255 :: 128 :: encFields 1 ([fString exampleResult.attack, fUint exampleResult.seq, fUint exampleResult.code,
      some X] ++ examplePost)).length = X.length + 62 := by
  have e : encFields 1 ([fString exampleResult.attack, fUint exampleResult.seq, fUint exampleResult.code, some X] ++ examplePost) =
      encodeUint 1 ++ gBytes [120] ++ (encodeUint 1 ++ encodeUint 7 ++
        (encodeUint 1 ++ encodeUint 200 ++ (encodeUint 1 ++ X ++ encFields 1 examplePost))) := rfl
  rw [e]
  have h1 : (encFields 1 examplePost).length = 51 := by decide +kernel
  have h2 : (encodeUint 1).length = 1 := rfl
  have h3 : (gBytes [120]).length = 2 := rfl
  have h4 : (encodeUint 7).length = 1 := rfl
  have h5 : (encodeUint 200).length = 2 := by decide +kernel
  simp only [List.length_cons, List.length_append, h1, h2, h3, h4, h5]
  omega

theorem aux_example_reprAll : ReprAll exampleResult := by
  refine ⟨aux_example_reprBoth, fun z => ?_⟩
  refine { num := exampleResult_repr.num, headers := by intro h hh; cases hh; decide, size := ?_ }
  intro p hp
  have hz : ¬ (exampleResult.timestamp = zeroTime ∧ z = Zone.utc) := fun h => absurd h.1 (by decide)
  unfold valuePayload fieldPayloads at hp
  simp only [hz, ↓reduceIte] at hp
  cases ht : timeBinary z exampleResult.timestamp with
  | none => rw [ht] at hp; simp at hp
  | some tb =>
    rw [ht] at hp
    simp only [Option.map_some, Option.some.injEq] at hp
    subst hp
    have hk := aux_example_payload_len (gBytes tb)
    have htl := timeBinary_length ht
    have hg : (gBytes tb).length ≤ 17 := by
      unfold gBytes encodeUint
      have : tb.length < 128 := by omega
      simp only [this, ↓reduceIte, List.length_append, List.length_cons, List.length_nil]
      omega
    have : (255 :: 128 :: encFields 1 ([fString exampleResult.attack, fUint exampleResult.seq, fUint exampleResult.code,
      some (gBytes tb)] ++ examplePost)).length < tooBig := by rw [hk]; unfold tooBig; omega
    exact this

local instance : Decidable (ZoneOK (Zone.fixed 3600)) := by unfold ZoneOK; infer_instance

example : ∃ fl s out,
    allCodecs.runChain (.gob ⟨.utc, trivial⟩) (allCodecs.enc (.gob ⟨.utc, trivial⟩) [exampleResult, exampleResult])
      [.json ⟨60, by decide⟩, .gob ⟨.fixed 3600, by decide⟩, .csv, .gob ⟨.utc, trivial⟩, .csv] = some (fl, some s) ∧
    fl = AnyFmt.csv ∧ decodeAny fl s = (out, .eof) ∧ equalAll out [exampleResult, exampleResult] = true := by
  obtain ⟨fl, s, out, h1, h2, h3, h4⟩ := chain_preserves_all_formats
    [.json ⟨60, by decide⟩, .gob ⟨.fixed 3600, by decide⟩, .csv, .gob ⟨.utc, trivial⟩, .csv] (.gob ⟨.utc, trivial⟩)
    [exampleResult, exampleResult] (by intro r hr; simp at hr; subst hr; exact aux_example_reprAll)
  exact ⟨fl, s, out, h1, h2, h3, h4⟩

end Vegeta.Props.C08
