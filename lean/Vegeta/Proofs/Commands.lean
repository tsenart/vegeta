/-
C08 (and the second sentence of C13) at the command level: `decoder(files)` = per-file `DecoderFor`
+ round robin, the `encode` command loop, replacement of the output path.  Model: Model/Commands.lean.
Composes Proofs/Sniff.lean (DecoderFor), Props/C13.lean (round robin) and Proofs/ChainCodecs.lean
(the modelled gob/CSV/JSON codecs of C07).
-/
import Vegeta.Proofs.Sniff
import Vegeta.Proofs.ChainCodecs
import Vegeta.Props.C13
namespace Vegeta.Props.C08
open Vegeta.Go Vegeta.Model.DecoderFor Vegeta.Model.RoundRobin Vegeta.Model.Commands
open Vegeta.Props.C13 (AllEmpty fromInput aux_decode_spec aux_drain aux_flatten_set)

/-- **`DecoderFor` as `decoder(files)` uses it**: whatever the trial decoders read (any scripts, any
over-reading, any chunking), the result is the decoder of the FIRST format in the list whose trial
accepts, running over the whole original stream from byte 0 — or nil when none accepts. -/
theorem detect_spec {F α} (fm : Formats F α) (reads : F → Bytes → Script) (order : List F) (s : Bytes) :
    detect fm reads order s = (order.find? (fun f => fm.accepts f s)).map (fun f => fm.script f s) := by
  obtain ⟨h1, h2⟩ := detect_first_accepting s (trialsOf fm reads order s)
  unfold detect
  cases hres : (decoderFor s (trialsOf fm reads order s)).1 with
  | none =>
    have hnone : order.find? (fun f => fm.accepts f s) = none :=
      List.find?_eq_none.2 fun f hf => by
        simpa using h2.1 hres _ (List.mem_map_of_mem (f := fun f => (⟨reads f s, fm.accepts f s⟩ : TrialDec)) hf)
    rw [hnone]
    rfl
  | some p =>
    obtain ⟨i, st⟩ := p
    obtain ⟨ha, hb⟩ := h1 i st hres
    have hst : st.stream = s := sniff_preserves_stream s _ i st hres
    simp only [trialsOf, List.getElem?_map, Option.map_map, Option.map_eq_some_iff, Function.comp_apply] at ha hb
    obtain ⟨f, hf, hacc⟩ := ha
    obtain ⟨hi, rfl⟩ := List.getElem?_eq_some_iff.1 hf
    -- `i` is the first index whose format accepts, which is where `find?` stops
    have hidx : order.findIdx (fun f => fm.accepts f s) = i :=
      (List.findIdx_eq hi).2 ⟨hacc, fun j hji => by
        obtain ⟨g, hg, hgacc⟩ := hb j hji
        rw [List.getElem?_eq_getElem (Nat.lt_trans hji hi)] at hg
        cases hg
        exact hgacc⟩
    simp only [List.find?_eq_getElem?_findIdx, hidx, hst]

/-- a well-formed input file: some format of the list is the first whose trial accepts the stream, and
its decoder yields the records `rs` and then `io.EOF` for ever -/
def WellFormed {F α} (fm : Formats F α) (order : List F) (s : Bytes) (rs : List α) : Prop :=
  ∃ f, order.find? (fun f => fm.accepts f s) = some f ∧ fm.script f s = ofRecords rs

theorem aux_openAll_append {F α} (fm : Formats F α) (reads : F → Bytes → Script) (order : List F)
    (tail : List (Option Bytes)) :
    ∀ (files : List Bytes) (inputs : List (List α)) (i0 : Nat), files.length = inputs.length →
      (∀ (k : Nat) (s : Bytes) (rs : List α), files[k]? = some s → inputs[k]? = some rs → WellFormed fm order s rs) →
      openAll fm reads order i0 (files.map some ++ tail) =
        (openAll fm reads order (i0 + files.length) tail).map (ofInputs inputs ++ ·) := by
  intro files
  induction files with
  | nil =>
    intro inputs i0 hl _
    cases inputs with
    | nil =>
      show openAll fm reads order i0 tail = (openAll fm reads order i0 tail).map _
      cases openAll fm reads order i0 tail <;> rfl
    | cons _ _ => simp at hl
  | cons s files ih =>
    intro inputs i0 hl hw
    cases inputs with
    | nil => simp at hl
    | cons rs inputs =>
      obtain ⟨f, hf, hs⟩ := hw 0 s rs rfl rfl
      have := ih inputs (i0 + 1) (by simpa using hl)
        (fun k s' rs' h1 h2 => hw (k + 1) s' rs' (by simpa using h1) (by simpa using h2))
      have e : i0 + (s :: files).length = i0 + 1 + files.length := by simp only [List.length_cons]; omega
      simp only [List.map_cons, List.cons_append, openAll, detect_spec, hf, Option.map_some, this, hs, e]
      cases openAll fm reads order (i0 + 1 + files.length) tail <;> rfl

theorem aux_openAll {F α} (fm : Formats F α) (reads : F → Bytes → Script) (order : List F)
    (files : List Bytes) (inputs : List (List α)) (i0 : Nat) (hl : files.length = inputs.length)
    (hw : ∀ (k : Nat) (s : Bytes) (rs : List α), files[k]? = some s → inputs[k]? = some rs → WellFormed fm order s rs) :
    openAll fm reads order i0 (files.map some) = .ok (ofInputs inputs) := by
  simpa [openAll, Except.map] using aux_openAll_append fm reads order [] files inputs i0 hl hw

/-- `decoder(files)` stops at the first file that cannot be opened or detected -/
theorem openAll_first_error {F α} (fm : Formats F α) (reads : F → Bytes → Script) (order : List F)
    (good : List Bytes) (inputs : List (List α)) (bad : Option Bytes) (rest : List (Option Bytes))
    (hl : good.length = inputs.length)
    (hw : ∀ (k : Nat) (s : Bytes) (rs : List α), good[k]? = some s → inputs[k]? = some rs → WellFormed fm order s rs)
    (hbad : ∀ s, bad = some s → order.find? (fun f => fm.accepts f s) = none) :
    ∃ e, openAll fm reads order 0 (good.map some ++ bad :: rest) = .error e ∧
      (e = .open_ good.length ∨ e = .detect good.length) := by
  rw [aux_openAll_append fm reads order (bad :: rest) good inputs 0 hl hw, Nat.zero_add]
  cases bad with
  | none => exact ⟨_, rfl, Or.inl rfl⟩
  | some s => exact ⟨.detect good.length, by simp [openAll, detect_spec, hbad s rfl, Except.map], Or.inr rfl⟩

/-- what an encoder writes for a record sequence, up to its first failing `Encode` (exclusive);
`true` = every record was encoded -/
def encodePrefix {α σ} (enc : Encoder α σ) : σ → List α → Bytes × Bool
  | _, [] => ([], true)
  | e, a :: as =>
    match enc.step e a with
    | some (b, e') => let r := encodePrefix enc e' as; (b ++ r.1, r.2)
    | none => ([], false)

theorem aux_encodeLoop {α σ} (enc : Encoder α σ) (zero : α) : ∀ (fuel : Nat) (rem : List (List α)) (seq : Nat)
    (e : σ) (out : Bytes), 0 < rem.length → rem.flatten.length < fuel → seq + rem.length * fuel < two64 →
    encodeLoop enc zero fuel ⟨ofInputs rem, seq⟩ e out =
      (out ++ (encodePrefix enc e ((drain fuel ⟨ofInputs rem, seq⟩).1.map (·.2))).1,
       if (encodePrefix enc e ((drain fuel ⟨ofInputs rem, seq⟩).1.map (·.2))).2 then .ok else .failed .encode) := by
  intro fuel
  induction fuel with
  | zero => intro rem seq e out _ h; omega
  | succ fuel ih =>
    intro rem seq e out hn htot hw
    have hmul : rem.length * (fuel + 1) = rem.length * fuel + rem.length := Nat.mul_succ _ _
    rcases aux_decode_spec rem seq hn (by omega) with
      ⟨j, a, t, seq1, hget, hj, hseq1, hdec⟩ | ⟨hall, seq1, hseq1, hdec⟩
    · have hperm := aux_flatten_set rem j a t hget
      have hlen : (rem.set j t).length = rem.length := by simp
      have hfl : (rem.set j t).flatten.length + 1 = rem.flatten.length := by
        have := hperm.length_eq; simp only [List.length_cons] at this; omega
      simp only [encodeLoop, drain, hdec, List.map_cons, encodePrefix]
      cases hs : enc.step e a with
      | none => simp
      | some p =>
        obtain ⟨b, e'⟩ := p
        simp only []
        rw [ih (rem.set j t) seq1 e' (out ++ b) (by omega) (by omega) (by rw [hlen]; omega)]
        simp [List.append_assoc]
    · simp only [encodeLoop, drain, hdec, List.map_nil, encodePrefix, ↓reduceIte, List.append_nil]

/-- **The `encode` command over well-formed input files** (`n ≥ 1` files of any encodings in the
format list and any lengths): `decoder(files)` succeeds, the output path is replaced, and what is
written is the target encoder's output for exactly the records the round-robin decoder yields, in
that order — up to the first record the encoder refuses, in which case the command fails. -/
theorem encode_cmd_wellformed {F α σ} (fm : Formats F α) (reads : F → Bytes → Script) (order : List F)
    (zero : α) (enc : Encoder α σ) (files : List Bytes) (inputs : List (List α)) (prev : Option Bytes) (fuel : Nat)
    (hl : files.length = inputs.length)
    (hw : ∀ (k : Nat) (s : Bytes) (rs : List α), files[k]? = some s → inputs[k]? = some rs → WellFormed fm order s rs)
    (hn : 0 < inputs.length) (hfuel : inputs.flatten.length < fuel) (hwrap : inputs.length * fuel < two64) :
    encodeCmd fm reads order zero (some enc) (files.map some) prev fuel =
      (some (encodePrefix enc enc.init ((drain fuel (RR.init (ofInputs inputs))).1.map (·.2))).1,
       if (encodePrefix enc enc.init ((drain fuel (RR.init (ofInputs inputs))).1.map (·.2))).2 then .ok else .failed .encode) := by
  simp only [encodeCmd, aux_openAll fm reads order files inputs 0 hl hw, RR.init]
  rw [aux_encodeLoop enc zero fuel inputs 0 enc.init [] hn hfuel (by omega)]
  simp only [List.nil_append]
  rfl

/-- **The output of `encode` does not depend on what the output path held before** (`os.Create`
truncates): for ALL inputs — well-formed or not — and any two previous contents, the command ends
the same way; if `decoder(files)` succeeded the new content is the same, and if it failed the path
is left exactly as it was. -/
theorem encode_output_independent_of_previous_content {F α σ} (fm : Formats F α) (reads : F → Bytes → Script)
    (order : List F) (zero : α) (enc : Option (Encoder α σ)) (files : List (Option Bytes)) (prev prev' : Option Bytes)
    (fuel : Nat) :
    (encodeCmd fm reads order zero enc files prev fuel).2 = (encodeCmd fm reads order zero enc files prev' fuel).2 ∧
    ((∃ decs, openAll fm reads order 0 files = .ok decs) →
      (encodeCmd fm reads order zero enc files prev fuel).1 = (encodeCmd fm reads order zero enc files prev' fuel).1) ∧
    ((∃ e, openAll fm reads order 0 files = .error e) →
      (encodeCmd fm reads order zero enc files prev fuel).1 = prev) := by
  unfold encodeCmd
  cases ho : openAll fm reads order 0 files with
  | error e => simp
  | ok decs => cases enc <;> simp

section Targets
open Vegeta.Model.Codec Vegeta.Proofs.Codec Vegeta.Model.GobFrame Vegeta.Model.GobValue Vegeta.Proofs.Gob

/-- the three encoder closures of lib/results.go (state: "this is the first `Encode` call", which only
the gob encoder looks at — it sends the type definitions then) -/
def encoderOf : AnyFmt → Encoder Result Bool
  | .gob z => ⟨true, fun first r => (encodeGobCall z.val first r).map (·, false)⟩
  | .csv => ⟨true, fun st r => some (encodeCSV r, st)⟩
  | .json z => ⟨true, fun st r => (encodeJSON z.val r).map (·, st)⟩

theorem aux_prefix_csv (st : Bool) (rs : List Result) :
    encodePrefix (encoderOf .csv) st rs = (encodeCSVAll rs, true) := by
  induction rs with
  | nil => rfl
  | cons r rs ih => simp [encodePrefix, encoderOf, encodeCSVAll, List.flatMap_cons] at ih ⊢; simp [ih]

theorem aux_prefix_json (z : JZone) (st : Bool) (rs : List Result) (s : Bytes)
    (h : encodeJSONAll z.val rs = some s) : encodePrefix (encoderOf (.json z)) st rs = (s, true) := by
  induction rs generalizing s with
  | nil => simp [encodeJSONAll] at h; subst h; rfl
  | cons r rs ih =>
    obtain ⟨a, b, h1, h2, rfl⟩ := encodeJSONAll_cons_eq_some h
    have hstep : (encoderOf (.json z)).step st r = some (a, st) := by
      show (encodeJSON z.val r).map _ = _; rw [h1]; rfl
    simp only [encodePrefix, hstep, ih b h2]

theorem aux_prefix_gob_rest (z : GZone) (rs : List Result) (ps : List Bytes) (h : valueFrames z.val rs = some ps) :
    encodePrefix (encoderOf (.gob z)) false rs = (encodeFrames ps, true) := by
  induction rs generalizing ps with
  | nil => simp [valueFrames] at h; subst h; rfl
  | cons r rs ih =>
    obtain ⟨p, ps', h1, h2, rfl⟩ := valueFrames_cons_eq_some h
    have hstep : (encoderOf (.gob z)).step false r = some (encodeFrame p, false) := by
      show (encodeGobCall z.val false r).map _ = _; simp [encodeGobCall, h1]
    simp only [encodePrefix, hstep, ih ps' h2]
    simp [encodeFrames, List.flatMap_cons]

theorem aux_prefix_gob (z : GZone) (rs : List Result) (s : Bytes) (h : encodeGobAll z.val rs = some s) :
    encodePrefix (encoderOf (.gob z)) true rs = (s, true) := by
  cases rs with
  | nil => simp [encodeGobAll] at h; subst h; rfl
  | cons r rs =>
    obtain ⟨ps, hv, rfl⟩ := encodeGobAll_cons_eq_some h
    obtain ⟨p, ps', h1, h2, rfl⟩ := valueFrames_cons_eq_some hv
    have hstep : (encoderOf (.gob z)).step true r = some (preamble ++ encodeFrame p, false) := by
      show (encodeGobCall z.val true r).map _ = _; simp [encodeGobCall, h1]
    simp only [encodePrefix, hstep, aux_prefix_gob_rest z rs ps' h2]
    simp [preamble, encodeFrames, List.flatMap_append, List.flatMap_cons, List.append_assoc]

/-- the command's encoder closures write exactly what the stream-level encoders of C07 denote -/
theorem aux_prefix_enc (f : AnyFmt) (rs : List Result) (s : Bytes) (h : allCodecs.enc f rs = some s) :
    encodePrefix (encoderOf f) (encoderOf f).init rs = (s, true) := by
  cases f with
  | gob z => exact aux_prefix_gob z rs s h
  | csv =>
    simp only [allCodecs, Option.some.injEq] at h
    subst h; exact aux_prefix_csv _ rs
  | json z => exact aux_prefix_json z _ rs s h

/-- **decode (output of the `encode` command) = the round-robin interleaving of the inputs.**
For every list of `n ≥ 1` well-formed input files (of any encodings of the format list, any lengths,
empty record lists included) whose records are in the common domain `ReprAll`, and every target
format (gob, CSV, JSON, in any zone): the command succeeds, replaces the output path, and its output
— decoded with the target format's decoder — is, up to `Result.Equal`, exactly the sequence the
round-robin decoder yields, followed by `io.EOF`; that sequence is a permutation of the union of the
inputs in which every input keeps its own order. -/
theorem encode_cmd_decodes_to_interleaving {F : Type} (fm : Formats F Result) (reads : F → Bytes → Script)
    (order : List F) (zero : Result) (target : AnyFmt) (files : List Bytes) (inputs : List (List Result))
    (prev : Option Bytes) (fuel : Nat)
    (hl : files.length = inputs.length)
    (hw : ∀ (k : Nat) (s : Bytes) (rs : List Result), files[k]? = some s → inputs[k]? = some rs → WellFormed fm order s rs)
    (hdom : ∀ rs ∈ inputs, ∀ r ∈ rs, ReprAll r)
    (hn : 0 < inputs.length) (hfuel : inputs.flatten.length < fuel) (hwrap : inputs.length * fuel < two64) :
    ∃ out st s decoded,
      drain fuel (RR.init (ofInputs inputs)) = (out, st, some Vegeta.Model.RoundRobin.eEOF) ∧
      encodeCmd fm reads order zero (some (encoderOf target)) (files.map some) prev fuel = (some s, .ok) ∧
      decodeAny target s = (decoded, .eof) ∧ equalAll decoded (out.map (·.2)) = true ∧
      (out.map (·.2)).Perm inputs.flatten ∧ (∀ i, fromInput out i = inputs.getD i []) := by
  obtain ⟨out, rem', seq', hdr, _, _, _, hp, hf, _⟩ := aux_drain fuel inputs 0 hn hfuel (by omega)
  have hdomOut : ∀ r ∈ out.map (·.2), ReprAll r := by
    intro r hr
    have := hp.mem_iff.mp hr
    obtain ⟨rs, hrs, hrr⟩ := List.mem_flatten.mp this
    exact hdom rs hrs r hrr
  obtain ⟨rs', hdec, hseq, _⟩ := roundTrips_all_formats.roundTrip target (out.map (·.2)) hdomOut
  obtain ⟨s, henc, hdec⟩ := aux_dec_allCodecs target _ rs' hdec
  have hcmd := encode_cmd_wellformed fm reads order zero (encoderOf target) files inputs prev fuel hl hw hn hfuel hwrap
  have hdr' : drain fuel (RR.init (ofInputs inputs)) = (out, ⟨ofInputs rem', seq'⟩, some Vegeta.Model.RoundRobin.eEOF) := hdr
  rw [hdr'] at hcmd
  simp only [aux_prefix_enc target _ s henc, ↓reduceIte] at hcmd
  exact ⟨out, _, s, rs', hdr', hcmd, hdec, aux_seqEq_equalAll _ _ (fun r hr => (hdomOut r hr).1) hseq, hp, hf⟩

end Targets

/-- a toy format family: the first byte of a stream names its format, the other bytes are the records -/
def toyFormats : Formats Nat Nat where
  accepts f s := s.head? == some f
  script _ s := ofRecords s.tail

def toyEncoder : Encoder Nat Unit := ⟨(), fun _ a => if a = 99 then none else some ([a], ())⟩

example : WellFormed toyFormats [0, 1, 2] [1, 7, 8] [7, 8] := ⟨1, by decide +kernel, rfl⟩

example : detect toyFormats (fun _ _ => [⟨4, 1⟩, ⟨4096, 3⟩]) [0, 1, 2] [1, 7, 8] = some (ofRecords [7, 8]) := by decide +kernel

/-- three files in three "encodings" and of unequal lengths: the output is the round-robin interleaving;
it replaces whatever the output path held -/
example : encodeCmd toyFormats (fun _ _ => [⟨4, 1⟩]) [0, 1, 2] 0 (some toyEncoder)
    [some [1, 7, 8], some [0, 5], some [2]] (some [42, 42, 42, 42, 42]) 10 = (some [7, 5, 8], .ok) := by decide +kernel

/-- a file in none of the formats: error naming its position, the output path is not touched -/
example : encodeCmd toyFormats (fun _ _ => [⟨4, 1⟩]) [0, 1, 2] 0 (some toyEncoder)
    [some [1, 7, 8], some [9, 9], some [2]] (some [42]) 10 = (some [42], .failed (.detect 1)) := by decide +kernel

/-- a record the encoder refuses: the command fails after what it had written -/
example : encodeCmd toyFormats (fun _ _ => []) [0, 1, 2] 0 (some toyEncoder)
    [some [1, 7, 99, 8], some [0, 5]] none 10 = (some [7, 5], .failed .encode) := by decide +kernel

/-- the hypotheses of `encode_cmd_decodes_to_interleaving` are satisfiable: two files holding C07's
example result -/
example : ∃ out st s decoded,
    drain 5 (RR.init (ofInputs [[Vegeta.Proofs.Codec.exampleResult], [Vegeta.Proofs.Codec.exampleResult]])) = (out, st, some Vegeta.Model.RoundRobin.eEOF) ∧
    encodeCmd (⟨fun _ _ => true, fun _ _ => ofRecords [Vegeta.Proofs.Codec.exampleResult]⟩ : Formats Unit Vegeta.Model.Codec.Result)
      (fun _ _ => []) [()] {} (some (encoderOf .csv)) ([[1], [2]].map some) none 5 = (some s, .ok) ∧
    decodeAny .csv s = (decoded, .eof) := by
  obtain ⟨out, st, s, decoded, h1, h2, h3, _⟩ := encode_cmd_decodes_to_interleaving
    (⟨fun _ _ => true, fun _ _ => ofRecords [Vegeta.Proofs.Codec.exampleResult]⟩ : Formats Unit Vegeta.Model.Codec.Result)
    (fun _ _ => []) [()] {} .csv [[1], [2]] [[Vegeta.Proofs.Codec.exampleResult], [Vegeta.Proofs.Codec.exampleResult]] none 5 rfl
    (by
      intro k s rs h1 h2
      refine ⟨(), rfl, ?_⟩
      rcases k with _ | _ | k
      · simp at h2; subst h2; rfl
      · simp at h2; subst h2; rfl
      · simp at h2)
    (by intro rs hrs r hr; simp at hrs; subst hrs; simp at hr; subst hr; exact aux_example_reprAll)
    (by decide +kernel) (by decide +kernel) (by decide +kernel)
  exact ⟨out, st, s, decoded, h1, h2, h3⟩

end Vegeta.Props.C08
