/-
Round robin: a counter taken modulo `k` visits every index equally often. `window k s m` are the indices
drawn by the counter values `s, …, s+m-1`. The visits to `i` are the wrap-arounds of the counter shifted by
`k-1-i`, and division counts wrap-arounds: `count_window_eq` is exact, `count_window` gives ⌊m/k⌋ and ⌈m/k⌉.
-/
namespace Vegeta.Proofs.RoundRobin

def window (k s m : Nat) : List Nat := (List.range' s m).map (· % k)

theorem window_succ (k s m : Nat) : window k s (m + 1) = s % k :: window k (s + 1) m := rfl

theorem window_eq_map_range (k s m : Nat) : window k s m = (List.range m).map (fun j => (s + j) % k) := by
  rw [window, List.range'_eq_map_range, List.map_map]; rfl

theorem length_window (k s m : Nat) : (window k s m).length = m := by
  rw [window, List.length_map, List.length_range']

theorem lt_of_mem_window {k s m x : Nat} (hk : 0 < k) (hx : x ∈ window k s m) : x < k := by
  obtain ⟨j, _, rfl⟩ := List.mem_map.mp hx
  exact Nat.mod_lt _ hk

theorem mod_eq_iff_shift_wraps {k i d : Nat} (h : i + d + 1 = k) (x : Nat) : x % k = i ↔ (x + d) % k + 1 = k := by
  constructor
  · intro hx
    rw [← Nat.mod_add_mod, hx, Nat.mod_eq_of_lt (by omega), h]
  · intro hw
    calc x % k = (x + d + (1 + i)) % k := by
            rw [Nat.add_assoc, show d + (1 + i) = k by omega, Nat.add_mod_right]
      _ = ((x + d) % k + 1 + i) % k := by rw [← Nat.mod_add_mod, Nat.add_assoc]
      _ = i := by rw [hw, Nat.add_mod_left, Nat.mod_eq_of_lt (by omega)]

/-- Each visit to `i` is a wrap-around of the shifted counter, each other draw advances it by one. -/
theorem count_window_shift {k i d : Nat} (h : i + d + 1 = k) : ∀ m s,
    (window k s m).count i = ((s + d) % k + m) / k := by
  have hk : 0 < k := by omega
  intro m
  induction m with
  | zero => intro s; exact (Nat.div_eq_of_lt (Nat.mod_lt _ hk)).symm
  | succ m ih =>
    intro s
    rw [window_succ, List.count_cons, ih (s + 1), Nat.add_right_comm s 1 d, ← Nat.mod_add_mod (s + d)]
    by_cases hit : s % k = i
    · have hw := (mod_eq_iff_shift_wraps h s).mp hit
      rw [hw, Nat.mod_self, if_pos (by simpa using hit), Nat.zero_add,
        show (s + d) % k + (m + 1) = m + k by omega, Nat.add_div_right _ hk]
    · have hw : (s + d) % k + 1 < k := by
        have := Nat.mod_lt (s + d) hk
        have := mt (mod_eq_iff_shift_wraps h s).mpr hit
        omega
      rw [Nat.mod_eq_of_lt hw, if_neg (by simpa using hit), Nat.add_zero, Nat.add_right_comm, Nat.add_assoc]

theorem count_window_eq {k i : Nat} (hi : i < k) (s m : Nat) :
    (window k s m).count i = ((s + (k - 1 - i)) % k + m) / k :=
  count_window_shift (by omega) m s

theorem count_window {k i : Nat} (hi : i < k) (s m : Nat) :
    m / k ≤ (window k s m).count i ∧ (window k s m).count i ≤ (m + k - 1) / k := by
  have hk : 0 < k := by omega
  rw [count_window_eq hi]
  refine ⟨Nat.div_le_div_right (Nat.le_add_left _ _), Nat.div_le_div_right ?_⟩
  have := Nat.mod_lt (s + (k - 1 - i)) hk
  omega

end Vegeta.Proofs.RoundRobin
