/-
`ReadMIMEHeader ∘ Header.Write = id` on the header maps that lib/results.go's CSV codec can carry
(model: Vegeta/Model/CodecMIME.lean), and the `headerEqual` facts needed to state the CSV
round trip up to the key order.  Reading a written block is proved for any `LineReader`; the reader of the
documented layout (Proofs/CodecCSVResult.lean) is the second instance.
-/
import Vegeta.Proofs.ResultKit
namespace Vegeta.Proofs.Codec
open Vegeta.Go Vegeta.Model.Codec

/-- a header value as net/http yields it: no control bytes (so no TAB, CR, LF, DEL), no leading or trailing blank -/
def ReprValue (v : Bytes) : Prop :=
  (∀ c ∈ v, (32 ≤ c ∧ c ≤ 126) ∨ 128 ≤ c) ∧ v.head? ≠ some 32 ∧ v.getLast? ≠ some 32

/-- a canonical header key: a non-empty token in canonical MIME form -/
def ReprKey (k : Bytes) : Prop := validFieldName k = true ∧ canonKeyGo true k = k

/-- the header maps of the CSV round-trip domain: canonical keys, pairwise distinct, each with at least one
value, all values representable -/
def ReprHeaders (h : Header) : Prop :=
  (h.map (·.1)).Nodup ∧ ∀ kv ∈ h, ReprKey kv.1 ∧ kv.2 ≠ [] ∧ ∀ v ∈ kv.2, ReprValue v

/-- what `ReprHeaders` asks of one entry (its second conjunct unfolds to `∀ kv ∈ h, ReprEntry kv`) -/
def ReprEntry (kv : Bytes × List Bytes) : Prop := ReprKey kv.1 ∧ kv.2 ≠ [] ∧ ∀ v ∈ kv.2, ReprValue v

/-- a token byte is no colon, blank, TAB, LF or CR -/
theorem tok_facts {c : Nat} (h : isTokenByte c = true) :
    c ≠ 58 ∧ c ≠ 32 ∧ c ≠ 9 ∧ c ≠ 10 ∧ c ≠ 13 := by
  simp [isTokenByte] at h; omega

/-- what holds of every byte of a `ReprValue` -/
theorem val_facts {c : Nat} (h : (32 ≤ c ∧ c ≤ 126) ∨ 128 ≤ c) :
    c ≠ 9 ∧ c ≠ 10 ∧ c ≠ 13 ∧ validValueByte c = true := by
  refine ⟨by omega, by omega, by omega, ?_⟩
  simp [validValueByte]; omega

/-- the input does not start with a blank (and is not empty) -/
def NB (s : Bytes) : Prop := ∃ c r, s = c :: r ∧ isBlank c = false

theorem ReprKey.tok {k : Bytes} (hk : ReprKey k) : ∀ c ∈ k, isTokenByte c = true := by
  have := hk.1
  simp [validFieldName] at this
  exact this.2

theorem ReprKey.ne_nil {k : Bytes} (hk : ReprKey k) : k ≠ [] := by
  have := hk.1
  simp [validFieldName] at this
  exact this.1

theorem ReprKey.nb {k : Bytes} (hk : ReprKey k) (x : Bytes) : NB (k ++ x) := by
  cases k with
  | nil => exact absurd rfl hk.ne_nil
  | cons c k' =>
    refine ⟨c, k' ++ x, rfl, ?_⟩
    have := tok_facts (hk.tok c (by simp))
    simp [isBlank]; omega

theorem dropWhileEnd_concat (p : Nat → Bool) (l : Bytes) (x : Nat) (hx : p x = false) :
    dropWhileEnd p (l ++ [x]) = l ++ [x] := by
  simp [dropWhileEnd, hx]

theorem dropWhile_head (p : Nat → Bool) (l : Bytes) (h : ∀ c, l.head? = some c → p c = false) :
    l.dropWhile p = l := by
  cases l with
  | nil => rfl
  | cons c l => simp [List.dropWhile, h c rfl]

theorem dropWhileEnd_last (p : Nat → Bool) (l : Bytes) (h : ∀ c, l.getLast? = some c → p c = false) :
    dropWhileEnd p l = l := by
  rcases List.eq_nil_or_concat l with rfl | ⟨l', b, rfl⟩
  · rfl
  · rw [List.concat_eq_append] at h ⊢
    exact dropWhileEnd_concat p l' b (h b (by simp))

theorem ReprValue.not_space {v : Bytes} (hv : ReprValue v) (c : Nat) (hm : c ∈ v) (h32 : c ≠ 32) :
    isAsciiSpace c = false ∧ isBlank c = false := by
  have := val_facts (hv.1 c hm)
  simp [isAsciiSpace, isBlank]; omega

theorem ReprValue.head {v : Bytes} (hv : ReprValue v) (c : Nat) (hc : v.head? = some c) :
    isAsciiSpace c = false ∧ isBlank c = false :=
  hv.not_space c (List.mem_of_mem_head? hc) fun h => hv.2.1 (h ▸ hc)

theorem ReprValue.last {v : Bytes} (hv : ReprValue v) (c : Nat) (hc : v.getLast? = some c) :
    isAsciiSpace c = false ∧ isBlank c = false :=
  hv.not_space c (List.mem_of_getLast? hc) fun h => hv.2.2 (h ▸ hc)

theorem nlToSpace_repr {v : Bytes} (hv : ReprValue v) : nlToSpace v = v :=
  (List.map_congr_left fun c hc => if_neg (by have := val_facts (hv.1 c hc); omega)).trans (List.map_id v)

theorem trimString_repr {v : Bytes} (hv : ReprValue v) : trimString v = v := by
  unfold trimString
  rw [dropWhile_head _ _ (fun c hc => (hv.head c hc).1),
      dropWhileEnd_last _ _ (fun c hc => (hv.last c hc).1)]

theorem writeKV_repr {k : Bytes} (hk : ReprKey k) (vs : List Bytes) (hvs : ∀ v ∈ vs, ReprValue v) :
    writeKV (k, vs) = vs.flatMap (fun v => k ++ [58, 32] ++ v ++ [13, 10]) := by
  simp only [writeKV, hk.1, if_true]
  induction vs with
  | nil => rfl
  | cons v vs ih =>
    simp only [List.flatMap_cons]
    rw [ih (fun v hv => hvs v (by simp [hv])), nlToSpace_repr (hvs v (by simp)),
      trimString_repr (hvs v (by simp))]

theorem canonKey_repr {k : Bytes} (hk : ReprKey k) : canonKey k = some k := by
  have hne := hk.ne_nil
  have ht := hk.tok
  have h1 : k.isEmpty = false := by cases k <;> simp_all
  have h2 : k.all (fun c => isTokenByte c || c == 32) = true := by
    simp only [List.all_eq_true]; intro c hc; simp [ht c hc]
  have h3 : k.any (· == 32) = false := by
    simp only [List.any_eq_false]; intro c hc
    have := tok_facts (ht c hc); simp; omega
  simp [canonKey, h1, h2, h3, hk.2]

theorem readLine_crlf (l r : Bytes) (h : ∀ c ∈ l, c ≠ 10) :
    readLine (l ++ 13 :: 10 :: r) = some (l, r) := by
  have hp : ∀ a ∈ l, (a != 10) = true := by intro a ha; simp [h a ha]
  have ht : (l ++ 13 :: 10 :: r).takeWhile (· != 10) = l ++ [13] := by
    rw [List.takeWhile_append_of_pos hp]; simp [List.takeWhile]
  have hd : (l ++ 13 :: 10 :: r).dropWhile (· != 10) = 10 :: r := by
    rw [List.dropWhile_append_of_pos hp]; simp [List.dropWhile]
  have hcr : dropLastCR (l ++ [13]) = l := by simp [dropLastCR]
  unfold readLine
  split
  · rename_i e; simp at e
  · simp only [ht, hd, hcr]

theorem readCont_nb (n : Nat) (acc s : Bytes) (h : NB s) : readCont n acc s = (acc, s) := by
  obtain ⟨c, r, rfl, hc⟩ := h
  cases n with
  | zero => rfl
  | succ n => simp [readCont, hc]

/-- the trimmed line splits into the key and the value preceded by its blank -/
theorem trimBlank_line {k v : Bytes} (hk : ReprKey k) (hv : ReprValue v) :
    ∃ v', trimBlank (k ++ 58 :: 32 :: v) = k ++ 58 :: v' ∧ v'.all validValueByte = true ∧
      v'.dropWhile isBlank = v := by
  obtain ⟨c, r, hcr, hc⟩ := hk.nb (58 :: 32 :: v)
  have h1 : (k ++ 58 :: 32 :: v).dropWhile isBlank = k ++ 58 :: 32 :: v := by
    rw [hcr]; simp [List.dropWhile, hc]
  unfold trimBlank
  rw [h1]
  rcases List.eq_nil_or_concat v with rfl | ⟨v0, b, rfl⟩
  · refine ⟨[], ?_, rfl, rfl⟩
    have : k ++ [58, 32] = (k ++ [58]) ++ [32] := by simp
    rw [this]
    simp [dropWhileEnd, List.dropWhile, isBlank]
  · rw [List.concat_eq_append] at hv ⊢
    refine ⟨32 :: (v0 ++ [b]), ?_, ?_, ?_⟩
    · have : k ++ 58 :: 32 :: (v0 ++ [b]) = (k ++ 58 :: 32 :: v0) ++ [b] := by simp
      rw [this]
      exact dropWhileEnd_concat _ _ _ (hv.last b (by simp)).2
    · simp only [List.all_cons, List.all_eq_true, Bool.and_eq_true]
      refine ⟨by decide, fun c hc => (val_facts (hv.1 c hc)).2.2.2⟩
    · have : isBlank 32 = true := by decide
      simp only [List.dropWhile, this]
      exact dropWhile_head _ _ (fun c hc => (hv.head c hc).2)

theorem split_key {k : Bytes} (hk : ReprKey k) (v' : Bytes) :
    (k ++ 58 :: v').takeWhile (· != 58) = k ∧ (k ++ 58 :: v').dropWhile (· != 58) = 58 :: v' :=
  takeWhile_dropWhile_prefix _ k 58 v'
    (fun a ha => by have := tok_facts (hk.tok a ha); simp; omega) (by decide)

theorem readHeaderLoop_line (k v rest : Bytes) (m : Header) (f : Nat) (hk : ReprKey k)
    (hv : ReprValue v) (hr : NB rest) :
    readHeaderLoop (f + 1) (k ++ [58, 32] ++ v ++ [13, 10] ++ rest) m =
      readHeaderLoop f rest (headerAdd k v m) := by
  have hline : k ++ [58, 32] ++ v ++ [13, 10] ++ rest = (k ++ 58 :: 32 :: v) ++ 13 :: 10 :: rest := by
    simp
  have h10 : ∀ c ∈ k ++ 58 :: 32 :: v, c ≠ 10 := by
    simp only [List.forall_mem_append, List.forall_mem_cons]
    exact ⟨fun c hc => (tok_facts (hk.tok c hc)).2.2.2.1, by decide, by decide,
      fun c hc => (val_facts (hv.1 c hc)).2.1⟩
  obtain ⟨v', ht, hall, hdrop⟩ := trimBlank_line hk hv
  obtain ⟨hs1, hs2⟩ := split_key hk v'
  have hE : (k ++ 58 :: 32 :: v).isEmpty = false := by cases k <;> simp
  have hA : (k ++ 58 :: 32 :: v).any (· == 58) = true := by simp
  rw [hline, readHeaderLoop, readLine_crlf _ _ h10]
  simp only [hE, hA, readCont_nb _ _ _ hr, ht, hs1, hs2, List.drop_succ_cons, List.drop_zero, canonKey_repr hk,
    hall, hdrop]
  simp

theorem headerAdd_append (k v : Bytes) (m t : Header) (h : k ∉ m.map (·.1)) :
    headerAdd k v (m ++ t) = m ++ headerAdd k v t := by
  induction m with
  | nil => rfl
  | cons x m ih =>
    simp only [List.map_cons, List.mem_cons, not_or] at h
    simp [headerAdd, Ne.symm h.1, ih h.2]

theorem foldl_headerAdd_last (k : Bytes) (m : Header) (h : k ∉ m.map (·.1)) (vs : List Bytes) :
    ∀ ws, vs.foldl (fun m v => headerAdd k v m) (m ++ [(k, ws)]) = m ++ [(k, ws ++ vs)] := by
  induction vs with
  | nil => simp
  | cons v vs ih =>
    intro ws
    simp [headerAdd_append k v m _ h, headerAdd, ih]

theorem foldl_headerAdd (k : Bytes) (m : Header) (h : k ∉ m.map (·.1)) (vs : List Bytes)
    (hne : vs ≠ []) : vs.foldl (fun m v => headerAdd k v m) m = m ++ [(k, vs)] := by
  cases vs with
  | nil => exact absurd rfl hne
  | cons v vs =>
    have := headerAdd_append k v m [] h
    rw [List.append_nil] at this
    simp [this, headerAdd, foldl_headerAdd_last k m h vs]

def nLines (hs : Header) : Nat := (hs.map (·.2.length)).sum

theorem length_le_lines (k : Bytes) (vs : List Bytes) :
    vs.length ≤ (vs.flatMap (fun v => k ++ [58, 32] ++ v ++ [13, 10])).length := by
  induction vs with
  | nil => simp
  | cons v vs ihv =>
    simp only [List.flatMap_cons, List.length_append, List.length_cons] at ihv ⊢; omega

theorem nLines_le (hs : Header)
    (hall : ∀ kv ∈ hs, ReprEntry kv) :
    nLines hs ≤ (hs.flatMap writeKV).length := by
  induction hs with
  | nil => simp [nLines]
  | cons kv hs ih =>
    obtain ⟨k, vs⟩ := kv
    obtain ⟨hk, _, hvs⟩ := hall (k, vs) (by simp)
    have ih' := ih (fun kv h => hall kv (by simp [h]))
    have := length_le_lines k vs
    rw [List.flatMap_cons, writeKV_repr hk _ hvs, List.length_append]
    simp only [nLines, List.map_cons, List.sum_cons] at ih' ⊢
    omega

/-- a reader of header blocks (`readHeaderLoop`; the documented layout's `specHeaderBlock`) as far as reading a written
block uses it: one written line is consumed per unit of fuel, provided what follows the line satisfies `Ok` (for
`readHeaderLoop`: is no continuation line), as every text beginning with a key and the blank line do; the blank line
ends the block with `done` of the map -/
structure LineReader {β : Type} (step : Nat → Bytes → Header → β) (Ok : Bytes → Prop) (done : Header → β) : Prop where
  line : ∀ k v rest m f, ReprKey k → ReprValue v → Ok rest →
    step (f + 1) (k ++ [58, 32] ++ v ++ [13, 10] ++ rest) m = step f rest (headerAdd k v m)
  key : ∀ k x, ReprKey k → Ok (k ++ x)
  blankOk : Ok [13, 10]
  blank : ∀ f m, step (f + 1) [13, 10] m = done m

theorem LineReader.vals {β : Type} {step : Nat → Bytes → Header → β} {Ok : Bytes → Prop} {done : Header → β}
    (R : LineReader step Ok done) (k : Bytes) (hk : ReprKey k) (rest : Bytes) (hr : Ok rest) :
    ∀ (vs : List Bytes) (m : Header) (f : Nat), (∀ v ∈ vs, ReprValue v) →
      step (vs.length + f) (vs.flatMap (fun v => k ++ [58, 32] ++ v ++ [13, 10]) ++ rest) m =
      step f rest (vs.foldl (fun m v => headerAdd k v m) m) := by
  intro vs
  induction vs with
  | nil => intro m f _; simp
  | cons v vs ih =>
    intro m f hvs
    have hok : Ok (vs.flatMap (fun v => k ++ [58, 32] ++ v ++ [13, 10]) ++ rest) := by
      cases vs with
      | nil => simpa using hr
      | cons w ws =>
        simp only [List.flatMap_cons, List.append_assoc]
        exact R.key k _ hk
    have hf : (v :: vs).length + f = (vs.length + f) + 1 := by simp; omega
    rw [hf, List.flatMap_cons, List.append_assoc, R.line k v _ m _ hk (hvs v (by simp)) hok,
      ih _ _ (fun w hw => hvs w (by simp [hw]))]
    rfl

theorem LineReader.block_ok {β : Type} {step : Nat → Bytes → Header → β} {Ok : Bytes → Prop} {done : Header → β}
    (R : LineReader step Ok done) (hs : Header) (hall : ∀ kv ∈ hs, ReprEntry kv) :
    Ok (hs.flatMap writeKV ++ [13, 10]) := by
  cases hs with
  | nil => exact R.blankOk
  | cons kv hs =>
    obtain ⟨k, vs⟩ := kv
    obtain ⟨hk, hne, hvs⟩ := hall (k, vs) (by simp)
    cases vs with
    | nil => exact absurd rfl hne
    | cons v vs =>
      rw [List.flatMap_cons, writeKV_repr hk _ hvs]
      simp only [List.flatMap_cons, List.append_assoc]
      exact R.key k _ hk

/-- with more fuel than lines, the written block and its blank line are read as the entries of `hs` appended to the map -/
theorem LineReader.block {β : Type} {step : Nat → Bytes → Header → β} {Ok : Bytes → Prop} {done : Header → β}
    (R : LineReader step Ok done) (hs : Header) : ∀ (m : Header) (fuel : Nat), nLines hs < fuel →
    (∀ kv ∈ hs, ReprEntry kv) → ((m ++ hs).map (·.1)).Nodup →
    step fuel (hs.flatMap writeKV ++ [13, 10]) m = done (m ++ hs) := by
  induction hs with
  | nil =>
    intro m fuel hf _ _
    obtain ⟨f, rfl⟩ : ∃ f, fuel = f + 1 := ⟨fuel - 1, by omega⟩
    simp [R.blank]
  | cons kv hs ih =>
    intro m fuel hf hall hnd
    obtain ⟨k, vs⟩ := kv
    obtain ⟨hk, hne, hvs⟩ := hall (k, vs) (by simp)
    have hall' : ∀ kv ∈ hs, ReprEntry kv := fun kv h => hall kv (by simp [h])
    simp only [nLines, List.map_cons, List.sum_cons] at hf
    obtain ⟨f, rfl⟩ : ∃ f, fuel = vs.length + f := ⟨fuel - vs.length, by omega⟩
    rw [List.flatMap_cons, writeKV_repr hk _ hvs, List.append_assoc,
      R.vals k hk _ (R.block_ok hs hall') vs m _ hvs,
      foldl_headerAdd k m (key_fresh hnd) vs hne, ih _ f (by unfold nLines; omega) hall' (by simpa using hnd)]
    simp

theorem readHeaderLoop_reader : LineReader readHeaderLoop NB .ok where
  line k v rest m f hk hv hr := readHeaderLoop_line k v rest m f hk hv hr
  key _ x hk := hk.nb x
  blankOk := ⟨13, [10], rfl, by decide⟩
  blank f m := by simp [readHeaderLoop, readLine, dropLastCR, List.takeWhile, List.dropWhile]

theorem insertKV_perm (x : Bytes × List Bytes) (l : Header) : (insertKV x l).Perm (x :: l) := by
  induction l with
  | nil => exact List.Perm.refl _
  | cons y l ih =>
    simp only [insertKV]
    split
    · exact List.Perm.refl _
    · exact ((List.Perm.cons y ih).trans (List.Perm.swap x y l))

theorem sortKV_perm (h : Header) : (sortKV h).Perm h := by
  induction h with
  | nil => exact List.Perm.refl _
  | cons x h ih => exact (insertKV_perm x _).trans (List.Perm.cons x ih)

/-- **ReadMIMEHeader ∘ Header.Write = id** (up to the key order, which `Header.Write` sorts): reading the
block written for `h`, followed by the blank line that lib/results.go appends, gives `h` sorted by key -/
theorem readMIMEHeader_headerWrite (h : Header) (hr : ReprHeaders h) :
    readMIMEHeader (headerWrite h ++ [13, 10]) = .ok (sortKV h) := by
  have hp := sortKV_perm h
  have hall : ∀ kv ∈ sortKV h, ReprEntry kv :=
    fun kv hkv => hr.2 kv (hp.mem_iff.1 hkv)
  have hnd : ((sortKV h).map (·.1)).Nodup := (hp.map (·.1)).nodup_iff.2 hr.1
  have hle := nLines_le _ hall
  obtain ⟨c, r, hcr, hc⟩ := readHeaderLoop_reader.block_ok _ hall
  have := readHeaderLoop_reader.block (sortKV h) [] ((headerWrite h ++ [13, 10]).length + 1)
    (by simp only [headerWrite, List.length_append]; omega) hall (by simpa using hnd)
  unfold readMIMEHeader
  unfold headerWrite at this ⊢
  rw [hcr] at this ⊢
  simp only [hc]
  exact this

/-- the empty (non-nil) map: the block is just the blank line and reads back as the empty map -/
theorem readMIMEHeader_empty : readMIMEHeader [13, 10] = .ok [] := by decide

theorem headerGet_mem (h : Header) (hn : (h.map (·.1)).Nodup) (kv : Bytes × List Bytes)
    (hkv : kv ∈ h) : headerGet h kv.1 = kv.2 := by
  induction h with
  | nil => simp at hkv
  | cons x h ih =>
    simp only [List.map_cons, List.nodup_cons] at hn
    simp only [List.mem_cons] at hkv
    unfold headerGet
    rcases hkv with rfl | hkv
    · simp
    · have hne : x.1 ≠ kv.1 := by
        intro he
        exact hn.1 (he ▸ List.mem_map_of_mem hkv)
      have hb : (x.1 == kv.1) = false := by simp [hne]
      simp only [List.find?_cons, hb]
      exact ih hn.2 hkv

theorem headerEqual_of_perm (h1 h2 : Header) (hp : h1.Perm h2) (hn : (h2.map (·.1)).Nodup) :
    headerEqual (some h1) (some h2) = true := by
  simp only [headerEqual, Bool.and_eq_true, beq_iff_eq, List.all_eq_true]
  exact ⟨hp.length_eq, fun kv hkv => headerGet_mem h2 hn kv (hp.mem_iff.1 hkv)⟩

/-- sorting the association list does not change the map: `headerEqual` holds in both directions -/
theorem headerEqual_sortKV (h : Header) (hn : (h.map (·.1)).Nodup) :
    headerEqual (some (sortKV h)) (some h) = true ∧ headerEqual (some h) (some (sortKV h)) = true :=
  ⟨headerEqual_of_perm _ _ (sortKV_perm h) hn,
   headerEqual_of_perm _ _ (sortKV_perm h).symm (((sortKV_perm h).map (·.1)).nodup_iff.2 hn)⟩

theorem headerEqual_refl (h : Header) (hn : (h.map (·.1)).Nodup) : headerEqual (some h) (some h) = true :=
  headerEqual_of_perm h h (List.Perm.refl _) hn

/-- lib/results.go `headerBytes` of a non-nil map is never empty (the blank line is always there), so its CSV
column is never the empty text that the decoder reads as a nil map -/
theorem headerBytes_some_ne_nil (h : Header) : ∃ b, headerBytes (some h) = some b ∧ b ≠ [] :=
  ⟨_, rfl, by simp⟩

/-- `X-A: 1`, `X-A: b c`, `Content-Type: text/plain` -/
def exampleHeader : Header :=
  [([88, 45, 65], [[49], [98, 32, 99]]),
   ([67, 111, 110, 116, 101, 110, 116, 45, 84, 121, 112, 101], [[116, 101, 120, 116, 47, 112, 108, 97, 105, 110]])]

example : ReprHeaders exampleHeader := by
  unfold ReprHeaders ReprKey ReprValue exampleHeader
  decide

example : readMIMEHeader (headerWrite exampleHeader ++ [13, 10]) = .ok (sortKV exampleHeader) := by
  decide

example : sortKV exampleHeader = [exampleHeader[1], exampleHeader[0]] := by decide

end Vegeta.Proofs.Codec
