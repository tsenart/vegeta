/-
The `encode` command (Model/EncodeCmd.lean) as a map over the records of its input: on complete
inputs and on inputs cut anywhere (JSON, gob) or at a record boundary (CSV), for every target codec.
-/
import Vegeta.Proofs.EncodeCalls
namespace Vegeta.Proofs.EncodeCmd
open Vegeta.Go Vegeta.Model.Codec Vegeta.Model.GobFrame Vegeta.Model.GobValue Vegeta.Model.EncodeCmd
open Vegeta.Proofs.Codec Vegeta.Proofs.Gob Vegeta.Proofs.GobFrame

theorem cmdEncode_eq_encCalls (c : Codec) (z : Zone) (st : EncState) (ds : List Result)
    (h : (encCalls c st (ds.map (z, ·))).2 = (ds.map (z, ·)).map fun _ => true) :
    cmdEncode c z st ds = ((encCalls c st (ds.map (z, ·))).1, true) := by
  induction ds generalizing st with
  | nil => rfl
  | cons d ds ih =>
    rw [List.map_cons, encCalls_cons] at h ⊢
    simp only [List.map_cons, List.cons.injEq] at h
    simp only [cmdEncode, h.1, if_true, ih _ h.2]

theorem cmdEncode_roundtrip (dst : Codec) (zd : Zone) (ds : List Result) (hd : ∀ d ∈ ds, ReprFor dst zd d) :
    (cmdEncode dst zd {} ds).2 = true ∧
    decodeWith dst (cmdEncode dst zd {} ds).1 = (ds.map (decodedBy dst), .eof) := by
  have hok := encCalls_ok_of_repr dst zd ds hd
  have hsel := okCalls_of_all_ok dst {} _ hok
  have hd' : ∀ a ∈ ds.map (zd, ·), ReprFor dst a.1 a.2 := List.forall_mem_map.2 hd
  rw [cmdEncode_eq_encCalls dst zd {} ds hok]
  refine ⟨rfl, ?_⟩
  cases dst with
  | csv => simpa [List.map_map, Function.comp_def, decodeWith, decodedBy] using enc_calls_decode_csv _ hd'
  | json =>
    have := enc_calls_decode_json (ds.map (zd, ·)) (by rw [hsel]; exact hd')
    rw [hsel] at this
    simpa [List.map_map, Function.comp_def, decodeWith, decodedBy] using this
  | gob =>
    have := enc_calls_decode_gob (ds.map (zd, ·)) (by rw [hsel]; exact hd')
    rw [hsel] at this
    simpa [List.map_map, Function.comp_def, decodeWith, decodedBy, Classical.em] using this

theorem cmd_of_decode (src dst : Codec) (zd : Zone) (inp : Bytes) (ds : List Result) (t : Term)
    (hdec : decodeWith src inp = (ds, t)) (hd : ∀ d ∈ ds, ReprFor dst zd d) :
    (encodeCmd src dst zd inp).2 = (t == .eof) ∧
    decodeWith dst (encodeCmd src dst zd inp).1 = (ds.map (decodedBy dst), .eof) := by
  obtain ⟨h1, h2⟩ := cmdEncode_roundtrip dst zd ds hd
  unfold encodeCmd
  simp only [hdec, h1, Bool.true_and]
  exact ⟨trivial, h2⟩

/-- complete input (described at `C07.encode_command_is_map`) -/
theorem encodeCmd_complete (src dst : Codec) (zs zd : Zone) (rs : List Result)
    (hs : ∀ r ∈ rs, ReprFor src zs r) (hd : ∀ r ∈ rs, ReprFor dst zd (decodedBy src r)) :
    ∃ inp, encodeAllWith src zs rs = some inp ∧ (encodeCmd src dst zd inp).2 = true ∧
      decodeWith dst (encodeCmd src dst zd inp).1 = (rs.map (decodedBy dst ∘ decodedBy src), .eof) := by
  have hd' : ∀ d ∈ rs.map (decodedBy src), ReprFor dst zd d := List.forall_mem_map.2 hd
  have key : ∃ inp, encodeAllWith src zs rs = some inp ∧
      decodeWith src inp = (rs.map (decodedBy src), .eof) := by
    cases src with
    | csv => exact ⟨encodeCSVAll rs, rfl, decodeCSV_encodeCSVAll rs hs⟩
    | json =>
      cases rs with
      | nil => exact ⟨[], rfl, by decide⟩
      | cons r rs =>
        have ho : (zoneMin zs).natAbs < 1440 := (hs r (by simp)).2
        obtain ⟨s, h1, h2⟩ := decodeJSON_encodeJSONAll (zoneMin zs) ho (r :: rs) (fun x hx => (hs x hx).1)
        refine ⟨s, h1, ?_⟩
        show decodeJSON s = _
        rw [h2]
        have : decodedBy .json = id := rfl
        rw [this, List.map_id]
    | gob =>
      cases rs with
      | nil => exact ⟨[], rfl, by decide⟩
      | cons r rs =>
        have hz : ZoneOK zs := (hs r (by simp)).2
        obtain ⟨s, h1, h2⟩ := decodeGob_encodeGobAll zs (r :: rs) hz (fun x hx => (hs x hx).1)
        exact ⟨s, h1, h2⟩
  obtain ⟨inp, h1, h2⟩ := key
  obtain ⟨h3, h4⟩ := cmd_of_decode src dst zd inp _ _ h2 hd'
  refine ⟨inp, h1, by rw [h3]; rfl, ?_⟩
  rw [h4, List.map_map]

/-- cut inputs (this and the next two are described at `C09.encode_cmd_cut_json`, `_gob`, `_csv`) -/
theorem encodeCmd_cut_json (dst : Codec) (zs zd : Zone) (rs : List Result)
    (hs : ∀ r ∈ rs, ReprFor .json zs r) (hd : ∀ r ∈ rs, ReprFor dst zd r) (k : Nat) :
    ∃ lines, encodeJSONAll (zoneMin zs) rs = some lines.flatten ∧ lines.length = rs.length ∧
      (encodeCmd .json dst zd (lines.flatten.take k)).2 = true ∧
      decodeWith dst (encodeCmd .json dst zd (lines.flatten.take k)).1 =
        ((rs.take (linesBefore lines k)).map (decodedBy dst), .eof) := by
  cases rs with
  | nil =>
    refine ⟨[], rfl, rfl, ?_⟩
    obtain ⟨h3, h4⟩ := cmd_of_decode .json dst zd (([] : List Bytes).flatten.take k) [] .eof
      (by simp; decide) (by simp)
    exact ⟨by rw [h3]; rfl, by rw [h4]; simp⟩
  | cons r rs =>
    have ho : (zoneMin zs).natAbs < 1440 := (hs r (by simp)).2
    obtain ⟨lines, hl, hf⟩ := encodeJSONAll_lines (zoneMin zs) ho (r :: rs) (fun x hx => (hs x hx).1)
    refine ⟨lines, hl, hf.length_eq, ?_⟩
    have hdec : decodeWith .json (lines.flatten.take k) = ((r :: rs).take (linesBefore lines k), .eof) :=
      decodeJSON_cut lines (r :: rs) hf k
    obtain ⟨h3, h4⟩ := cmd_of_decode .json dst zd _ _ _ hdec
      (fun d hdm => hd d (List.mem_of_mem_take hdm))
    exact ⟨by rw [h3]; rfl, h4⟩

theorem encodeCmd_cut_gob (dst : Codec) (zs zd : Zone) (rs : List Result)
    (hs : ∀ r ∈ rs, ReprFor .gob zs r) (hd : ∀ r ∈ rs, ReprFor dst zd (gobDecoded r)) (k : Nat) :
    ∃ ps, valueFrames zs rs = some ps ∧ ps.length = rs.length ∧
      decodeWith dst (encodeCmd .gob dst zd ((encodeFrames (preFrames ++ ps)).take k)).1 =
        ((rs.take ((cutFrames (preFrames ++ ps) k).1.length - 4)).map (decodedBy dst ∘ gobDecoded), .eof) ∧
      (encodeCmd .gob dst zd ((encodeFrames (preFrames ++ ps)).take k)).2 =
        (gobTerm (cutFrames (preFrames ++ ps) k).1 (cutFrames (preFrames ++ ps) k).2 true == .eof) := by
  cases rs with
  | nil =>
    refine ⟨[], rfl, rfl, ?_⟩
    obtain ⟨h3, h4⟩ := cmd_of_decode .gob dst zd _ _ _
      (decodeGob_frames_cut [] [] (fun _ h => nomatch h) rfl k) (by simp)
    exact ⟨by rw [h4]; simp, h3⟩
  | cons r rs =>
    have hz : ZoneOK zs := (hs r (by simp)).2
    obtain ⟨ps, h1, h2, hdec⟩ := decodeGob_cut zs (r :: rs) hz (fun x hx => (hs x hx).1) k
    refine ⟨ps, h1, h2, ?_⟩
    rw [← List.map_take] at hdec
    obtain ⟨h3, h4⟩ := cmd_of_decode .gob dst zd _ _ _ hdec
      (List.forall_mem_map.2 fun x hx => hd x (List.mem_of_mem_take hx))
    exact ⟨by rw [h4, List.map_map], h3⟩

theorem encodeCmd_cut_csv (dst : Codec) (zd : Zone) (rs : List Result)
    (hs : ∀ r ∈ rs, ReprCSVResult r) (hd : ∀ r ∈ rs, ReprFor dst zd (csvDecoded r)) (m : Nat) :
    (encodeCmd .csv dst zd ((encodeCSVAll rs).take (encodeCSVAll (rs.take m)).length)).2 = true ∧
    decodeWith dst (encodeCmd .csv dst zd ((encodeCSVAll rs).take (encodeCSVAll (rs.take m)).length)).1 =
      ((rs.take m).map (decodedBy dst ∘ csvDecoded), .eof) := by
  rw [encodeCSVAll_take]
  have hdec : decodeWith .csv (encodeCSVAll (rs.take m)) = ((rs.take m).map csvDecoded, .eof) :=
    decodeCSV_encodeCSVAll _ (fun r hr => hs r (List.mem_of_mem_take hr))
  obtain ⟨h3, h4⟩ := cmd_of_decode .csv dst zd _ _ _ hdec
    (List.forall_mem_map.2 fun r hr => hd r (List.mem_of_mem_take hr))
  exact ⟨by rw [h3]; rfl, by rw [h4, List.map_map]⟩

/-- a minimal result lying in the gob domain (zone UTC) and, after gob decoding, in the CSV domain -/
def cmdExample : Result := { timestamp := 1 }

theorem cmdExample_gob : ReprGobResult .utc cmdExample where
  num := ⟨by decide +kernel, by decide +kernel, by decide +kernel, by decide +kernel, by unfold inS64 minInt64 maxInt64; decide +kernel, by decide +kernel, by decide +kernel⟩
  headers := by intro h hh; cases hh
  size := by
    show ∀ p ∈ valuePayload .utc cmdExample, p.length < tooBig
    decide +kernel

theorem cmdExample_csv : ReprCSVResult (gobDecoded cmdExample) where
  num := by constructor <;> decide +kernel
  attack := by decide +kernel
  error := by decide +kernel
  method := by decide +kernel
  url := by decide +kernel
  body := by decide +kernel
  headers := by intro h hh; cases hh

example : ∃ inp, encodeAllWith .gob .utc [cmdExample] = some inp ∧ (encodeCmd .gob .csv .utc inp).2 = true ∧
    decodeWith .csv (encodeCmd .gob .csv .utc inp).1 = ([cmdExample].map (decodedBy .csv ∘ decodedBy .gob), .eof) :=
  encodeCmd_complete .gob .csv .utc .utc [cmdExample]
    (List.forall_mem_singleton.2 ⟨cmdExample_gob, trivial⟩)
    (List.forall_mem_singleton.2 cmdExample_csv)

-- the same input cut after 3 bytes of its single value message: no record comes out, the command reports the error
set_option maxRecDepth 20000 in
example : ∃ ps, valueFrames .utc [cmdExample] = some ps ∧ ps.length = 1 ∧
    decodeWith .csv (encodeCmd .gob .csv .utc ((encodeFrames (preFrames ++ ps)).take ((encodeFrames preFrames).length + 3))).1 =
      ([], .eof) ∧
    (encodeCmd .gob .csv .utc ((encodeFrames (preFrames ++ ps)).take ((encodeFrames preFrames).length + 3))).2 = false := by
  obtain ⟨ps, h1, h2, h3, h4⟩ := encodeCmd_cut_gob .csv .utc .utc [cmdExample]
    (List.forall_mem_singleton.2 ⟨cmdExample_gob, trivial⟩)
    (List.forall_mem_singleton.2 cmdExample_csv) ((encodeFrames preFrames).length + 3)
  have hps : valueFrames .utc [cmdExample] =
      some [[255, 128, 4, 15, 1, 0, 0, 0, 14, 119, 145, 247, 0, 0, 0, 0, 1, 255, 255, 0]] := by decide +kernel
  rw [hps] at h1
  cases h1
  have hc : cutFrames (preFrames ++ [[255, 128, 4, 15, 1, 0, 0, 0, 14, 119, 145, 247, 0, 0, 0, 0, 1, 255, 255, 0]])
      ((encodeFrames preFrames).length + 3) = (preFrames, .incomplete) := by decide +kernel
  simp only [hc] at h3 h4
  exact ⟨_, hps, rfl, h3, h4⟩

end Vegeta.Proofs.EncodeCmd
