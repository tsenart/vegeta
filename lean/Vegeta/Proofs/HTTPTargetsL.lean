/-
List-level view of the http targeter: the same decode written over the list of lines the
peeking scanner will still deliver (`eff`); `HTTPTargets.call` on a scanner state behaves exactly
like `callL` on `eff` of that state.  The only effect of the `peeked == ""` conflation is that an
exactly empty peeked line is consumed — which `callL` does explicitly.
-/
import Vegeta.Model.HTTPTargets
namespace Vegeta.Proofs.HTTPTargetsL
open Vegeta.Go
open Vegeta.Model.Histogram (trimSpace)
open Vegeta.Model.HTTPTargets

/-- the lines the peeking scanner will still deliver through `Scan`/`Text` -/
def eff (ps : PS) : List Bytes := if ps.peeked = [] then ps.rest else ps.peeked :: ps.rest

def skipL : List Bytes → Option (Bytes × List Bytes)
  | [] => none
  | t :: r =>
    let line := trimSpace t
    if line ≠ [] ∧ line.head? ≠ some 35 then some (line, r) else skipL r

def headerL (cfg : Cfg) : List Bytes → Target → Heap → Option Nat × List Bytes × Target × Heap
  | [], tgt, h => (none, [], tgt, h)
  | t :: r, tgt, h =>
    match headerStep cfg (trimSpace t) tgt h with
    | .stop e tgt' h' => (e, r, tgt', h')
    | .next tgt' h' => headerL cfg r tgt' h'

/-- what `Peek` leaves to be delivered: an exactly empty line is lost -/
def afterPeek : List Bytes → List Bytes
  | [] => []
  | p :: r => if p = [] then r else p :: r

/-- the peek loop on the remaining lines; `lastc` is what `peeked` holds (nothing, or the
comment peeked last). Returns the trimmed line the decision is made on and the lines that
will still be delivered: at the end of the input the last comment stays behind. -/
def peekL : List Bytes → Bytes → Bytes × List Bytes
  | [], lastc => ([], if lastc = [] then [] else [lastc])
  | p :: r, _ =>
    if (trimSpace p).head? = some 35 then peekL r p else (trimSpace p, afterPeek (p :: r))

def callL (cfg : Cfg) (ls : List Bytes) (h : Heap) : Outcome Target × List Bytes × Heap :=
  match skipL ls with
  | none => (.error eNoTargets, [], h)
  | some (line, r) =>
    match requestLine cfg line (copyDefaults cfg.hdr h).1 with
    | .error e => (.error e, r, (copyDefaults cfg.hdr h).2)
    | .ok tgt =>
      if returnsAfterPeek (peekL r []).1 then (.ok tgt, (peekL r []).2, (copyDefaults cfg.hdr h).2)
      else
        match headerL cfg (peekL r []).2 tgt (copyDefaults cfg.hdr h).2 with
        | (some e, r3, _, h3) => (.error e, r3, h3)
        | (none, r3, tgt3, h3) => (.ok tgt3, r3, h3)

/-- `n` calls; every result is paired with the heap right after that call -/
def callsL (cfg : Cfg) : Nat → List Bytes → Heap → List (Outcome Target × Heap) × List Bytes × Heap
  | 0, ls, h => ([], ls, h)
  | n + 1, ls, h =>
    let (r, ls1, h1) := callL cfg ls h
    let (rs, ls2, h2) := callsL cfg n ls1 h1
    ((r, h1) :: rs, ls2, h2)

/-- the model's calls, every result paired with the heap right after that call (the moment
the caller looks at the returned target) -/
def callsH (cfg : Cfg) : Nat → St → List (Outcome Target × Heap) × St
  | 0, st => ([], st)
  | n + 1, st =>
    let (r, st1) := call cfg st
    let (rs, st2) := callsH cfg n st1
    ((r, st1.heap) :: rs, st2)

theorem callsH_calls (cfg : Cfg) : ∀ (n : Nat) (st : St),
    (calls cfg n st).1 = (callsH cfg n st).1.map (·.1) ∧ (calls cfg n st).2 = (callsH cfg n st).2 := by
  intro n
  induction n with
  | zero => intro st; exact ⟨rfl, rfl⟩
  | succ n ih =>
    intro st
    simp only [calls, callsH]
    have := ih (call cfg st).2
    exact ⟨by simp [this.1], this.2⟩

theorem headerStep_spec (cfg : Cfg) (line : Bytes) (tgt : Target) (h : Heap) :
    match headerStep cfg line tgt h with
    | .stop e tgt' h' => (tgt'.header, h') = (tgt.header, h) ∧ (e = none ∨ e = some eBadBody ∨ e = some eBadHeader)
    | .next tgt' h' => (tgt'.header, h') = (tgt.header, h) ∨ ∃ k v, (tgt'.header, h') = addHeader tgt.header h k v := by
  unfold headerStep
  by_cases h1 : line = []
  · rw [if_pos h1]; exact ⟨rfl, .inl rfl⟩
  rw [if_neg h1]
  by_cases h2 : line.head? = some 35
  · rw [if_pos h2]; exact Or.inl rfl
  rw [if_neg h2]
  by_cases h3 : line.head? = some 64
  · rw [if_pos h3]
    cases cfg.fs line.tail
    · exact ⟨rfl, .inr (.inl rfl)⟩
    · exact ⟨rfl, .inl rfl⟩
  rw [if_neg h3]
  cases splitFirst 58 line with
  | none => exact ⟨rfl, .inr (.inr rfl)⟩
  | some kv =>
    dsimp only
    by_cases h4 : trimSpace kv.1 = [] ∨ trimSpace kv.2 = []
    · rw [if_pos h4]; exact ⟨rfl, .inr (.inr rfl)⟩
    · rw [if_neg h4]; exact Or.inr ⟨_, _, rfl⟩

/-! The four ways through `callL`, and through `call`, each with the results of the loops as hypotheses. -/

section
variable {cfg : Cfg} {ls r r3 : List Bytes} {h h3 : Heap} {line : Bytes} {tgt tgt3 : Target} {st : St} {ps1 ps3 : PS}

theorem callL_none (hs : skipL ls = none) : callL cfg ls h = (.error eNoTargets, [], h) := by
  simp only [callL, hs]

theorem callL_badRequest {e : Nat} (hs : skipL ls = some (line, r))
    (hq : requestLine cfg line (copyDefaults cfg.hdr h).1 = .error e) :
    callL cfg ls h = (.error e, r, (copyDefaults cfg.hdr h).2) := by
  simp only [callL, hs, hq]

theorem callL_returns (hs : skipL ls = some (line, r)) (hq : requestLine cfg line (copyDefaults cfg.hdr h).1 = .ok tgt)
    (hp : returnsAfterPeek (peekL r []).1 = true) :
    callL cfg ls h = (.ok tgt, (peekL r []).2, (copyDefaults cfg.hdr h).2) := by
  simp only [callL, hs, hq, hp, ↓reduceIte]

theorem callL_headers {e : Option Nat} (hs : skipL ls = some (line, r))
    (hq : requestLine cfg line (copyDefaults cfg.hdr h).1 = .ok tgt) (hp : returnsAfterPeek (peekL r []).1 = false)
    (hh : headerL cfg (peekL r []).2 tgt (copyDefaults cfg.hdr h).2 = (e, r3, tgt3, h3)) :
    callL cfg ls h = (match (generalizing := false) e with | some e => .error e | none => .ok tgt3, r3, h3) := by
  simp only [callL, hs, hq, hp, hh, Bool.false_eq_true, ↓reduceIte]
  cases e <;> rfl

theorem call_none (hs : skipLoop (st.ps.rest.length + 2) st.ps = (none, ps1)) :
    call cfg st = (.error eNoTargets, { st with ps := ps1 }) := by
  simp only [call, hs]

theorem call_badRequest {e : Nat} (hs : skipLoop (st.ps.rest.length + 2) st.ps = (some line, ps1))
    (hq : requestLine cfg line (copyDefaults cfg.hdr st.heap).1 = .error e) :
    call cfg st = (.error e, { ps := ps1, heap := (copyDefaults cfg.hdr st.heap).2 }) := by
  simp only [call, hs, hq]

theorem call_returns (hs : skipLoop (st.ps.rest.length + 2) st.ps = (some line, ps1))
    (hq : requestLine cfg line (copyDefaults cfg.hdr st.heap).1 = .ok tgt)
    (hp : returnsAfterPeek (peekLoop (st.ps.rest.length + 2) ps1).1 = true) :
    call cfg st = (.ok tgt, { ps := (peekLoop (st.ps.rest.length + 2) ps1).2, heap := (copyDefaults cfg.hdr st.heap).2 }) := by
  simp only [call, hs, hq, hp, ↓reduceIte]

theorem call_headers {e : Option Nat} (hs : skipLoop (st.ps.rest.length + 2) st.ps = (some line, ps1))
    (hq : requestLine cfg line (copyDefaults cfg.hdr st.heap).1 = .ok tgt)
    (hp : returnsAfterPeek (peekLoop (st.ps.rest.length + 2) ps1).1 = false)
    (hh : headerLoop cfg (st.ps.rest.length + 2) (peekLoop (st.ps.rest.length + 2) ps1).2 tgt (copyDefaults cfg.hdr st.heap).2 =
      (e, ps3, tgt3, h3)) :
    call cfg st = (match (generalizing := false) e with | some e => .error e | none => .ok tgt3, { ps := ps3, heap := h3 }) := by
  simp only [call, hs, hq, hp, hh, Bool.false_eq_true, ↓reduceIte]
  cases e <;> rfl

end

theorem eff_nil_peeked {ps : PS} (h : ps.peeked = []) : eff ps = ps.rest := by simp [eff, h]

theorem eff_init (src : Bytes) : eff (PS.init src) = srcLines src := by simp [eff, PS.init]

theorem eff_length_le (ps : PS) : (eff ps).length ≤ ps.rest.length + 1 := by
  unfold eff; split <;> simp

theorem scan_nil {ps : PS} (he : eff ps = []) : ∃ ps1, ps.scan = (false, ps1) ∧ eff ps1 = [] ∧ ps1.peeked = [] := by
  obtain ⟨rest, cur, peeked⟩ := ps
  cases peeked with
  | nil => cases (he : rest = []); exact ⟨_, rfl, rfl, rfl⟩
  | cons a p => cases he

theorem scan_text {ps : PS} {l : Bytes} {r : List Bytes} (he : eff ps = l :: r) :
    ∃ ps1 ps2, ps.scan = (true, ps1) ∧ ps1.text = (l, ps2) ∧ eff ps2 = r ∧ ps2.peeked = [] := by
  obtain ⟨rest, cur, peeked⟩ := ps
  cases peeked with
  | nil => cases (he : rest = l :: r); exact ⟨_, _, rfl, rfl, rfl, rfl⟩
  | cons a p => cases (he : (a :: p) :: rest = l :: r); exact ⟨_, _, rfl, rfl, rfl, rfl⟩

theorem skipLoop_refines : ∀ (fuel : Nat) (ps : PS), (eff ps).length < fuel →
    ∃ ps', skipLoop fuel ps = ((skipL (eff ps)).map (·.1), ps') ∧
      eff ps' = ((skipL (eff ps)).map (·.2)).getD [] ∧ ps'.peeked = [] := by
  intro fuel
  induction fuel with
  | zero => intro ps h; omega
  | succ f ih =>
    intro ps hf
    cases he : eff ps with
    | nil =>
      obtain ⟨ps1, h1, h2, h3⟩ := scan_nil he
      exact ⟨ps1, by simp only [skipLoop, h1, skipL, Option.map_none], h2, h3⟩
    | cons l r =>
      obtain ⟨ps1, ps2, h1, h2, h3, h4⟩ := scan_text he
      simp only [skipLoop, h1, h2, skipL]
      by_cases hc : trimSpace l ≠ [] ∧ (trimSpace l).head? ≠ some 35
      · rw [if_pos hc, if_pos hc]
        exact ⟨ps2, rfl, h3, h4⟩
      · rw [if_neg hc, if_neg hc, ← h3]
        exact ih ps2 (by rw [he] at hf; rw [h3]; exact Nat.lt_of_succ_lt_succ hf)

theorem headerLoop_refines (cfg : Cfg) : ∀ (fuel : Nat) (ps : PS) (tgt : Target) (h : Heap), (eff ps).length < fuel →
    ∃ ps', headerLoop cfg fuel ps tgt h =
        ((headerL cfg (eff ps) tgt h).1, ps', (headerL cfg (eff ps) tgt h).2.2.1, (headerL cfg (eff ps) tgt h).2.2.2) ∧
      eff ps' = (headerL cfg (eff ps) tgt h).2.1 := by
  intro fuel
  induction fuel with
  | zero => intro ps _ _ h; omega
  | succ f ih =>
    intro ps tgt h hf
    cases he : eff ps with
    | nil =>
      obtain ⟨ps1, h1, h2, _⟩ := scan_nil he
      exact ⟨ps1, by simp only [headerLoop, h1, headerL], h2⟩
    | cons l r =>
      obtain ⟨ps1, ps2, h1, h2, h3, _⟩ := scan_text he
      simp only [headerLoop, h1, h2, headerL]
      cases headerStep cfg (trimSpace l) tgt h with
      | stop e tgt' h' => exact ⟨ps2, rfl, h3⟩
      | next tgt' h' =>
        rw [← h3]
        exact ih ps2 tgt' h' (by rw [he] at hf; rw [h3]; exact Nat.lt_of_succ_lt_succ hf)

/-- the peek loop refines `peekL`: `rest` are the lines the scanner still has, `peeked` what the
last `Peek` left there -/
theorem peekLoop_refines : ∀ (fuel : Nat) (ps : PS), ps.rest.length < fuel →
    (peekLoop fuel ps).1 = (peekL ps.rest ps.peeked).1 ∧ eff (peekLoop fuel ps).2 = (peekL ps.rest ps.peeked).2 := by
  intro fuel
  induction fuel with
  | zero => intro ps h; omega
  | succ f ih =>
    rintro ⟨rest, cur, peeked⟩ hf
    cases rest with
    | nil => exact ⟨rfl, rfl⟩
    | cons p r =>
      have hp : PS.peek ⟨p :: r, cur, peeked⟩ = (p, ⟨r, p, p⟩) := rfl
      simp only [peekLoop, hp, peekL]
      by_cases hc : (trimSpace p).head? = some 35
      · rw [if_pos hc, if_pos hc]
        exact ih _ (Nat.lt_of_succ_lt_succ hf)
      · rw [if_neg hc, if_neg hc]
        exact ⟨rfl, rfl⟩

theorem skipL_length {ls : List Bytes} {line : Bytes} {r : List Bytes} (hs : skipL ls = some (line, r)) :
    r.length < ls.length := by
  induction ls with
  | nil => cases hs
  | cons t ls ih =>
    rw [skipL] at hs
    split at hs
    · cases hs; exact Nat.lt_succ_self _
    · exact Nat.lt_succ_of_lt (ih hs)

theorem afterPeek_length_le (ls : List Bytes) : (afterPeek ls).length ≤ ls.length := by
  cases ls with
  | nil => exact Nat.le_refl _
  | cons p r => simp only [afterPeek]; split <;> simp

theorem peekL_length : ∀ (r : List Bytes) (lastc : Bytes),
    (peekL r lastc).2.length ≤ r.length + (if lastc = [] then 0 else 1) := by
  intro r
  induction r with
  | nil => intro lastc; simp only [peekL]; split <;> simp
  | cons p r ih =>
    intro lastc
    simp only [peekL, List.length_cons]
    by_cases hc : (trimSpace p).head? = some 35
    · -- `p` is a comment, so not empty: it is what stays behind at the end of the input
      have hp : p ≠ [] := by rintro rfl; cases hc
      have := ih p
      rw [if_neg hp] at this
      rw [if_pos hc]
      omega
    · rw [if_neg hc]
      exact Nat.le_trans (afterPeek_length_le (p :: r)) (Nat.le_add_right _ _)

/-- a line the decision does not return on is delivered again: nothing was lost -/
theorem peekL_not_returning : ∀ (r : List Bytes) (lastc : Bytes), returnsAfterPeek (peekL r lastc).1 = false →
    ∃ p r', (peekL r lastc).2 = p :: r' ∧ (peekL r lastc).1 = trimSpace p := by
  intro r
  induction r with
  | nil => intro lastc h; cases h
  | cons p r ih =>
    intro lastc h
    simp only [peekL] at h ⊢
    by_cases hc : (trimSpace p).head? = some 35
    · rw [if_pos hc] at h ⊢
      exact ih p h
    · rw [if_neg hc] at h ⊢
      have hp : p ≠ [] := by rintro rfl; cases h
      exact ⟨p, r, if_neg hp, rfl⟩

/-- **Refinement**: one call on a scanner state is `callL` on the lines it will still deliver. -/
theorem call_refines (cfg : Cfg) (st : St) :
    ∃ ps', call cfg st = ((callL cfg (eff st.ps) st.heap).1, { ps := ps', heap := (callL cfg (eff st.ps) st.heap).2.2 }) ∧
      eff ps' = (callL cfg (eff st.ps) st.heap).2.1 := by
  have hfuel := eff_length_le st.ps
  obtain ⟨ps1, e1, e2, e3⟩ := skipLoop_refines (st.ps.rest.length + 2) st.ps (by omega)
  cases hs : skipL (eff st.ps) with
  | none =>
    rw [hs] at e1 e2
    rw [callL_none hs]
    exact ⟨ps1, call_none e1, e2⟩
  | some lr =>
    obtain ⟨line, r⟩ := lr
    rw [hs] at e1 e2
    replace e2 : eff ps1 = r := e2
    cases hrq : requestLine cfg line (copyDefaults cfg.hdr st.heap).1 with
    | error e =>
      rw [callL_badRequest hs hrq]
      exact ⟨ps1, call_badRequest e1 hrq, e2⟩
    | ok tgt =>
      have hlen : r.length < st.ps.rest.length + 2 := by have := skipL_length hs; omega
      have hrest : ps1.rest = r := by rw [← eff_nil_peeked e3, e2]
      obtain ⟨p1, p2⟩ := peekLoop_refines (st.ps.rest.length + 2) ps1 (by rw [hrest]; exact hlen)
      rw [hrest, e3] at p1 p2
      cases hret : returnsAfterPeek (peekL r []).1 with
      | true =>
        rw [callL_returns hs hrq hret]
        exact ⟨_, call_returns e1 hrq (by rw [p1]; exact hret), p2⟩
      | false =>
        obtain ⟨ps3, q1, q2⟩ := headerLoop_refines cfg (st.ps.rest.length + 2) _ tgt (copyDefaults cfg.hdr st.heap).2
          (by rw [p2]; exact Nat.lt_of_le_of_lt (peekL_length r []) hlen)
        rw [p2] at q1 q2
        rw [callL_headers hs hrq hret rfl]
        exact ⟨ps3, call_headers e1 hrq (by rw [p1]; exact hret) q1, q2⟩

theorem calls_refines (cfg : Cfg) : ∀ (n : Nat) (st : St),
    ∃ ps', callsH cfg n st = ((callsL cfg n (eff st.ps) st.heap).1, { ps := ps', heap := (callsL cfg n (eff st.ps) st.heap).2.2 }) ∧
      eff ps' = (callsL cfg n (eff st.ps) st.heap).2.1 := by
  intro n
  induction n with
  | zero => intro st; exact ⟨st.ps, rfl, rfl⟩
  | succ n ih =>
    intro st
    obtain ⟨ps1, c1, c2⟩ := call_refines cfg st
    obtain ⟨ps2, d1, d2⟩ := ih { ps := ps1, heap := (callL cfg (eff st.ps) st.heap).2.2 }
    simp only [callsH, callsL, c1]
    simp only [c2] at d1 d2
    rw [d1]
    exact ⟨ps2, rfl, d2⟩

end Vegeta.Proofs.HTTPTargetsL
