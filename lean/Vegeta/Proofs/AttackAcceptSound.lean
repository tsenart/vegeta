/-
Soundness of the trace acceptor used by the controlled-schedule conformance check: every state
the acceptor carries is a reachable state of the transition system, so every observation it
accepts is the observation of a state in which all the invariants of Proofs/AttackInv.lean hold.
Last, the sort that `obsOf` applies to the sequence numbers inside the transport keeps their number.
-/
import Vegeta.Model.AttackAccept
import Vegeta.Proofs.AttackInv
namespace Vegeta.Proofs.Attack
open Vegeta.Model.Attack

variable {w m d : Nat}

theorem filterMap_step_reachable (ss : List St) (l : Lbl) (h : ∀ s ∈ ss, Reachable w m d s) :
    ∀ s ∈ ss.filterMap (step · l), Reachable w m d s := by
  intro s hs
  obtain ⟨s0, h0, hst⟩ := List.mem_filterMap.mp hs
  exact Reachable.step l (h s0 h0) hst

theorem tauSucc_reachable (s : St) (fm : Bool) (h : Reachable w m d s) : ∀ s' ∈ tauSucc s fm, Reachable w m d s' := by
  intro s' hs'
  unfold tauSucc at hs'
  obtain ⟨l, _, hst⟩ := List.mem_filterMap.mp hs'
  exact Reachable.step l h hst

theorem closure_reachable : ∀ (fuel : Nat) (fm : Bool) (todo seen acc : List St),
    (∀ s ∈ todo, Reachable w m d s) → (∀ s ∈ acc, Reachable w m d s) →
    ∀ s ∈ closure fuel fm todo seen acc, Reachable w m d s := by
  intro fuel
  induction fuel with
  | zero => intro fm todo seen acc _ ha; exact ha
  | succ fuel ih =>
    intro fm todo seen acc ht ha s hs
    cases todo with
    | nil => exact ha s hs
    | cons s0 rest =>
      obtain ⟨h0, hr⟩ := List.forall_mem_cons.mp ht
      simp only [closure] at hs
      split at hs
      · exact ih fm rest seen acc hr ha s hs
      · split at hs
        · refine ih fm rest (s0 :: seen) _ hr ?_ s hs
          split
          · exact ha
          · exact List.forall_mem_cons.mpr ⟨h0, ha⟩
        · exact ih fm _ (s0 :: seen) acc (List.forall_mem_append.mpr ⟨tauSucc_reachable s0 fm h0, hr⟩) ha s hs

theorem quiesce_reachable (fm : Bool) (ss : List St) (h : ∀ s ∈ ss, Reachable w m d s) :
    ∀ s ∈ quiesce fm ss, Reachable w m d s :=
  closure_reachable _ fm ss [] [] h (by simp)

theorem applyCmd_reachable (a : ASt) (c : Cmd) (co : CmdObs) (h : ∀ s ∈ a.states, Reachable w m d s) :
    ∀ s ∈ (applyCmd a c co).states, Reachable w m d s := by
  intro s hs
  unfold applyCmd at hs
  split at hs
  · exact filterMap_step_reachable _ _ h s hs
  · exact filterMap_step_reachable _ _ h s hs
  · exact filterMap_step_reachable _ _ h s hs
  · exact h s hs
  · exact h s hs
  · obtain ⟨s0, h0, hst⟩ := List.mem_filterMap.mp hs
    split at hst
    · cases hst
    · exact Reachable.step _ (h s0 h0) hst
  · exact h s (List.mem_filter.mp hs).1
  · exact h s (List.mem_filter.mp hs).1
  · obtain ⟨s0, h0, hst⟩ := List.mem_filterMap.mp hs
    split at hst
    · exact Reachable.step _ (h s0 h0) hst
    · cases hst
  · simp at hs

theorem explained_of_candidates {qs : List St} {sc : Bool} {o : Obs} (hq : ∀ s ∈ qs, Reachable w m d s)
    (hne : ¬ (qs.filter fun s => obsOf s sc == o).isEmpty = true) : ∃ s, Reachable w m d s ∧ obsOf s sc = o := by
  obtain ⟨s0, hs0⟩ := List.exists_mem_of_ne_nil _ (mt List.isEmpty_iff.mpr hne)
  obtain ⟨h1, h2⟩ := List.mem_filter.mp hs0
  exact ⟨s0, hq s0 h1, eq_of_beq h2⟩

/-- Each observation of an accepted trace is the observable projection of a reachable state, so
the invariants of all reachable states hold of a model state that looks like what the real attack
showed at that point. -/
theorem accept_explained : ∀ (tr : List (Cmd × CmdObs × Obs)) (a : ASt) (k : Nat),
    (∀ s ∈ a.states, Reachable w m d s) → accept a k tr = none →
    ∀ x ∈ tr, ∃ s sc, Reachable w m d s ∧ obsOf s sc = x.2.2 := by
  intro tr
  induction tr with
  | nil => intro a k _ _ x hx; cases hx
  | cons hd rest ih =>
    intro a k ha hacc x hx
    obtain ⟨c, co, o⟩ := hd
    simp only [accept] at hacc
    split at hacc
    · cases hacc
    · rename_i hne
      have hq := quiesce_reachable (applyCmd a c co).failMode _ (applyCmd_reachable a c co ha)
      rcases List.mem_cons.mp hx with rfl | hx
      · exact (explained_of_candidates hq hne).imp fun s h => ⟨_, h⟩
      · exact ih _ (k + 1) (fun s hs => hq s (List.mem_filter.mp hs).1) hacc x hx

theorem acceptRun_explained (workers maxW : Nat) (o0 : Obs) (tr : List (Cmd × CmdObs × Obs))
    (h : acceptRun workers maxW o0 tr = none) :
    (∃ s, Reachable workers maxW 0 s ∧ obsOf s false = o0) ∧
    ∀ x ∈ tr, ∃ s sc, Reachable workers maxW 0 s ∧ obsOf s sc = x.2.2 := by
  simp only [acceptRun] at h
  split at h
  · cases h
  · rename_i hne
    have hq : ∀ s ∈ quiesce false [init workers maxW 0], Reachable workers maxW 0 s :=
      quiesce_reachable false _ fun s hs => by cases List.mem_singleton.mp hs; exact Reachable.init
    exact ⟨explained_of_candidates hq hne, accept_explained tr _ 1 (fun s hs => hq s (List.mem_filter.mp hs).1) h⟩

theorem insertSorted_length (x : Nat) (l : List Nat) : (insertSorted x l).length = l.length + 1 := by
  induction l with
  | nil => rfl
  | cons y ys ih => unfold insertSorted; split <;> simp [ih]

theorem sortNat_length (l : List Nat) : (sortNat l).length = l.length := by
  induction l with
  | nil => rfl
  | cons x xs ih => exact (insertSorted_length x (sortNat xs)).trans (congrArg (· + 1) ih)

end Vegeta.Proofs.Attack
