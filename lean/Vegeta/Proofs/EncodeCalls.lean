/-
Encoders as objects called repeatedly (`Vegeta.Model.EncodeCmd.encCalls`): whatever the sequence of calls
— encodable results or not, the caller going on after failures — the writer holds exactly the whole
records of the calls that returned nil (gob: after the type definitions, sent once), which calls those
are, and what the matching decoder reads back from it.
-/
import Vegeta.Proofs.EncodeCmdDomain
import Vegeta.Proofs.GobValueResult
import Vegeta.Proofs.CodecCSVResult
import Vegeta.Proofs.CodecJSONResult
import Vegeta.Proofs.CodecRFC3339
import Vegeta.Proofs.JSONStream
namespace Vegeta.Proofs.EncodeCmd
open Vegeta.Go Vegeta.Model.Codec Vegeta.Model.GobFrame Vegeta.Model.GobValue Vegeta.Model.EncodeCmd
open Vegeta.Proofs.Codec Vegeta.Proofs.Gob Vegeta.Proofs.GobFrame

theorem encCalls_cons (c : Codec) (st : EncState) (a : Zone × Result) (rest : List (Zone × Result)) :
    encCalls c st (a :: rest) =
      ((encCall c st a.1 a.2).bytes ++ (encCalls c (encCall c st a.1 a.2).st rest).1,
       (encCall c st a.1 a.2).ok :: (encCalls c (encCall c st a.1 a.2).st rest).2) := by
  cases a; rfl

theorem okCalls_nil (c : Codec) (st : EncState) : okCalls c st [] = [] := rfl

theorem okCalls_cons (c : Codec) (st : EncState) (a : Zone × Result) (rest : List (Zone × Result)) :
    okCalls c st (a :: rest) =
      if (encCall c st a.1 a.2).ok then a :: okCalls c (encCall c st a.1 a.2).st rest
      else okCalls c (encCall c st a.1 a.2).st rest := by
  unfold okCalls
  rw [encCalls_cons]
  simp only [List.zip_cons_cons, List.filter_cons]
  split <;> simp

theorem okCalls_eq_filter (c : Codec) (st : EncState) (args : List (Zone × Result)) (p : Zone × Result → Bool)
    (h : (encCalls c st args).2 = args.map p) : okCalls c st args = args.filter p := by
  have hz : ∀ l : List (Zone × Result), ((l.zip (l.map p)).filter (·.2)).map (·.1) = l.filter p := by
    intro l
    induction l with
    | nil => rfl
    | cons a l ih => cases hp : p a <;> simp [hp, ih]
  unfold okCalls
  rw [h, hz]

theorem okCalls_of_all_ok (c : Codec) (st : EncState) (args : List (Zone × Result))
    (h : (encCalls c st args).2 = args.map fun _ => true) : okCalls c st args = args := by
  rw [okCalls_eq_filter _ _ _ _ h]
  exact List.filter_eq_self.2 fun _ _ => rfl

theorem csv_calls (st : EncState) (args : List (Zone × Result)) :
    encCalls .csv st args = (encodeCSVAll (args.map (·.2)), args.map (fun _ => true)) := by
  induction args generalizing st with
  | nil => rfl
  | cons a rest ih =>
    rw [encCalls_cons]
    simp only [encCall, ih, encodeCSVAll, List.map_cons, List.flatMap_cons]

/-- which calls return nil: CSV all, … -/
theorem okCalls_csv (st : EncState) (args : List (Zone × Result)) : okCalls .csv st args = args :=
  okCalls_of_all_ok _ _ _ (by rw [csv_calls])

def jsonOK (a : Zone × Result) : Bool := (encodeJSON (zoneMin a.1) a.2).isSome

theorem json_calls_failed (st : EncState) (hst : st.jsonFailed = true) (args : List (Zone × Result)) :
    encCalls .json st args = ([], args.map (fun _ => false)) := by
  induction args with
  | nil => rfl
  | cons a rest ih =>
    rw [encCalls_cons]
    simp only [encCall, hst, if_true, ih, List.map_cons, List.nil_append]

theorem okCalls_json_failed (st : EncState) (hst : st.jsonFailed = true) (args : List (Zone × Result)) :
    okCalls .json st args = [] := by
  rw [okCalls_eq_filter _ _ _ (fun _ => false) (by rw [json_calls_failed st hst])]
  exact List.filter_eq_nil_iff.2 fun _ _ => Bool.false_ne_true

theorem json_calls (st : EncState) (hst : st.jsonFailed = false) (args : List (Zone × Result)) :
    encCalls .json st args =
      ((args.takeWhile jsonOK).flatMap (recordOf .json),
       (args.takeWhile jsonOK).map (fun _ => true) ++ (args.dropWhile jsonOK).map (fun _ => false)) := by
  induction args with
  | nil => rfl
  | cons a rest ih =>
    rw [encCalls_cons]
    cases he : encodeJSON (zoneMin a.1) a.2 with
    | none =>
      have hj : jsonOK a = false := by simp [jsonOK, he]
      simp only [encCall, hst, he, List.takeWhile_cons, List.dropWhile_cons, hj]
      rw [json_calls_failed _ rfl]
      simp
    | some b =>
      have hj : jsonOK a = true := by simp [jsonOK, he]
      simp only [encCall, hst, he, List.takeWhile_cons, List.dropWhile_cons, hj]
      simp [recordOf, he, ih]

/-- … JSON those before the first unmarshallable result (the encoder stays failed), … -/
theorem okCalls_json (st : EncState) (hst : st.jsonFailed = false) (args : List (Zone × Result)) :
    okCalls .json st args = args.takeWhile jsonOK := by
  induction args with
  | nil => rfl
  | cons a rest ih =>
    rw [okCalls_cons]
    cases he : encodeJSON (zoneMin a.1) a.2 with
    | none =>
      have hj : jsonOK a = false := by simp [jsonOK, he]
      simp only [encCall, hst, he, List.takeWhile_cons, hj]
      simp [okCalls_json_failed]
    | some b =>
      have hj : jsonOK a = true := by simp [jsonOK, he]
      simp only [encCall, hst, he, List.takeWhile_cons, hj]
      simp [ih]

def gobOK (a : Zone × Result) : Bool := (valuePayload a.1 a.2).isSome

theorem gob_calls (st : EncState) (args : List (Zone × Result)) :
    encCalls .gob st args =
      ((if st.gobTypesSent = true ∨ args = [] then [] else preamble) ++ (args.filter gobOK).flatMap (recordOf .gob),
       args.map gobOK) := by
  induction args generalizing st with
  | nil => simp [encCalls]
  | cons a rest ih =>
    rw [encCalls_cons]
    cases he : valuePayload a.1 a.2 with
    | none =>
      have hj : gobOK a = false := by simp [gobOK, he]
      simp only [encCall, he, ih, List.filter_cons, hj, List.map_cons]
      cases st.gobTypesSent <;> simp
    | some p =>
      have hj : gobOK a = true := by simp [gobOK, he]
      simp only [encCall, he, ih, List.filter_cons, hj, List.map_cons]
      cases st.gobTypesSent <;> simp [recordOf, he]

/-- … gob those whose result can be encoded -/
theorem okCalls_gob (st : EncState) (args : List (Zone × Result)) :
    okCalls .gob st args = args.filter gobOK :=
  okCalls_eq_filter _ _ _ gobOK (by rw [gob_calls])

/-- what the writer holds (described at `C09.encoder_calls_emit_whole_records`) -/
theorem enc_calls_whole_records (c : Codec) (args : List (Zone × Result)) :
    (encCalls c {} args).1 =
      (if c = .gob ∧ args ≠ [] then preamble else []) ++ (okCalls c {} args).flatMap (recordOf c) := by
  cases c with
  | csv =>
    rw [csv_calls, okCalls_csv]
    simp only [encodeCSVAll, List.flatMap_map]
    rfl
  | json =>
    rw [json_calls _ rfl, okCalls_json _ rfl]
    simp
  | gob =>
    rw [gob_calls, okCalls_gob]
    by_cases h : args = [] <;> simp [h]

/-- what the decoder reads back (the conjuncts of `C09.encoder_calls_decode`) -/
theorem enc_calls_decode_csv (args : List (Zone × Result)) (h : ∀ a ∈ args, ReprCSVResult a.2) :
    decodeCSV (encCalls .csv {} args).1 = (args.map (fun a => csvDecoded a.2), .eof) := by
  rw [csv_calls]
  simp only
  rw [decodeCSV_encodeCSVAll _ (List.forall_mem_map.2 h)]
  simp

theorem json_lines (l : List (Zone × Result))
    (h : ∀ a ∈ l, ReprJSONResult a.2 ∧ (zoneMin a.1).natAbs < 1440) :
    Forall₂ (fun l r => IsLine l ∧ decodeJSONLine l = .ok r) (l.map (recordOf .json)) (l.map (·.2)) := by
  induction l with
  | nil => exact .nil
  | cons a l ih =>
    obtain ⟨hr, hz⟩ := h a (by simp)
    obtain ⟨b, hb, hl, hd⟩ := json_record (zoneMin a.1) hz a.2 hr
    have hrec : recordOf .json a = b := by simp [recordOf, hb]
    simp only [List.map_cons, hrec]
    exact .cons ⟨hl, hd⟩ (ih (fun x hx => h x (by simp [hx])))

theorem enc_calls_decode_json (args : List (Zone × Result))
    (h : ∀ a ∈ okCalls .json {} args, ReprJSONResult a.2 ∧ (zoneMin a.1).natAbs < 1440) :
    decodeJSON (encCalls .json {} args).1 = ((okCalls .json {} args).map (·.2), .eof) := by
  rw [enc_calls_whole_records]
  simp only [reduceCtorEq, false_and, if_false, List.nil_append]
  rw [List.flatMap_def]
  exact decodeJSON_lines _ _ (json_lines _ h)

theorem gob_frames (l : List (Zone × Result)) (h : ∀ a ∈ l, ReprGobResult a.1 a.2 ∧ ZoneOK a.1) :
    ∃ ps, l.flatMap (recordOf .gob) = encodeFrames ps ∧ ps.length = l.length ∧ (∀ p ∈ ps, p.length < tooBig) ∧
      decValues ps = (l.map (fun a => gobDecoded a.2), true) := by
  induction l with
  | nil => exact ⟨[], rfl, rfl, by simp, rfl⟩
  | cons a l ih =>
    obtain ⟨ps, h1, h2, h3, h4⟩ := ih (fun x hx => h x (by simp [hx]))
    obtain ⟨hr, hz⟩ := h a (by simp)
    obtain ⟨p, hp1, hp2, hp3⟩ := decValue_valuePayload a.1 a.2 hz hr
    exact ⟨p :: ps, by simp [recordOf, hp1, h1, encodeFrames_cons], by simp [h2],
      List.forall_mem_cons.2 ⟨hp2, h3⟩, by simp [decValues, hp3, h4]⟩

theorem enc_calls_decode_gob (args : List (Zone × Result))
    (h : ∀ a ∈ okCalls .gob {} args, ReprGobResult a.1 a.2 ∧ ZoneOK a.1) :
    decodeGob (encCalls .gob {} args).1 =
      ((okCalls .gob {} args).map (fun a => gobDecoded a.2),
       if args = [] ∨ okCalls .gob {} args ≠ [] then .eof else .err) := by
  by_cases hargs : args = []
  · subst hargs
    decide
  · obtain ⟨ps, h1, h2, h3, h4⟩ := gob_frames _ h
    have hstream : (encCalls .gob {} args).1 = encodeFrames (preFrames ++ ps) := by
      rw [enc_calls_whole_records, if_pos ⟨rfl, hargs⟩, h1]
      simp [preamble, encodeFrames]
    have hnil : ps = [] ↔ okCalls .gob {} args = [] := by
      rw [← List.length_eq_zero_iff, h2, List.length_eq_zero_iff]
    rw [hstream, decodeGob_frames ps _ h3 h4]
    simp [hargs, hnil]

theorem takeWhile_dropWhile_of_all {α : Type} (p : α → Bool) (l : List α) (h : ∀ a ∈ l, p a = true) :
    l.takeWhile p = l ∧ l.dropWhile p = [] := by
  induction l with
  | nil => exact ⟨rfl, rfl⟩
  | cons a l ih => simp [h a (by simp), ih (fun x hx => h x (by simp [hx]))]

theorem encCalls_ok_of_repr (c : Codec) (z : Zone) (ds : List Result) (hd : ∀ d ∈ ds, ReprFor c z d) :
    (encCalls c {} (ds.map (z, ·))).2 = (ds.map (z, ·)).map fun _ => true := by
  cases c with
  | csv => rw [csv_calls]
  | json =>
    have hall : ∀ a ∈ ds.map (z, ·), jsonOK a = true := by
      intro a ha
      obtain ⟨d, hdm, rfl⟩ := List.mem_map.1 ha
      obtain ⟨b, hb, _⟩ := json_record (zoneMin z) (hd d hdm).2 d (hd d hdm).1
      simp [jsonOK, hb]
    rw [json_calls _ rfl, (takeWhile_dropWhile_of_all _ _ hall).1, (takeWhile_dropWhile_of_all _ _ hall).2]
    simp
  | gob =>
    rw [gob_calls]
    refine List.map_congr_left fun a ha => ?_
    obtain ⟨d, hdm, rfl⟩ := List.mem_map.1 ha
    obtain ⟨p, hp, _⟩ := decValue_valuePayload z d (hd d hdm).2 (hd d hdm).1
    simp [gobOK, hp]

/-- a result of year 10000: `Time.MarshalJSON` fails -/
def exLate : Result := { timestamp := 253402300800000000000 }
def exGood : Result := { timestamp := 1600000000000000123, attack := [97], body := some [104, 105] }

-- JSON: [ok, unencodable, ok] — the encoder stays failed
example : (encCalls .json {} [(.utc, exGood), (.utc, exLate), (.utc, exGood)]).2 = [true, false, false] := by decide +kernel
example : okCalls .json {} [(.utc, exGood), (.utc, exLate), (.utc, exGood)] = [(.utc, exGood)] := by decide +kernel

-- gob: a zone `Time.MarshalBinary` rejects (offset -1 minute) fails that call only
example : (encCalls .gob {} [(.utc, exGood), (.fixed (-60), exGood), (.utc, exGood)]).2 = [true, false, true] := by
  decide +kernel
example : okCalls .gob {} [(.utc, exGood), (.fixed (-60), exGood), (.utc, exGood)] = [(.utc, exGood), (.utc, exGood)] := by
  decide +kernel
-- a failing first call still sends the type definitions; they read as an unexpected end
set_option maxRecDepth 20000 in
example : (encCalls .gob {} [(.fixed (-60), exGood)]).1 = preamble ∧ decodeGob preamble = ([], .err) := by decide +kernel

end Vegeta.Proofs.EncodeCmd
