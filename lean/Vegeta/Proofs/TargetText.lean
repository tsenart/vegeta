/-
Text-level lemmas for C14: the byte classes of the grammar (`isPlain`, `IsPad`, `EdgePlain`),
`strings.TrimSpace` on padded lines, `bufio.ScanLines` on rendered files, `dropCR`, `SplitN`, the
method regexp.
-/
import Vegeta.Model.HTTPTargets
import Vegeta.Spec.TargetGrammar
namespace Vegeta.Proofs.TargetText
open Vegeta.Go
open Vegeta.Model.Histogram
open Vegeta.Model.HTTPTargets
open Vegeta.Spec.TargetGrammar (isPadByte IsPad isPlain EdgePlain)

theorem pad_ascii {c : Nat} (h : isPadByte c = true) : isAsciiSpace c = true := by
  simp only [isPadByte, Bool.or_eq_true, beq_iff_eq] at h
  rcases h with (((rfl | rfl) | rfl) | rfl) | rfl <;> rfl

theorem plain_bounds {c : Nat} (h : isPlain c = true) : 33 ≤ c ∧ c ≤ 126 := by
  simpa [isPlain] using h

theorem plain_not_ascii {c : Nat} (h : isPlain c = true) : isAsciiSpace c = false := by
  have := plain_bounds h
  simp [isAsciiSpace]
  omega

theorem space_not_plain {c : Nat} (h : isAsciiSpace c = true) : isPlain c = false := by
  cases hp : isPlain c with
  | false => rfl
  | true => rw [plain_not_ascii hp] at h; cases h

theorem high_not_plain {c : Nat} (h : 127 ≤ c) : isPlain c = false := by
  simp [isPlain]; omega

theorem plain_ne_10 {c : Nat} (h : isPlain c = true) : c ≠ 10 := by
  have := plain_bounds h; omega

theorem upper_plain {c : Nat} (h : 65 ≤ c ∧ c ≤ 90) : isPlain c = true := by
  simp [isPlain]; omega

theorem eq_nil_or_snoc {α} (l : List α) : l = [] ∨ ∃ p x, l = p ++ [x] :=
  (List.eq_nil_or_concat l).imp_right fun ⟨p, x, h⟩ => ⟨p, x, h.trans List.concat_eq_append⟩

theorem getLast?_append_ne {α} (a b : List α) (hb : b ≠ []) : (a ++ b).getLast? = b.getLast? := by
  rw [List.getLast?_append, List.getLast?_eq_some_getLast hb]
  rfl

theorem isPad_nil : IsPad [] := nofun

theorem isPad_space {ws : Bytes} (h : IsPad ws) : ∀ c ∈ ws, isAsciiSpace c = true :=
  fun c hc => pad_ascii (h c hc)

theorem pad_ne_10 {ws : Bytes} (h : IsPad ws) : 10 ∉ ws := by
  intro hin; have := h 10 hin; simp [isPadByte] at this

theorem edgePlain_ne_nil {s : Bytes} (h : EdgePlain s) : s ≠ [] := by
  obtain ⟨⟨c, hc1, _⟩, _, _⟩ := h
  intro h0; rw [h0] at hc1; cases hc1

theorem edgePlain_append {a s : Bytes} {c : Nat} (ha : a.head? = some c) (hc : isPlain c = true) (h10 : 10 ∉ a)
    (hs : EdgePlain s) : EdgePlain (a ++ s) := by
  obtain ⟨_, ⟨d, hd1, hd2⟩, hs10⟩ := hs
  refine ⟨⟨c, ?_, hc⟩, ⟨d, by rw [List.getLast?_append, hd1]; rfl, hd2⟩, fun hin => ?_⟩
  · cases a with
    | nil => cases ha
    | cons x t => exact ha
  · exact (List.mem_append.mp hin).elim h10 hs10

theorem edgePlain_allPlain (k : Bytes) (hne : k ≠ []) (h : ∀ c ∈ k, isPlain c = true) : EdgePlain k := by
  refine ⟨?_, ⟨_, List.getLast?_eq_some_getLast hne, h _ (List.getLast_mem hne)⟩, fun hin => plain_ne_10 (h 10 hin) rfl⟩
  cases k with
  | nil => exact absurd rfl hne
  | cons a t => exact ⟨a, rfl, h a (by simp)⟩

theorem dropSpaceRune_some {l r : Bytes} : dropSpaceRune l = some r → ∃ c t, l = c :: t ∧ isPlain c = false := by
  fun_cases dropSpaceRune l
  case case1 c rest hc => exact fun _ => ⟨c, rest, rfl, space_not_plain hc⟩
  case case6 | case9 | case10 => exact nofun
  all_goals exact fun _ => ⟨_, _, rfl, by decide⟩

theorem dropSpaceRuneRev_some {l r : Bytes} : dropSpaceRuneRev l = some r →
    ∃ a p, l = a :: p ++ r ∧ ∀ b ∈ a :: p, isPlain b = false := by
  fun_cases dropSpaceRuneRev l
  case case1 c rest hc =>
    rintro ⟨rfl⟩; exact ⟨c, [], rfl, List.forall_mem_singleton.mpr (space_not_plain hc)⟩
  case case2 | case3 => rintro ⟨rfl⟩; exact ⟨_, [_], rfl, by decide⟩
  case case4 | case5 | case6 => rintro ⟨rfl⟩; exact ⟨_, [_, _], rfl, by decide⟩
  case case7 x rest hx _ =>
    rintro ⟨rfl⟩
    refine ⟨x, [128, 226], rfl, List.forall_mem_cons.mpr ⟨high_not_plain ?_, by decide⟩⟩
    simp at hx; omega
  all_goals exact nofun

theorem dropSpaceRune_space {c : Nat} (r : Bytes) (h : isAsciiSpace c = true) : dropSpaceRune (c :: r) = some r := by
  simp [dropSpaceRune, h]

theorem dropSpaceRuneRev_space {c : Nat} (r : Bytes) (h : isAsciiSpace c = true) : dropSpaceRuneRev (c :: r) = some r := by
  simp [dropSpaceRuneRev, h]

theorem dropSpaceRune_plain {c : Nat} (r : Bytes) (h : isPlain c = true) : dropSpaceRune (c :: r) = none := by
  cases hd : dropSpaceRune (c :: r) with
  | none => rfl
  | some r' =>
    obtain ⟨c', t, e, hc⟩ := dropSpaceRune_some hd
    cases e; rw [h] at hc; cases hc

theorem dropSpaceRuneRev_plain {c : Nat} (r : Bytes) (h : isPlain c = true) : dropSpaceRuneRev (c :: r) = none := by
  cases hd : dropSpaceRuneRev (c :: r) with
  | none => rfl
  | some r' =>
    obtain ⟨a, p, e, hp⟩ := dropSpaceRuneRev_some hd
    cases e; rw [hp c List.mem_cons_self] at h; cases h

theorem trimLeft_spaces (ws s : Bytes) (hws : ∀ c ∈ ws, isAsciiSpace c = true) (hs : dropSpaceRune s = none) :
    ∀ fuel, ws.length ≤ fuel → trimLeft fuel (ws ++ s) = s := by
  induction ws with
  | nil => intro fuel _; cases fuel <;> simp [trimLeft, hs]
  | cons w ws ih =>
    obtain ⟨hw, hws⟩ := List.forall_mem_cons.mp hws
    intro fuel hf
    cases fuel with
    | zero => cases hf
    | succ f =>
      rw [List.cons_append, trimLeft, dropSpaceRune_space _ hw]
      exact ih hws f (Nat.le_of_succ_le_succ hf)

theorem trimLeftRev_spaces (ws s : Bytes) (hws : ∀ c ∈ ws, isAsciiSpace c = true) (hs : dropSpaceRuneRev s = none) :
    ∀ fuel, ws.length ≤ fuel → trimLeftRev fuel (ws ++ s) = s := by
  induction ws with
  | nil => intro fuel _; cases fuel <;> simp [trimLeftRev, hs]
  | cons w ws ih =>
    obtain ⟨hw, hws⟩ := List.forall_mem_cons.mp hws
    intro fuel hf
    cases fuel with
    | zero => cases hf
    | succ f =>
      rw [List.cons_append, trimLeftRev, dropSpaceRuneRev_space _ hw]
      exact ih hws f (Nat.le_of_succ_le_succ hf)

theorem trimLeftRev_getLast? {c : Nat} (hc : isPlain c = true) :
    ∀ (fuel : Nat) (l : Bytes), l.getLast? = some c → (trimLeftRev fuel l).getLast? = some c := by
  intro fuel
  induction fuel with
  | zero => exact fun _ hl => hl
  | succ f ih =>
    intro l hl
    rw [trimLeftRev]
    split
    · rename_i r hr
      -- `c` is not among the bytes removed, so it is the last byte of what remains
      obtain ⟨a, p, rfl, hpl⟩ := dropSpaceRuneRev_some hr
      rw [List.getLast?_append] at hl
      cases hr : r.getLast? with
      | none => rw [hr] at hl; cases (hpl c (List.mem_of_getLast? hl)).symm.trans hc
      | some d => rw [hr] at hl; exact ih r (hr.trans hl)
    · exact hl

theorem trimSpace_pad (ws : Bytes) (h : IsPad ws) : trimSpace ws = [] := by
  have := trimLeft_spaces ws [] (isPad_space h) rfl ws.length (Nat.le_refl _)
  rw [List.append_nil] at this
  simp only [trimSpace, this]
  rfl

theorem trimSpace_between {pre s post : Bytes} {c d : Nat}
    (hpre : ∀ x ∈ pre, isAsciiSpace x = true) (hpost : ∀ x ∈ post, isAsciiSpace x = true)
    (hc : s.head? = some c) (hcp : isPlain c = true) (hd : s.getLast? = some d) (hdp : isPlain d = true) :
    trimSpace (pre ++ s ++ post) = s := by
  have hl : dropSpaceRune (s ++ post) = none := by
    obtain ⟨t, rfl⟩ := List.head?_eq_some_iff.mp hc
    exact dropSpaceRune_plain _ hcp
  have hr : dropSpaceRuneRev s.reverse = none := by
    obtain ⟨u, rfl⟩ := List.getLast?_eq_some_iff.mp hd
    rw [List.reverse_concat]
    exact dropSpaceRuneRev_plain _ hdp
  unfold trimSpace
  have h1 : trimLeft (pre ++ s ++ post).length (pre ++ s ++ post) = s ++ post := by
    rw [List.append_assoc]
    exact trimLeft_spaces pre _ hpre hl _ (by simp)
  simp only [h1, List.reverse_append]
  rw [trimLeftRev_spaces post.reverse _ (fun x hx => hpost x (List.mem_reverse.mp hx)) hr _ (by simp),
    List.reverse_reverse]

theorem trimSpace_edgePlain (pre post s : Bytes) (hpre : IsPad pre) (hpost : IsPad post) (hs : EdgePlain s) :
    trimSpace (pre ++ s ++ post) = s := by
  obtain ⟨⟨c, hc, hcp⟩, ⟨d, hd, hdp⟩, _⟩ := hs
  exact trimSpace_between (isPad_space hpre) (isPad_space hpost) hc hcp hd hdp

theorem trimSpace_head (pre : Bytes) (c : Nat) (text : Bytes) (hpre : IsPad pre) (hc : isPlain c = true) :
    ∃ t, trimSpace (pre ++ c :: text) = c :: t := by
  have h1 : trimLeft (pre ++ c :: text).length (pre ++ c :: text) = c :: text :=
    trimLeft_spaces pre _ (isPad_space hpre) (dropSpaceRune_plain text hc) _ (by simp)
  simp only [trimSpace, h1]
  rw [← List.head?_eq_some_iff, List.head?_reverse]
  exact trimLeftRev_getLast? hc _ _ (by simp)

theorem dropCR_snoc (l : Bytes) (x : Nat) : dropCR (l ++ [x]) = if x = 13 then l else l ++ [x] := by
  simp [dropCR]

theorem dropCR_append (a b : Bytes) (ha : a.getLast? ≠ some 13) : dropCR (a ++ b) = a ++ dropCR b := by
  rcases eq_nil_or_snoc b with rfl | ⟨p, x, rfl⟩
  · simp [dropCR, ha]
  · rw [← List.append_assoc, dropCR_snoc, dropCR_snoc]
    split <;> simp

theorem dropCR_pad (ws : Bytes) (h : IsPad ws) : IsPad (dropCR ws) := by
  unfold dropCR
  split
  · exact fun c hc => h c (List.dropLast_subset ws hc)
  · exact h

theorem dropCR_comment (pre text : Bytes) : dropCR (pre ++ 35 :: text) = pre ++ 35 :: dropCR text := by
  have := dropCR_append (pre ++ [35]) text (by simp)
  simpa using this

theorem scanLines_line (l : Bytes) (hl : 10 ∉ l) (rest : Bytes) :
    scanLines (l ++ 10 :: rest) = l :: scanLines rest := by
  induction l with
  | nil => simp [scanLines]
  | cons c t ih =>
    obtain ⟨hc, ht⟩ := List.ne_and_not_mem_of_not_mem_cons hl
    simp only [List.cons_append, scanLines, hc.symm, ↓reduceIte, ih ht]

theorem scanLines_last (l : Bytes) (hl : 10 ∉ l) (hne : l ≠ []) : scanLines l = [l] := by
  induction l with
  | nil => exact absurd rfl hne
  | cons c t ih =>
    obtain ⟨hc, ht⟩ := List.ne_and_not_mem_of_not_mem_cons hl
    cases t with
    | nil => simp [scanLines, hc.symm]
    | cons d t' =>
      rw [scanLines.eq_2, ih ht (by simp)]
      simp [hc.symm]

open Vegeta.Spec.TargetGrammar (joinLines) in
/-- a rendered file gives back its lines, except that a final empty line without terminator vanishes -/
theorem scanLines_join (ls : List Bytes) (nl : Bool) (h : ∀ l ∈ ls, 10 ∉ l) :
    scanLines (joinLines ls nl) = if nl = false ∧ ls.getLast? = some [] then ls.dropLast else ls := by
  induction ls with
  | nil => simp [joinLines, scanLines]
  | cons l t ih =>
    obtain ⟨hl, ht⟩ := List.forall_mem_cons.mp h
    cases t with
    | nil =>
      cases nl
      · simp only [joinLines, Bool.false_eq_true, ↓reduceIte]
        by_cases hne : l = []
        · subst hne; simp [scanLines]
        · rw [scanLines_last l hl hne]; simp [hne]
      · simp [joinLines, scanLines_line l hl [], scanLines]
    | cons l2 t2 =>
      simp only [joinLines]
      rw [scanLines_line l hl, ih ht]
      simp only [List.getLast?_cons_cons]
      split <;> simp

theorem splitFirst_append (sep : Nat) (a b : Bytes) (h : sep ∉ a) : splitFirst sep (a ++ sep :: b) = some (a, b) := by
  induction a with
  | nil => simp [splitFirst]
  | cons c t ih =>
    obtain ⟨hc, ht⟩ := List.ne_and_not_mem_of_not_mem_cons h
    simp [splitFirst, hc.symm, ih ht]

theorem isUpper_iff {c : Nat} : isUpper c = true ↔ 65 ≤ c ∧ c ≤ 90 := by simp [isUpper]

theorem afterUpper_method (m rest : Bytes) (h : ∀ c ∈ m, 65 ≤ c ∧ c ≤ 90) : afterUpper (m ++ 32 :: rest) = true := by
  induction m with
  | nil => rfl
  | cons c t ih =>
    obtain ⟨hc, ht⟩ := List.forall_mem_cons.mp h
    rw [List.cons_append, afterUpper, if_pos (isUpper_iff.mpr hc)]
    exact ih ht

theorem startsWithHTTPMethod_request (m rest : Bytes) (hne : m ≠ []) (h : ∀ c ∈ m, 65 ≤ c ∧ c ≤ 90) :
    startsWithHTTPMethod (m ++ 32 :: rest) = true := by
  cases m with
  | nil => exact absurd rfl hne
  | cons c t =>
    obtain ⟨hc, ht⟩ := List.forall_mem_cons.mp h
    rw [List.cons_append, startsWithHTTPMethod, isUpper_iff.mpr hc]
    exact afterUpper_method t rest ht

theorem afterUpper_key (k rest : Bytes) (h : ∀ c ∈ k, isPlain c = true) : afterUpper (k ++ 58 :: rest) = false := by
  induction k with
  | nil => rfl
  | cons c t ih =>
    obtain ⟨hc, ht⟩ := List.forall_mem_cons.mp h
    have := plain_bounds hc
    simp only [List.cons_append, afterUpper]
    split
    · exact ih ht
    · simp [isReSpace]; omega

theorem startsWithHTTPMethod_key (k rest : Bytes) (h : ∀ c ∈ k, isPlain c = true) :
    startsWithHTTPMethod (k ++ 58 :: rest) = false := by
  cases k with
  | nil => rfl
  | cons c t =>
    rw [List.cons_append, startsWithHTTPMethod, afterUpper_key t rest (List.forall_mem_cons.mp h).2, Bool.and_false]

theorem startsWithHTTPMethod_nonupper (c : Nat) (rest : Bytes) (h : isUpper c = false) :
    startsWithHTTPMethod (c :: rest) = false := by
  simp [startsWithHTTPMethod, h]

end Vegeta.Proofs.TargetText
