/-
Laws of `Result.Equal` / `headerEqual` (Model/CodecResult.lean): field-by-field characterisation,
reflexivity, symmetry and transitivity on header maps as net/http yields them, the asymmetry of
the code as it is on maps with an empty value list, and `Equal` between a result and what any
decoder hands back after any other decoder.
-/
import Vegeta.Proofs.EncodeCmdDomain
import Vegeta.Proofs.CodecMIME
namespace Vegeta.Proofs.EncodeCmd
open Vegeta.Go Vegeta.Model.Codec Vegeta.Model.GobValue Vegeta.Model.EncodeCmd Vegeta.Proofs.Codec Vegeta.Proofs.Gob

theorem equal_iff (a b : Result) : a.equal b = true ↔
    (a.attack = b.attack ∧ a.seq = b.seq ∧ a.code = b.code ∧ a.timestamp = b.timestamp ∧ a.latency = b.latency ∧
     a.bytesIn = b.bytesIn ∧ a.bytesOut = b.bytesOut ∧ a.error = b.error ∧ a.body.getD [] = b.body.getD [] ∧
     a.method = b.method ∧ a.url = b.url ∧ headerEqual a.headers b.headers = true) := by
  simp only [Result.equal, Bool.and_eq_true, beq_iff_eq, and_assoc]

theorem headerEqual_iff (h1 h2 : Header) :
    headerEqual (some h1) (some h2) = true ↔ h1.length = h2.length ∧ ∀ kv ∈ h1, headerGet h2 kv.1 = kv.2 := by
  simp only [headerEqual, Bool.and_eq_true, beq_iff_eq, List.all_eq_true]

theorem headerEqual_nil (h : Header) :
    headerEqual none none = true ∧ headerEqual none (some h) = false ∧ headerEqual (some h) none = false :=
  ⟨rfl, rfl, rfl⟩

theorem headerGet_ne_nil (h : Header) (k : Bytes) (hne : headerGet h k ≠ []) :
    ∃ kv ∈ h, kv.1 = k ∧ kv.2 = headerGet h k := by
  unfold headerGet at hne ⊢
  cases hf : h.find? (fun kv => kv.1 == k) with
  | none => rw [hf] at hne; exact absurd rfl hne
  | some kv =>
    refine ⟨kv, List.mem_of_find?_eq_some hf, ?_, rfl⟩
    simpa using List.find?_some hf

/-- pigeonhole: a duplicate-free list contained in a list that is not longer contains all of it -/
theorem subset_of_nodup_subset_length {α : Type} [DecidableEq α] :
    ∀ (l1 l2 : List α), l1.Nodup → l1 ⊆ l2 → l2.length ≤ l1.length → l2 ⊆ l1 := by
  intro l1
  induction l1 with
  | nil =>
    intro l2 _ _ hl
    cases l2 with
    | nil => exact fun _ h => h
    | cons x l2 => simp at hl
  | cons a l1 ih =>
    intro l2 hn hs hl
    rw [List.nodup_cons] at hn
    have ha : a ∈ l2 := hs (by simp)
    have hs' : l1 ⊆ l2.erase a := by
      intro x hx
      have hxa : x ≠ a := fun h => hn.1 (h ▸ hx)
      exact (List.mem_erase_of_ne hxa).2 (hs (by simp [hx]))
    have hl' : (l2.erase a).length ≤ l1.length := by
      rw [List.length_erase_of_mem ha]; simp only [List.length_cons] at hl; omega
    have := ih (l2.erase a) hn.2 hs' hl'
    intro x hx
    by_cases hxa : x = a
    · simp [hxa]
    · exact List.mem_cons_of_mem _ (this ((List.mem_erase_of_ne hxa).2 hx))

theorem headerEqual_opt_refl (o : Option Header) (h : HeadersOK o) : headerEqual o o = true := by
  cases o with
  | none => rfl
  | some x => exact headerEqual_refl x (h x rfl)

theorem headerEqual_some_symm (h1 h2 : Header) (n1 : (h1.map (·.1)).Nodup) (n2 : (h2.map (·.1)).Nodup)
    (v1 : ∀ kv ∈ h1, kv.2 ≠ []) (h : headerEqual (some h1) (some h2) = true) :
    headerEqual (some h2) (some h1) = true := by
  rw [headerEqual_iff] at h ⊢
  obtain ⟨hlen, hget⟩ := h
  refine ⟨hlen.symm, ?_⟩
  -- every key of h1 is a key of h2
  have hsub : h1.map (·.1) ⊆ h2.map (·.1) := by
    intro k hk
    obtain ⟨kv, hkv, rfl⟩ := List.mem_map.1 hk
    have hne : headerGet h2 kv.1 ≠ [] := by rw [hget kv hkv]; exact v1 kv hkv
    obtain ⟨kv', hkv', hk', _⟩ := headerGet_ne_nil h2 kv.1 hne
    exact List.mem_map.2 ⟨kv', hkv', hk'⟩
  have hsup := subset_of_nodup_subset_length _ _ n1 hsub (by simp [hlen])
  intro kv hkv
  obtain ⟨kv', hkv', hk'⟩ := List.mem_map.1 (hsup (List.mem_map_of_mem (f := (·.1)) hkv))
  have e1 : headerGet h2 kv'.1 = kv'.2 := hget kv' hkv'
  have e2 : headerGet h2 kv.1 = kv.2 := headerGet_mem h2 n2 kv hkv
  have hk'' : kv'.1 = kv.1 := hk'
  rw [← hk'', headerGet_mem h1 n1 kv' hkv', ← e1, hk'', e2]

theorem headerEqual_some_trans (h1 h2 h3 : Header) (v1 : ∀ kv ∈ h1, kv.2 ≠ [])
    (e12 : headerEqual (some h1) (some h2) = true) (e23 : headerEqual (some h2) (some h3) = true) :
    headerEqual (some h1) (some h3) = true := by
  rw [headerEqual_iff] at e12 e23 ⊢
  refine ⟨e12.1.trans e23.1, ?_⟩
  intro kv hkv
  have hg := e12.2 kv hkv
  have hne : headerGet h2 kv.1 ≠ [] := by rw [hg]; exact v1 kv hkv
  obtain ⟨kv', hkv', hk', hv'⟩ := headerGet_ne_nil h2 kv.1 hne
  rw [← hk', e23.2 kv' hkv', hv', hg]

theorem headerEqual_cases {a b : Option Header} (h : headerEqual a b = true) :
    (a = none ∧ b = none) ∨ ∃ x y, a = some x ∧ b = some y := by
  cases a with
  | none =>
    cases b with
    | none => exact .inl ⟨rfl, rfl⟩
    | some y => cases h
  | some x =>
    cases b with
    | none => cases h
    | some y => exact .inr ⟨x, y, rfl, rfl⟩

theorem equal_refl (r : Result) (h : HeadersOK r.headers) : r.equal r = true := by
  rw [equal_iff]
  exact ⟨rfl, rfl, rfl, rfl, rfl, rfl, rfl, rfl, rfl, rfl, rfl, headerEqual_opt_refl _ h⟩

theorem equal_symm (a b : Result) (ha : HeadersOK a.headers) (hb : HeadersOK b.headers)
    (va : ValuesNonEmpty a.headers) (vb : ValuesNonEmpty b.headers) (h : a.equal b = true) : b.equal a = true := by
  have _ := vb
  rw [equal_iff] at h ⊢
  obtain ⟨h1, h2, h3, h4, h5, h6, h7, h8, h9, h10, h11, h12⟩ := h
  refine ⟨h1.symm, h2.symm, h3.symm, h4.symm, h5.symm, h6.symm, h7.symm, h8.symm, h9.symm, h10.symm,
    h11.symm, ?_⟩
  rcases headerEqual_cases h12 with ⟨hx, hy⟩ | ⟨x, y, hx, hy⟩
  · rw [hx, hy]; rfl
  · rw [hx, hy] at h12 ⊢
    exact headerEqual_some_symm x y (ha x hx) (hb y hy) (va x hx) h12

theorem equal_trans (a b c : Result) (va : ValuesNonEmpty a.headers) (h1 : a.equal b = true) (h2 : b.equal c = true) :
    a.equal c = true := by
  rw [equal_iff] at h1 h2 ⊢
  obtain ⟨a1, a2, a3, a4, a5, a6, a7, a8, a9, a10, a11, a12⟩ := h1
  obtain ⟨b1, b2, b3, b4, b5, b6, b7, b8, b9, b10, b11, b12⟩ := h2
  refine ⟨a1.trans b1, a2.trans b2, a3.trans b3, a4.trans b4, a5.trans b5, a6.trans b6, a7.trans b7,
    a8.trans b8, a9.trans b9, a10.trans b10, a11.trans b11, ?_⟩
  rcases headerEqual_cases a12 with ⟨hx, hy⟩ | ⟨x, y, hx, hy⟩
  · rw [hx]; rw [hy] at b12; exact b12
  · rw [hx, hy] at a12
    rw [hy] at b12
    obtain ⟨_, z, hy', hz⟩ := (headerEqual_cases b12).resolve_left (fun h => by cases h.1)
    cases hy'
    rw [hz] at b12
    rw [hx, hz]
    exact headerEqual_some_trans x y z (va x hx) a12 b12

/-- oddity of the code as it is: with a key whose value list is empty, `Equal` is NOT symmetric:
h1 = {A:[x], B:[]} vs h2 = {A:[x], C:[y]} -/
theorem equal_not_symmetric_witness :
    ∃ a b : Result, HeadersOK a.headers ∧ HeadersOK b.headers ∧ a.equal b = true ∧ b.equal a = false := by
  refine ⟨{ headers := some [([65], [[120]]), ([66], [])] },
          { headers := some [([65], [[120]]), ([67], [[121]])] }, ?_, ?_, by decide +kernel, by decide +kernel⟩
  · intro x hx; cases hx; decide +kernel
  · intro x hx; cases hx; decide +kernel

theorem equal_body_nil_empty (r : Result) (h : HeadersOK r.headers) :
    ({ r with body := none } : Result).equal { r with body := some [] } = true ∧
    ({ r with body := some [] } : Result).equal { r with body := none } = true := by
  have := headerEqual_opt_refl _ h
  constructor <;> rw [equal_iff] <;> simp [this]

theorem equal_headers_nil_empty (r : Result) :
    ({ r with headers := none } : Result).equal { r with headers := some [] } = false ∧
    ({ r with headers := some [] } : Result).equal { r with headers := none } = false := by
  constructor <;> simp [Result.equal, headerEqual]

theorem gob_body_getD (x : Bytes) (b : Option Bytes) (hb : b.getD [] = x) :
    (if x = [] then none else b).getD [] = x := by
  split
  · rename_i h; simp [h]
  · exact hb

theorem sortKV_nodup (x : Header) (hn : (x.map (·.1)).Nodup) : ((sortKV x).map (·.1)).Nodup :=
  ((sortKV_perm x).map (·.1)).nodup_iff.2 hn

/-- the header maps a chain of at most two decoders can hand back are `Equal` to the original (longer
chains: `ResEqv`, Proofs/ChainCodecs.lean) -/
theorem headerEqual_decoded (o : Option Header) (h : HeadersOK o) :
    headerEqual o o = true ∧
    headerEqual (o.map sortKV) o = true ∧ headerEqual o (o.map sortKV) = true ∧
    headerEqual ((o.map sortKV).map sortKV) o = true ∧ headerEqual o ((o.map sortKV).map sortKV) = true := by
  cases o with
  | none => exact ⟨rfl, rfl, rfl, rfl, rfl⟩
  | some x =>
    have hn := h x rfl
    have hn1 := sortKV_nodup x hn
    have hn2 := sortKV_nodup _ hn1
    have p1 := sortKV_perm x
    have p2 := (sortKV_perm (sortKV x)).trans p1
    exact ⟨headerEqual_refl x hn, headerEqual_of_perm _ _ p1 hn, headerEqual_of_perm _ _ p1.symm hn1,
      headerEqual_of_perm _ _ p2 hn, headerEqual_of_perm _ _ p2.symm hn2⟩

theorem decodedBy_equal (src dst : Codec) (r : Result) (h : HeadersOK r.headers) :
    (decodedBy dst (decodedBy src r)).equal r = true ∧ r.equal (decodedBy dst (decodedBy src r)) = true := by
  obtain ⟨e0, e1, e1', e2, e2'⟩ := headerEqual_decoded r.headers h
  have e3 : headerEqual (Option.map (sortKV ∘ sortKV) r.headers) r.headers = true := by simpa using e2
  have e3' : headerEqual r.headers (Option.map (sortKV ∘ sortKV) r.headers) = true := by simpa using e2'
  -- in all nine cases: body nil ↔ empty at most, headers sorted at most twice
  cases src <;> cases dst <;>
    simp [equal_iff, decodedBy, csvDecoded, gobDecoded, gob_body_getD, e0, e1, e1', e3, e3']

theorem equalAll_decodedBy (src dst : Codec) (rs : List Result) (h : ∀ r ∈ rs, HeadersOK r.headers) :
    equalAll (rs.map (decodedBy dst ∘ decodedBy src)) rs = true := by
  induction rs with
  | nil => rfl
  | cons r rs ih =>
    simp only [List.map_cons, equalAll, Bool.and_eq_true]
    exact ⟨(decodedBy_equal src dst r (h r (by simp))).1, ih (fun r hr => h r (by simp [hr]))⟩

/-- `{X-A: [1, b], B: [c]}` in two iteration orders -/
def exA : Result := { headers := some [([88, 45, 65], [[49], [98]]), ([66], [[99]])] }
def exB : Result := { headers := some [([66], [[99]]), ([88, 45, 65], [[49], [98]])] }

example : HeadersOK exA.headers ∧ HeadersOK exB.headers ∧ ValuesNonEmpty exA.headers ∧
    ValuesNonEmpty exB.headers ∧ exA.equal exB = true ∧ exB.equal exA = true := by
  refine ⟨?_, ?_, ?_, ?_, by decide +kernel, by decide +kernel⟩
  · intro x hx; cases hx; decide +kernel
  · intro x hx; cases hx; decide +kernel
  · intro x hx; cases hx; decide +kernel
  · intro x hx; cases hx; decide +kernel

example : exB.equal exA = true :=
  equal_symm exA exB (by intro x hx; cases hx; decide +kernel) (by intro x hx; cases hx; decide +kernel)
    (by intro x hx; cases hx; decide +kernel) (by intro x hx; cases hx; decide +kernel) (by decide +kernel)

/-- the asymmetric pair: `{A:[x], B:[]}` against `{A:[x], C:[y]}` -/
example :
    let a : Result := { headers := some [([65], [[120]]), ([66], [])] }
    let b : Result := { headers := some [([65], [[120]]), ([67], [[121]])] }
    a.equal b = true ∧ b.equal a = false := by decide +kernel

end Vegeta.Proofs.EncodeCmd
