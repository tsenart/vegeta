/-
How "never panics" and "consumes input" facts compose over the `Outcome` monad: a
postcondition `Ensures P x` with one rule per way of building an outcome, so that the proof about
a parser written as a `do` block follows the block line by line. The `_np` lemmas are the same rules
for the bare "never panics"; `fuel_indep` is the one argument for every fuelled loop.
-/
import Vegeta.Go.Basic
namespace Vegeta.Proofs.Guards
open Vegeta.Go

/-- With `nofun` for a branch that is literally `.ok _` or `.error _`, this walks through a parser's
error exits without a case split. -/
theorem ite_ne {α} {c : Prop} [Decidable c] {a b x : α} (ha : a ≠ x) (hb : b ≠ x) :
    (if c then a else b) ≠ x := by
  split <;> assumption

/-- for a branch that avoids the panic only behind its guard (`typ[4:]` behind `len(typ) < 4`) -/
theorem ite_np {α} {c : Prop} [Decidable c] {a b : Outcome α} (ha : c → a ≠ .panic) (hb : ¬c → b ≠ .panic) :
    (if c then a else b) ≠ .panic := by
  split
  · exact ha ‹_›
  · exact hb ‹_›

theorem bind_np {α β} {x : Outcome α} {f : α → Outcome β} (hx : x ≠ .panic) (hf : ∀ a, f a ≠ .panic) :
    (x >>= f) ≠ .panic := by
  cases x with
  | ok a => exact hf a
  | error e => nofun
  | panic => contradiction

theorem pure_np {α} (a : α) : (pure a : Outcome α) ≠ .panic := nofun

/-- `x` does not panic, and a value it returns satisfies `P` (an error is allowed). -/
def Ensures {α} (P : α → Prop) : Outcome α → Prop
  | .ok a => P a
  | .error _ => True
  | .panic => False

namespace Ensures
variable {α β : Type} {P Q : α → Prop} {x : Outcome α}

theorem ne_panic (h : Ensures P x) : x ≠ .panic := by
  rintro rfl; exact h

theorem of_ok (h : Ensures P x) {a : α} (hx : x = .ok a) : P a := by
  subst hx; exact h

theorem of_ne_panic (h : x ≠ .panic) : Ensures (fun _ => True) x := by
  cases x with
  | ok a => trivial
  | error e => trivial
  | panic => contradiction

theorem mono (h : Ensures Q x) (hPQ : ∀ a, Q a → P a) : Ensures P x := by
  cases x with
  | ok a => exact hPQ a h
  | error e => trivial
  | panic => exact h

theorem pure {a : α} (h : P a) : Ensures P (pure a) := h

theorem bind {P : β → Prop} {f : α → Outcome β} (hx : Ensures Q x) (hf : ∀ a, Q a → Ensures P (f a)) :
    Ensures P (x >>= f) := by
  cases x with
  | ok a => exact hf a hx
  | error e => trivial
  | panic => exact hx

theorem ite {c : Prop} [Decidable c] {a b : Outcome α} (ha : c → Ensures P a) (hb : ¬c → Ensures P b) :
    Ensures P (if c then a else b) := by
  split
  · exact ha ‹_›
  · exact hb ‹_›

theorem bind_congr {f g : α → Outcome β} (hx : Ensures Q x) (h : ∀ a, Q a → f a = g a) :
    (x >>= f) = (x >>= g) := by
  cases x with
  | ok a => exact h a hx
  | error e => rfl
  | panic => rfl

end Ensures

/-- A loop that carries a fuel, and whose round `F (a+1) x` calls `F a` only on inputs smaller than
`x`, gives the same result for every fuel above the size of its input. -/
theorem fuel_indep {X Y : Type} (size : X → Nat) (F : Nat → X → Y)
    (step : ∀ a b x, (∀ y, size y < size x → F a y = F b y) → F (a+1) x = F (b+1) x) :
    ∀ f1 f2 x, size x < f1 → size x < f2 → F f1 x = F f2 x
  | 0, _, _, h, _ | _+1, 0, _, _, h => absurd h (Nat.not_lt_zero _)
  | a+1, b+1, x, h1, h2 => step a b x fun y hy =>
    fuel_indep size F step a b y (Nat.lt_of_lt_of_le hy (Nat.le_of_lt_succ h1))
      (Nat.lt_of_lt_of_le hy (Nat.le_of_lt_succ h2))

end Vegeta.Proofs.Guards
