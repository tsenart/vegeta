/-
Proofs about the model of encoding/gob's message framing (`Vegeta.Model.GobFrame`):
the length prefix round-trips, one message is read back exactly, a proper prefix of a message is
`incomplete` (never a message, never malformed), and a stream of messages cut at an arbitrary byte
offset parses to exactly the messages lying wholly before the cut (**frame_prefix_safe**).
-/
import Vegeta.Model.GobFrame
namespace Vegeta.Proofs.GobFrame
open Vegeta.Go Vegeta.Model.GobFrame

theorem beValue_snoc (xs : Bytes) (b : Nat) : beValue (xs ++ [b]) = beValue xs * 256 + b := by
  simp [beValue, List.foldl_append]

theorem beValue_beBytesF : ∀ (fuel n : Nat), n < fuel → beValue (beBytesF fuel n) = n := by
  intro fuel
  induction fuel with
  | zero => intro n h; omega
  | succ f ih =>
    intro n h
    unfold beBytesF
    split
    · subst_vars; rfl
    · rw [beValue_snoc, ih (n / 256) (by omega)]; omega

theorem beValue_beBytes (n : Nat) : beValue (beBytes n) = n :=
  beValue_beBytesF (n + 1) n (by omega)

theorem beBytesF_length_le : ∀ (fuel n k : Nat), n < 256 ^ k → (beBytesF fuel n).length ≤ k := by
  intro fuel
  induction fuel with
  | zero => intro n k _; simp [beBytesF]
  | succ f ih =>
    intro n k h
    unfold beBytesF
    split
    · simp
    · rename_i hn
      cases k with
      | zero => simp at h; omega
      | succ k =>
        have : n / 256 < 256 ^ k := by
          rw [Nat.pow_succ] at h
          exact Nat.div_lt_of_lt_mul (by rw [Nat.mul_comm]; exact h)
        have := ih (n / 256) k this
        simp; omega

theorem beBytes_length_le (n : Nat) (h : n < 2 ^ 64) : (beBytes n).length ≤ 8 :=
  beBytesF_length_le (n + 1) n 8 (by
    have : (256 : Nat) ^ 8 = 2 ^ 64 := by decide
    omega)

theorem beBytes_length_pos (n : Nat) (h : 0 < n) : 0 < (beBytes n).length := by
  unfold beBytes beBytesF
  split
  · omega
  · simp

theorem encodeUint_length_pos (n : Nat) : 0 < (encodeUint n).length := by
  unfold encodeUint
  split <;> simp

theorem encodeFrame_length_pos (p : Bytes) : 0 < (encodeFrame p).length := by
  have := encodeUint_length_pos p.length
  simp only [encodeFrame, List.length_append]
  omega

theorem beBytes_len_bounds (n : Nat) (h128 : 128 ≤ n) (h : n < tooBig) :
    1 ≤ (beBytes n).length ∧ (beBytes n).length ≤ 8 :=
  ⟨beBytes_length_pos n (by omega), beBytes_length_le n (by unfold tooBig at h; omega)⟩

theorem parseFrame_count (n : Nat) (r : Bytes) (h : n < tooBig) :
    parseFrame (encodeUint n ++ r) = takePayload n r := by
  unfold encodeUint
  split
  · simp only [List.cons_append, List.nil_append, parseFrame]
    rw [if_pos (by omega)]
  · have ⟨h1, h8⟩ := beBytes_len_bounds n (by omega) h
    simp only [List.cons_append, parseFrame]
    rw [if_neg (by omega), if_neg (by omega), if_neg (by simp; omega), List.take_left' (by omega),
      List.drop_left' (by omega), beValue_beBytes, if_neg (by omega)]

theorem parseFrame_count_cut (n : Nat) (h : n < tooBig) (k : Nat) (hk0 : 0 < k) (hk : k < (encodeUint n).length) :
    parseFrame ((encodeUint n).take k) = .incomplete := by
  obtain ⟨j, rfl⟩ : ∃ j, k = j + 1 := ⟨k - 1, by omega⟩
  revert hk
  unfold encodeUint
  split
  · intro hk; simp at hk
  · intro hk
    have ⟨h1, h8⟩ := beBytes_len_bounds n (by omega) h
    simp only [List.length_cons] at hk
    simp only [List.take_succ_cons, parseFrame]
    rw [if_neg (by omega), if_neg (by omega), if_pos (by simp; omega)]

theorem parseFrame_encodeFrame (p rest : Bytes) (h : p.length < tooBig) :
    parseFrame (encodeFrame p ++ rest) = .frame p rest := by
  rw [encodeFrame, List.append_assoc, parseFrame_count _ _ h]
  simp [takePayload]

theorem parseFrame_prefix (p : Bytes) (h : p.length < tooBig) (k : Nat) (hk0 : 0 < k)
    (hk : k < (encodeFrame p).length) : parseFrame ((encodeFrame p).take k) = .incomplete := by
  simp only [encodeFrame, List.length_append] at hk ⊢
  rcases Nat.lt_or_ge k (encodeUint p.length).length with hc | hc
  · rw [List.take_append_of_le_length (by omega)]
    exact parseFrame_count_cut _ h k hk0 hc
  · rw [List.take_append, List.take_of_length_le hc, parseFrame_count _ _ h, takePayload,
      if_pos (by simp only [List.length_take]; omega)]

/-- what a reader that follows the framing must see of a stream cut after `k` bytes: the frames that
lie wholly before the cut, then `eof` if the cut is exactly at a frame boundary, else `incomplete` -/
def cutFrames : List Bytes → Nat → List Bytes × FrameRes
  | [], _ => ([], .eof)
  | f :: fs, k =>
    if k = 0 then ([], .eof)
    else if k < (encodeFrame f).length then ([], .incomplete)
    else let q := cutFrames fs (k - (encodeFrame f).length); (f :: q.1, q.2)

theorem encodeFrames_cons (f : Bytes) (fs : List Bytes) :
    encodeFrames (f :: fs) = encodeFrame f ++ encodeFrames fs := by
  simp [encodeFrames]

theorem encodeFrames_nil : encodeFrames [] = [] := rfl

theorem parseFramesF_cut : ∀ (fs : List Bytes), (∀ f ∈ fs, f.length < tooBig) → ∀ (k fuel : Nat),
    ((encodeFrames fs).take k).length < fuel →
    parseFramesF fuel ((encodeFrames fs).take k) = cutFrames fs k := by
  intro fs
  induction fs with
  | nil =>
    intro _ k fuel hf
    cases fuel with
    | zero => omega
    | succ fuel => simp [encodeFrames_nil, parseFramesF, parseFrame, cutFrames]
  | cons f fs ih =>
    intro hfs k fuel hf
    have hflen : f.length < tooBig := hfs f (by simp)
    have hpos := encodeFrame_length_pos f
    cases fuel with
    | zero => omega
    | succ fuel =>
      rw [encodeFrames_cons] at hf ⊢
      unfold cutFrames
      by_cases hk0 : k = 0
      · subst hk0
        simp [parseFramesF, parseFrame]
      · rw [if_neg hk0]
        by_cases hk : k < (encodeFrame f).length
        · rw [if_pos hk, List.take_append_of_le_length (by omega)]
          simp only [parseFramesF]
          rw [parseFrame_prefix f hflen k (by omega) hk]
        · rw [if_neg hk]
          have ht : List.take k (encodeFrame f ++ encodeFrames fs)
              = encodeFrame f ++ List.take (k - (encodeFrame f).length) (encodeFrames fs) := by
            rw [List.take_append, List.take_of_length_le (by omega)]
          rw [ht] at hf ⊢
          simp only [parseFramesF]
          rw [parseFrame_encodeFrame f _ hflen]
          simp only
          rw [ih (fun g hg => hfs g (by simp [hg])) _ fuel (by simp at hf ⊢; omega)]

/-- **frame_prefix_safe**: for any list of frames and any cut offset, parsing the cut stream yields
exactly the frames lying wholly before the cut, then `eof` (cut at a boundary) or `incomplete`. -/
theorem frame_prefix_safe (fs : List Bytes) (hfs : ∀ f ∈ fs, f.length < tooBig) (k : Nat) :
    parseFrames ((encodeFrames fs).take k) = cutFrames fs k :=
  parseFramesF_cut fs hfs k _ (by omega)

theorem cutFrames_prefix (fs : List Bytes) (k : Nat) :
    ∃ m, m ≤ fs.length ∧ (cutFrames fs k).1 = fs.take m ∧ (encodeFrames (fs.take m)).length ≤ k ∧
      (∀ f, fs[m]? = some f → k < (encodeFrames (fs.take (m + 1))).length) := by
  induction fs generalizing k with
  | nil => exact ⟨0, by simp [cutFrames, encodeFrames_nil]⟩
  | cons f fs ih =>
    have hpos := encodeFrame_length_pos f
    by_cases hk : k < (encodeFrame f).length
    · -- no frame fits: `k = 0` and `0 < k` give the same first component
      refine ⟨0, by simp, ?_, by simp [encodeFrames_nil], ?_⟩
      · unfold cutFrames
        rw [if_pos hk]
        split <;> rfl
      · intro g _
        simpa [encodeFrames_cons, encodeFrames_nil] using hk
    · unfold cutFrames
      rw [if_neg (by omega), if_neg hk]
      obtain ⟨m, hm, h1, h2, h3⟩ := ih (k - (encodeFrame f).length)
      refine ⟨m + 1, by simp; omega, by simp [h1], ?_, ?_⟩
      · simp [encodeFrames_cons]; omega
      · intro g hg
        have := h3 g (by simpa using hg)
        simp [encodeFrames_cons] at this ⊢; omega

theorem cutFrames_all (fs : List Bytes) (k : Nat) (hk : (encodeFrames fs).length ≤ k) :
    cutFrames fs k = (fs, .eof) := by
  induction fs generalizing k with
  | nil => simp [cutFrames]
  | cons f fs ih =>
    have hpos := encodeFrame_length_pos f
    rw [encodeFrames_cons] at hk
    simp at hk
    unfold cutFrames
    rw [if_neg (by omega), if_neg (by omega)]
    simp [ih (k - (encodeFrame f).length) (by omega)]

theorem parseFrames_encodeFrames (fs : List Bytes) (hfs : ∀ f ∈ fs, f.length < tooBig) :
    parseFrames (encodeFrames fs) = (fs, .eof) := by
  have h := frame_prefix_safe fs hfs (encodeFrames fs).length
  rw [List.take_length] at h
  rw [h, cutFrames_all fs _ (Nat.le_refl _)]

example : encodeUint 0 = [0] := by decide +kernel
example : encodeUint 127 = [127] := by decide +kernel
example : encodeUint 128 = [255, 128] := by decide +kernel
example : encodeUint 255 = [255, 255] := by decide +kernel
example : encodeUint 256 = [254, 1, 0] := by decide +kernel
example : encodeUint 65536 = [253, 1, 0, 0] := by decide +kernel
example : beValue [1, 0] = 256 := by decide +kernel
example : encodeFrame [7, 8] = [2, 7, 8] := by decide +kernel
example : parseFrame [2, 7, 8, 9] = .frame [7, 8] [9] := by decide +kernel
example : parseFrame [2, 7] = .incomplete := by decide +kernel
example : parseFrame [254, 1] = .incomplete := by decide +kernel
example : parseFrame [247, 1] = .bad := by decide +kernel
example : parseFrame [] = .eof := by decide +kernel
example : parseFrames (encodeFrames [[1,2,3],[],[9]]) = ([[1,2,3],[],[9]], .eof) := by decide +kernel
example : encodeFrames [[1,2,3],[],[9]] = [3,1,2,3,0,1,9] := by decide +kernel
-- cut inside the first frame, at the boundaries, and inside the last frame
example : parseFrames ((encodeFrames [[1,2,3],[],[9]]).take 0) = ([], .eof) := by decide +kernel
example : parseFrames ((encodeFrames [[1,2,3],[],[9]]).take 3) = ([], .incomplete) := by decide +kernel
example : parseFrames ((encodeFrames [[1,2,3],[],[9]]).take 4) = ([[1,2,3]], .eof) := by decide +kernel
example : parseFrames ((encodeFrames [[1,2,3],[],[9]]).take 5) = ([[1,2,3],[]], .eof) := by decide +kernel
example : parseFrames ((encodeFrames [[1,2,3],[],[9]]).take 6) = ([[1,2,3],[]], .incomplete) := by decide +kernel
example : parseFrames ((encodeFrames [[1,2,3],[],[9]]).take 7) = ([[1,2,3],[],[9]], .eof) := by decide +kernel
example : cutFrames [[1,2,3],[],[9]] 6 = ([[1,2,3],[]], .incomplete) := by decide +kernel
example : cutFrames [[1,2,3],[],[9]] 5 = ([[1,2,3],[]], .eof) := by decide +kernel

end Vegeta.Proofs.GobFrame
