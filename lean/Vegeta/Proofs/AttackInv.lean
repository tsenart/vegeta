/-
Inductive invariants of the attack transition system (Model/Attack.lean), proved for every
step and lifted to every reachable state: all interleavings, all worker counts, no depth bound.

The transition function is first restated as a relation `Step` with one rule per way a label can
fire.  Every preservation proof goes by cases on the rule: it names the guard and gives the successor
as a record update of `s`, so the components of an invariant that read none of the updated fields
pass through unchanged (`{ hc with … }`) and only those that do read them are argued.
First: what `List.modify` (the model's `setHit`) does to a count, a sum, a map and membership.
-/
import Vegeta.Model.Attack
namespace Vegeta.Proofs.Attack
open Vegeta.Model.Attack

def afterCloseTicks : PC → Bool
  | .waitWG | .closeResults | .finalStop | .done => true
  | _ => false

def afterWait : PC → Bool
  | .closeResults | .finalStop | .done => true
  | _ => false

def afterCloseResults : PC → Bool
  | .finalStop | .done => true
  | _ => false

theorem modify_split {α} (f : α → α) (l : List α) (i : Nat) (a : α) (h : l[i]? = some a) :
    ∃ pre post, l = pre ++ a :: post ∧ l.modify i f = pre ++ f a :: post := by
  obtain ⟨hi, rfl⟩ := List.getElem?_eq_some_iff.mp h
  exact ⟨l.take i, l.drop (i + 1), by simp, List.modify_eq_take_cons_drop hi⟩

theorem countP_modify {α} (p : α → Bool) (f : α → α) (l : List α) (i : Nat) (a : α) (h : l[i]? = some a) :
    (l.modify i f).countP p + (if p a then 1 else 0) = l.countP p + (if p (f a) then 1 else 0) := by
  obtain ⟨pre, post, rfl, h2⟩ := modify_split f l i a h
  rw [h2]; simp only [List.countP_append, List.countP_cons]; omega

theorem sum_modify {α} (w : α → Nat) (f : α → α) (l : List α) (i : Nat) (a : α) (h : l[i]? = some a) :
    ((l.modify i f).map w).sum + w a = (l.map w).sum + w (f a) := by
  obtain ⟨pre, post, rfl, h2⟩ := modify_split f l i a h
  rw [h2]; simp only [List.map_append, List.map_cons, List.sum_append, List.sum_cons]; omega

theorem map_modify {α β} (g : α → β) {f : α → α} {l : List α} {i : Nat} {a : α} (h : l[i]? = some a)
    (hf : g (f a) = g a) : (l.modify i f).map g = l.map g := by
  obtain ⟨pre, post, rfl, h2⟩ := modify_split f l i a h
  rw [h2, List.map_append, List.map_append, List.map_cons, List.map_cons, hf]

theorem mem_modify {α} {f : α → α} {l : List α} {i : Nat} {a x : α} (h : l[i]? = some a) (hx : x ∈ l.modify i f) :
    x ∈ l ∨ x = f a := by
  obtain ⟨pre, post, rfl, h2⟩ := modify_split f l i a h
  rw [h2] at hx
  simp only [List.mem_append, List.mem_cons] at hx ⊢
  rcases hx with hx | rfl | hx
  · exact .inl (.inl hx)
  · exact .inr rfl
  · exact .inl (.inr (.inr hx))

theorem doStop_eq (s : St) :
    doStop s = { s with stopClosed := true, stopReturns := (!s.stopClosed) :: s.stopReturns } := by
  unfold doStop; cases h : s.stopClosed <;> simp

/-- `Step s l s'` iff `step s l = some s'` (`step_iff`): one rule per branch of `step` that returns a
state, with the branch's guard as hypotheses and `doStop` written out.  `wake` has a rule for either
`select` the loop goes to, `deliver` one for the send on a closed channel. -/
inductive Step (s : St) : Lbl → St → Prop
  | advance (d : Nat) : Step s (.advance d) { s with now := s.now + d }
  | deadline (hpc : s.pc = .pace) (hpast : pastDeadline s = true) : Step s .deadline { s with pc := .closeTicks }
  | paceStop (hpc : s.pc = .pace) (hpast : pastDeadline s = false) :
      Step s .paceStop { s with pc := .closeTicks, paceLog := (s.now, s.count, none) :: s.paceLog }
  | paceWait (w : Int) (hpc : s.pc = .pace) (hpast : pastDeadline s = false) :
      Step s (.paceWait w)
        { s with pc := .sleep, wakeAt := s.now + w.toNat, paceLog := (s.now, s.count, some w) :: s.paceLog }
  | wakeTry (hpc : s.pc = .sleep) (hw : s.wakeAt ≤ s.now) (hlt : s.nworkers < s.maxW) :
      Step s .wake { s with pc := .trySend }
  | wakeBlock (hpc : s.pc = .sleep) (hw : s.wakeAt ≤ s.now) (hge : ¬ s.nworkers < s.maxW) :
      Step s .wake { s with pc := .blockSend }
  | tick (hpc : s.pc = .trySend ∨ s.pc = .blockSend) (hidle : 0 < s.idle) :
      Step s .tick { s with pc := .pace, idle := s.idle - 1, got := s.got + 1, count := s.count + 1,
                            releases := s.now :: s.releases }
  | seeStop (hpc : s.pc = .trySend ∨ s.pc = .blockSend) (hst : s.stopClosed = true) :
      Step s .seeStop { s with pc := .closeTicks }
  | spawn (hpc : s.pc = .trySend) (hidle : s.idle = 0) (hst : s.stopClosed = false) :
      Step s .spawn { s with pc := .blockSend, nworkers := s.nworkers + 1, starting := s.starting + 1 }
  | closeTicks (hpc : s.pc = .closeTicks) :
      Step s .closeTicks { s with pc := .waitWG, ticksClosed := true, panicked := s.panicked || s.ticksClosed }
  | wgDone (hpc : s.pc = .waitWG) (hex : s.exited = s.nworkers) : Step s .wgDone { s with pc := .closeResults }
  | closeResults (hpc : s.pc = .closeResults) :
      Step s .closeResults
        { s with pc := .finalStop, resultsClosed := true, panicked := s.panicked || s.resultsClosed }
  | finalStop (hpc : s.pc = .finalStop) :
      Step s .finalStop { s with pc := .done, stopClosed := true, stopReturns := (!s.stopClosed) :: s.stopReturns }
  | ready (hst : 0 < s.starting) : Step s .ready { s with starting := s.starting - 1, idle := s.idle + 1 }
  | exit (hidle : 0 < s.idle) (htc : s.ticksClosed = true) :
      Step s .exit { s with idle := s.idle - 1, exited := s.exited + 1 }
  | csEnter (hgot : 0 < s.got) (hcs : s.cs = none) : Step s .csEnter { s with got := s.got - 1, cs := some s.now }
  | csLeave {t : Nat} (hcs : s.cs = some t) :
      Step s .csLeave
        { s with cs := none, seq := s.seq + 1,
                 hits := s.hits ++ [{ seq := s.seq, ts := t, phase := .hitting, entered := none, left := none,
                                      fin := none, tgtErr := false }] }
  | tgtErr {i : Nat} {h : Hit} (hi : s.hits[i]? = some h) (hph : h.phase = .hitting) (hent : h.entered = none) :
      Step s (.tgtErr i) { s with hits := setHit s.hits i fun h => { h with phase := .stopping, tgtErr := true } }
  | stopRet {i : Nat} {h : Hit} (hi : s.hits[i]? = some h) (hph : h.phase = .stopping) :
      Step s (.stopRet i)
        { s with stopClosed := true, stopReturns := (!s.stopClosed) :: s.stopReturns,
                 hits := setHit s.hits i fun h => { h with phase := .sending, fin := some s.now } }
  | enter {i : Nat} {h : Hit} (hi : s.hits[i]? = some h) (hph : h.phase = .hitting) (hent : h.entered = none) :
      Step s (.enter i) { s with hits := setHit s.hits i fun h => { h with entered := some s.now } }
  | leave {i : Nat} {h : Hit} (hi : s.hits[i]? = some h) (hph : h.phase = .hitting) (hent : h.entered ≠ none)
      (hleft : h.left = none) :
      Step s (.leave i) { s with hits := setHit s.hits i fun h => { h with left := some s.now } }
  | finish {i : Nat} {h : Hit} (hi : s.hits[i]? = some h) (hph : h.phase = .hitting)
      (hout : h.entered = none ∨ h.left ≠ none) :
      Step s (.finish i) { s with hits := setHit s.hits i fun h => { h with phase := .sending, fin := some s.now } }
  | deliverClosed {i : Nat} {h : Hit} (hi : s.hits[i]? = some h) (hph : h.phase = .sending)
      (hrc : s.resultsClosed = true) : Step s (.deliver i) { s with panicked := true }
  | deliver {i : Nat} {h : Hit} (hi : s.hits[i]? = some h) (hph : h.phase = .sending)
      (hrc : s.resultsClosed = false) :
      Step s (.deliver i)
        { s with hits := setHit s.hits i fun h => { h with phase := .delivered }, idle := s.idle + 1,
                 delivered := i :: s.delivered }
  | stop : Step s .stop { s with stopClosed := true, stopReturns := (!s.stopClosed) :: s.stopReturns }

theorem step_rule {s s' : St} {l : Lbl} (h : step s l = some s') : Step s l s' := by
  cases l <;> simp only [step, doStop_eq] at h <;> (repeat' split at h) <;> cases h <;> constructor <;>
    first | assumption | simp only [*, ne_eq, not_false_eq_true]

theorem step_iff {s s' : St} {l : Lbl} : step s l = some s' ↔ Step s l s' :=
  ⟨step_rule, fun h => by cases h <;> simp_all [step, doStop_eq]⟩

theorem _root_.Vegeta.Model.Attack.Reachable.invariant {P : St → Prop} {w m d : Nat} {s : St}
    (h : Reachable w m d s) (h0 : P (init w m d)) (hstep : ∀ {s s' l}, P s → step s l = some s' → P s') : P s := by
  induction h with
  | init => exact h0
  | step l _ hs ih => exact hstep ih hs

theorem run_cons {s t : St} {l : Lbl} {ls : List Lbl} (h : Step s l t) : run s (l :: ls) = run t ls := by
  simp only [run, step_iff.mpr h]

/-! ### the core invariant (C02, C03) -/

/-- Who is where, and which channel is closed when.  `pop`: each worker is in exactly one population;
`tryS`/`blk`: room for a worker at the `select` with `default` / pool full or a taker for the tick at the
blocking send; `cnt`: ticks handed out; `tc`, `rc`: ticks / results closed exactly after their `close`;
`ex`, `exz`: all exited after `wg.Wait()`, none before ticks is closed; `np`: never panicked. -/
structure Core (s : St) : Prop where
  pop    : s.starting + s.idle + s.got + csN s + busyHits s + s.exited = s.nworkers
  maxw   : s.nworkers ≤ s.maxW
  tryS   : s.pc = .trySend → s.nworkers < s.maxW
  seqs   : s.hits.map (·.seq) = List.range s.seq
  cnt    : s.count = s.got + csN s + s.seq
  tc     : s.ticksClosed = afterCloseTicks s.pc
  rc     : s.resultsClosed = afterCloseResults s.pc
  ex     : afterWait s.pc = true → s.exited = s.nworkers
  np     : s.panicked = false
  blk    : s.pc = .blockSend → s.maxW ≤ s.nworkers ∨ 1 ≤ s.starting + s.idle
  exz    : s.ticksClosed = false → s.exited = 0

theorem core_init (w m d : Nat) : Core (init w m d) := by
  constructor <;> simp [init, csN, busyHits, afterCloseTicks, afterCloseResults, afterWait]
  · split <;> omega

theorem busyHits_setHit {s : St} {i : Nat} {h : Hit} (f : Hit → Hit) (hi : s.hits[i]? = some h) :
    (setHit s.hits i f).countP (fun h => h.phase ≠ .delivered) + (if h.phase = .delivered then 0 else 1)
      = busyHits s + (if (f h).phase = .delivered then 0 else 1) := by
  have := countP_modify (fun h : Hit => decide (h.phase ≠ .delivered)) f s.hits i h hi
  simpa [busyHits, setHit] using this

namespace Core

theorem seqlen {s : St} (hc : Core s) : s.seq = s.hits.length := by
  have := congrArg List.length hc.seqs
  rwa [List.length_map, List.length_range, eq_comm] at this

theorem seqidx {s : St} (hc : Core s) (i : Nat) (h : Hit) (hi : s.hits[i]? = some h) : h.seq = i := by
  have h1 : (List.range s.seq)[i]? = some h.seq := by rw [← hc.seqs, List.getElem?_map, hi]; rfl
  obtain ⟨_, h2⟩ := List.getElem?_eq_some_iff.mp h1
  rw [List.getElem_range] at h2; exact h2.symm

theorem tc_at {s : St} {pc : PC} (hc : Core s) (h : s.pc = pc) : s.ticksClosed = afterCloseTicks pc :=
  h ▸ hc.tc

theorem rc_at {s : St} {pc : PC} (hc : Core s) (h : s.pc = pc) : s.resultsClosed = afterCloseResults pc :=
  h ▸ hc.rc

theorem open_at_send {s : St} (hc : Core s) (hpc : s.pc = .trySend ∨ s.pc = .blockSend) :
    s.ticksClosed = false ∧ s.resultsClosed = false := by
  rcases hpc with h | h <;> exact ⟨hc.tc_at h, hc.rc_at h⟩

theorem afterWait_of_closed {s : St} (hc : Core s) (h : s.resultsClosed = true) : afterWait s.pc = true := by
  have := hc.rc; rw [h] at this
  cases hp : s.pc <;> rw [hp] at this <;> first | rfl | cases this

/-- Once `wg.Wait()` has returned nothing is left: no worker starting, idle, holding a tick or a hit. -/
theorem quiet {s : St} (hc : Core s) (h : afterWait s.pc = true) :
    s.starting = 0 ∧ s.idle = 0 ∧ s.got = 0 ∧ csN s = 0 ∧ busyHits s = 0 := by
  have := hc.ex h; have := hc.pop; omega

/-- No send on a closed channel: while a hit holds a worker, `wg.Wait()` has not returned. -/
theorem open_of_sending {s : St} (hc : Core s) {i : Nat} {h : Hit} (hi : s.hits[i]? = some h)
    (hph : h.phase = .sending) : s.resultsClosed = false := by
  cases hrc : s.resultsClosed with
  | false => rfl
  | true =>
    have hb : 0 < busyHits s := List.countP_pos_iff.mpr ⟨h, List.mem_of_getElem? hi, by simp [hph]⟩
    have := (hc.quiet (hc.afterWait_of_closed hrc)).2.2.2.2
    omega

/-- A hit that holds a worker is rewritten and goes on holding it (`c`, `r`: what a `Stop` made on
the way leaves behind). -/
theorem modifyHit {s : St} (hc : Core s) {i : Nat} {h : Hit} {f : Hit → Hit} (hi : s.hits[i]? = some h)
    (hseq : (f h).seq = h.seq) (hp : h.phase ≠ .delivered) (hp' : (f h).phase ≠ .delivered)
    (c : Bool) (r : List Bool) :
    Core { s with hits := setHit s.hits i f, stopClosed := c, stopReturns := r } := by
  have hb := busyHits_setHit f hi
  rw [if_neg hp, if_neg hp'] at hb
  exact { hc with
    pop := by
      have := hc.pop
      show s.starting + s.idle + s.got + csN s + List.countP _ (setHit s.hits i f) + s.exited = s.nworkers
      omega
    seqs := (map_modify (·.seq) hi hseq).trans hc.seqs }

/-- The main goroutine goes from `pc` to `pc'`, two control points with the same channels closed. -/
theorem goto {s : St} (hc : Core s) {pc : PC} (hpc : s.pc = pc) (pc' : PC)
    (htc : afterCloseTicks pc' = afterCloseTicks pc) (hrc : afterCloseResults pc' = afterCloseResults pc)
    (htry : pc' = .trySend → s.nworkers < s.maxW)
    (hblk : pc' = .blockSend → s.maxW ≤ s.nworkers ∨ 1 ≤ s.starting + s.idle)
    (hex : afterWait pc' = true → s.exited = s.nworkers) (wa : Nat) (pl : List (Nat × Nat × Option Int)) :
    Core { s with pc := pc', wakeAt := wa, paceLog := pl } :=
  { hc with tryS := htry, blk := hblk, ex := hex, tc := htc ▸ hc.tc_at hpc, rc := hrc ▸ hc.rc_at hpc }

end Core

theorem core_step {s s' : St} {l : Lbl} (hc : Core s) (hs : step s l = some s') : Core s' := by
  have hpop := hc.pop
  cases step_rule hs with
  | advance _ | stop => exact { hc with }
  | deadline hpc _ | paceStop hpc _ => exact hc.goto hpc .closeTicks rfl rfl nofun nofun nofun _ _
  | paceWait _ hpc _ => exact hc.goto hpc .sleep rfl rfl nofun nofun nofun _ _
  | wakeTry hpc _ hlt => exact hc.goto hpc .trySend rfl rfl (fun _ => hlt) nofun nofun _ _
  | wakeBlock hpc _ hge => exact hc.goto hpc .blockSend rfl rfl nofun (fun _ => .inl (by omega)) nofun _ _
  | seeStop hpc _ => rcases hpc with hpc | hpc <;> exact hc.goto hpc .closeTicks rfl rfl nofun nofun nofun _ _
  | wgDone hpc hex => exact hc.goto hpc .closeResults rfl rfl nofun nofun (fun _ => hex) _ _
  | tick hpc hidle =>
    exact { hc with
      pop := by show s.starting + (s.idle - 1) + (s.got + 1) + csN s + busyHits s + s.exited = s.nworkers; omega
      cnt := by have := hc.cnt; show s.count + 1 = s.got + 1 + csN s + s.seq; omega
      tryS := nofun, blk := nofun, ex := nofun, tc := (hc.open_at_send hpc).1, rc := (hc.open_at_send hpc).2 }
  | spawn hpc hidle _ =>
    have := hc.tryS hpc
    exact { hc with
      pop := by show s.starting + 1 + s.idle + s.got + csN s + busyHits s + s.exited = s.nworkers + 1; omega
      maxw := this
      blk := fun _ => .inr (by show 1 ≤ s.starting + 1 + s.idle; omega)
      tryS := nofun, ex := nofun, tc := (hc.tc_at hpc :), rc := (hc.rc_at hpc :) }
  | closeTicks hpc =>
    exact { hc with
      np := by show (s.panicked || s.ticksClosed) = false; rw [hc.np, hc.tc_at hpc]; rfl
      tryS := nofun, blk := nofun, ex := nofun, exz := nofun, tc := rfl, rc := (hc.rc_at hpc :) }
  | closeResults hpc =>
    exact { hc with
      np := by show (s.panicked || s.resultsClosed) = false; rw [hc.np, hc.rc_at hpc]; rfl
      ex := fun _ => hc.ex (hpc ▸ rfl)
      tryS := nofun, blk := nofun, tc := (hc.tc_at hpc :), rc := rfl }
  | finalStop hpc =>
    exact { hc with
      ex := fun _ => hc.ex (hpc ▸ rfl)
      tryS := nofun, blk := nofun, tc := (hc.tc_at hpc :), rc := (hc.rc_at hpc :) }
  | ready hst =>
    exact { hc with
      pop := by show s.starting - 1 + (s.idle + 1) + s.got + csN s + busyHits s + s.exited = s.nworkers; omega
      blk := fun h => (hc.blk h).imp id fun _ => by show 1 ≤ s.starting - 1 + (s.idle + 1); omega }
  | exit hidle htc =>
    -- the ticks channel is closed, so the loop is over; the main goroutine still waits for this worker
    exact { hc with
      pop := by show s.starting + (s.idle - 1) + s.got + csN s + busyHits s + (s.exited + 1) = s.nworkers; omega
      ex := fun h => by have := hc.ex h; omega
      blk := fun h => by have := hc.tc_at h; rw [htc] at this; cases this
      exz := fun h => by rw [htc] at h; cases h }
  | csEnter hgot hcs =>
    have h0 : csN s = 0 := by simp [csN, hcs]
    exact { hc with
      pop := by show s.starting + s.idle + (s.got - 1) + 1 + busyHits s + s.exited = s.nworkers; omega
      cnt := by have := hc.cnt; show s.count = s.got - 1 + 1 + s.seq; omega }
  | csLeave hcs =>
    have h1 : csN s = 1 := by simp [csN, hcs]
    exact { hc with
      pop := by
        show s.starting + s.idle + s.got + 0 + List.countP _ (s.hits ++ [_]) + s.exited = s.nworkers
        rw [List.countP_append]; show _ + _ + _ + 0 + (busyHits s + 1) + _ = _; omega
      cnt := by have := hc.cnt; show s.count = s.got + 0 + (s.seq + 1); omega
      seqs := by
        show List.map _ (s.hits ++ [_]) = List.range (s.seq + 1)
        rw [List.map_append, hc.seqs, List.range_succ]; rfl }
  | tgtErr hi hph _ | stopRet hi hph | enter hi hph _ | leave hi hph _ _ | finish hi hph _ =>
    exact hc.modifyHit hi rfl (by simp [hph]) (by simp [hph]) _ _
  | deliverClosed hi hph hrc => cases (hc.open_of_sending hi hph).symm.trans hrc
  | @deliver i h hi hph _ =>
    have hb := busyHits_setHit (fun h => { h with phase := .delivered }) hi
    rw [if_neg (by simp [hph]), if_pos rfl] at hb
    exact { hc with
      pop := by
        show s.starting + (s.idle + 1) + s.got + csN s + List.countP _ (setHit s.hits i _) + s.exited = s.nworkers
        omega
      seqs := (map_modify (·.seq) hi rfl).trans hc.seqs
      blk := fun _ => .inr (by show 1 ≤ s.starting + (s.idle + 1); omega) }

theorem core_reachable {w m d : Nat} {s : St} (h : Reachable w m d s) : Core s :=
  h.invariant (core_init w m d) core_step

/-! ### delivery log and Stop return values (C02) -/

def isDel (hs : List Hit) (i : Nat) : Prop := ∃ h, hs[i]? = some h ∧ h.phase = .delivered

/-- The log lists exactly the delivered hits, once each; one `Stop` returned `true` iff stop is closed
(`stop1`), and any returned `Stop` has closed it (`stopc`). -/
structure Deliv (s : St) : Prop where
  nodup : s.delivered.Nodup
  mem   : ∀ i, i ∈ s.delivered ↔ isDel s.hits i
  stop1 : (s.stopReturns.count true) = if s.stopClosed then 1 else 0
  stopc : s.stopReturns ≠ [] → s.stopClosed = true

theorem isDel_setHit {hs : List Hit} {i : Nat} {a : Hit} (f : Hit → Hit) (hi : hs[i]? = some a) (j : Nat) :
    isDel (setHit hs i f) j ↔ if i = j then (f a).phase = .delivered else isDel hs j := by
  unfold isDel setHit
  rw [List.getElem?_modify]
  split
  · rename_i hij; subst hij; simp [hi]
  · simp [*]

theorem isDel_self {hs : List Hit} {i : Nat} {a : Hit} (hi : hs[i]? = some a) :
    isDel hs i ↔ a.phase = .delivered := by
  simp [isDel, hi]

theorem isDel_append (hs : List Hit) (h : Hit) (hp : h.phase ≠ .delivered) (j : Nat) :
    isDel (hs ++ [h]) j ↔ isDel hs j := by
  unfold isDel
  rcases Nat.lt_or_ge j hs.length with hlt | hge
  · rw [List.getElem?_append_left hlt]
  · rw [List.getElem?_append_right hge, List.getElem?_eq_none hge]
    cases j - hs.length <;> simp [hp]

namespace Deliv

theorem modifyHit {s : St} (hd : Deliv s) {i : Nat} {a : Hit} {f : Hit → Hit} (hi : s.hits[i]? = some a)
    (h1 : a.phase ≠ .delivered) (h2 : (f a).phase ≠ .delivered) (j : Nat) :
    j ∈ s.delivered ↔ isDel (setHit s.hits i f) j := by
  rw [hd.mem j, isDel_setHit f hi]
  split
  · rename_i hij; subst hij; simp [isDel_self hi, h1, h2]
  · rfl

end Deliv

/-- Whoever calls `Stop`, exactly the call that finds the channel open reports `true`. -/
theorem count_stop_returns {c : Bool} {rs : List Bool} (h : rs.count true = if c then 1 else 0) :
    ((!c) :: rs).count true = 1 := by
  cases c <;> simp_all

theorem deliv_init (w m d : Nat) : Deliv (init w m d) := by
  constructor <;> simp [init, isDel]

theorem deliv_step {s s' : St} {l : Lbl} (hd : Deliv s) (hs : step s l = some s') : Deliv s' := by
  cases step_rule hs with
  | finalStop _ | stop => exact { hd with stop1 := count_stop_returns hd.stop1, stopc := fun _ => rfl }
  | csLeave _ => exact { hd with mem := fun j => (hd.mem j).trans (isDel_append _ _ (by simp) j).symm }
  | tgtErr hi hph _ | enter hi hph _ | leave hi hph _ _ | finish hi hph _ =>
    exact { hd with mem := hd.modifyHit hi (by simp [hph]) (by simp [hph]) }
  | stopRet hi hph =>
    exact { hd with mem := hd.modifyHit hi (by simp [hph]) (by simp)
                    stop1 := count_stop_returns hd.stop1, stopc := fun _ => rfl }
  | @deliver i h hi hph _ =>
    have hni : i ∉ s.delivered := by rw [hd.mem i, isDel_self hi, hph]; nofun
    refine { hd with nodup := List.nodup_cons.mpr ⟨hni, hd.nodup⟩, mem := fun j => ?_ }
    rw [isDel_setHit _ hi, List.mem_cons]
    split
    · rename_i hij; simp [hij]
    · rename_i hij; rw [hd.mem j]; exact ⟨fun h => h.resolve_left (Ne.symm hij), .inr⟩
  | _ => exact { hd with }

theorem deliv_reachable {w m d : Nat} {s : St} (h : Reachable w m d s) : Deliv s :=
  h.invariant (deliv_init w m d) deliv_step

theorem done_stopped {w m d : Nat} {s : St} (h : Reachable w m d s) : s.pc = .done → s.stopClosed = true := by
  refine h.invariant (P := fun s => s.pc = .done → s.stopClosed = true) nofun fun {s s' l} ih hs => ?_
  cases step_rule hs with
  | finalStop _ | stopRet _ _ | stop => exact fun _ => rfl
  | advance _ | ready _ | exit _ _ | csEnter _ _ | csLeave _ | tgtErr _ _ _ | enter _ _ _ | leave _ _ _ _
  | finish _ _ _ | deliverClosed _ _ _ | deliver _ _ _ => exact ih
  | _ => exact nofun

/-! ### clock invariants (C05, C04) -/

/-- the instant the next sequence number's timestamp will carry -/
def clk (s : St) : Nat := match s.cs with | some t => t | none => s.now

/-- `ts ≤ entered ≤ left ≤ fin ≤ now` as far as set (no `left` without `entered`, no `fin` inside the
transport); then which of them each phase has set. -/
def HitOK (now : Nat) (h : Hit) : Prop :=
  h.ts ≤ now ∧
  (∀ e, h.entered = some e → h.ts ≤ e ∧ e ≤ now) ∧
  (∀ l, h.left = some l → ∃ e, h.entered = some e ∧ e ≤ l ∧ l ≤ now) ∧
  (∀ f, h.fin = some f → h.ts ≤ f ∧ f ≤ now ∧ (∀ e, h.entered = some e → ∃ l, h.left = some l ∧ l ≤ f)) ∧
  (h.phase = .hitting → h.fin = none) ∧
  (h.phase = .stopping → h.entered = none ∧ h.fin = none) ∧
  ((h.phase = .sending ∨ h.phase = .delivered) → h.fin ≠ none)

/-- `csle`: the clock read inside the critical section is past; `tsle`: no timestamp exceeds the one the
next sequence number will carry. -/
structure Times (s : St) : Prop where
  csle   : ∀ t, s.cs = some t → t ≤ s.now
  tsle   : ∀ h ∈ s.hits, h.ts ≤ clk s
  sorted : (s.hits.map (·.ts)).Pairwise (· ≤ ·)
  hit    : ∀ h ∈ s.hits, HitOK s.now h

theorem hitOK_mono {n m : Nat} {h : Hit} (hnm : n ≤ m) (hk : HitOK n h) : HitOK m h := by
  obtain ⟨a, b, c, d, e, f, g⟩ := hk
  refine ⟨by omega, ?_, ?_, ?_, e, f, g⟩
  · intro x hx; have := b x hx; omega
  · intro x hx; obtain ⟨y, hy, h1, h2⟩ := c x hx; exact ⟨y, hy, h1, by omega⟩
  · intro x hx; obtain ⟨h1, h2, h3⟩ := d x hx; exact ⟨h1, by omega, h3⟩

namespace Times

/-- `Times` reads `cs`, `now` and `hits` only: a hit is rewritten, its timestamp kept. -/
theorem modifyHit {s s' : St} (ht : Times s) {i : Nat} {a : Hit} {f : Hit → Hit} (hi : s.hits[i]? = some a)
    (hf : (f a).ts = a.ts) (hok : HitOK s.now a → HitOK s.now (f a))
    (hcs : s'.cs = s.cs) (hnow : s'.now = s.now) (hhits : s'.hits = setHit s.hits i f) : Times s' := by
  have ha : a ∈ s.hits := List.mem_of_getElem? hi
  have hclk : clk s' = clk s := by simp only [clk, hcs, hnow]
  refine ⟨hcs ▸ hnow ▸ ht.csle, ?_, ?_, ?_⟩ <;> rw [hhits]
  · intro h hh
    rw [hclk]
    rcases mem_modify hi hh with hm | rfl
    · exact ht.tsle h hm
    · rw [hf]; exact ht.tsle a ha
  · exact (map_modify (·.ts) hi hf).symm ▸ ht.sorted
  · intro h hh
    rw [hnow]
    rcases mem_modify hi hh with hm | rfl
    · exact ht.hit h hm
    · exact hok (ht.hit a ha)

end Times

theorem times_init (w m d : Nat) : Times (init w m d) := by
  constructor <;> simp [init]

theorem times_step {s s' : St} {l : Lbl} (ht : Times s) (hs : step s l = some s') : Times s' := by
  cases step_rule hs with
  | advance d =>
    have hclk : clk s ≤ clk { s with now := s.now + d } := by simp only [clk]; split <;> omega
    exact { ht with
      csle := fun t h => Nat.le_trans (ht.csle t h) (Nat.le_add_right _ _)
      tsle := fun h hh => Nat.le_trans (ht.tsle h hh) hclk
      hit := fun h hh => hitOK_mono (Nat.le_add_right _ _) (ht.hit h hh) }
  | csEnter _ hcs =>
    have hclk : clk s = s.now := by simp [clk, hcs]
    exact { ht with
      csle := fun t h => by cases h; exact Nat.le_refl _
      tsle := fun h hh => (hclk ▸ ht.tsle h hh : h.ts ≤ s.now) }
  | @csLeave t hcs =>
    have htn : t ≤ s.now := ht.csle t hcs
    have hclk : clk s = t := by simp [clk, hcs]
    have hts : ∀ h ∈ s.hits, h.ts ≤ t := fun h hh => hclk ▸ ht.tsle h hh
    refine { csle := nofun, tsle := ?_, sorted := ?_, hit := ?_ }
    · intro h hh
      rcases List.mem_append.mp hh with hh | hh
      · exact Nat.le_trans (hts h hh) htn
      · cases List.mem_singleton.mp hh; exact htn
    · show List.Pairwise _ (List.map _ (s.hits ++ [_]))
      rw [List.map_append, List.pairwise_append]
      refine ⟨ht.sorted, List.pairwise_singleton _ _, fun x hx y hy => ?_⟩
      obtain ⟨h, hh, rfl⟩ := List.mem_map.mp hx
      cases List.mem_singleton.mp hy; exact hts h hh
    · intro h hh
      rcases List.mem_append.mp hh with hh | hh
      · exact ht.hit h hh
      · cases List.mem_singleton.mp hh; simp [HitOK]; exact htn
  | tgtErr hi hph hent =>
    refine ht.modifyHit hi rfl ?_ rfl rfl rfl
    rintro ⟨hts, hen, hlf, hfi, hH, hS, hD⟩
    exact ⟨hts, hen, hlf, hfi, by simp, by simp; exact ⟨hent, hH hph⟩, by simp⟩
  | stopRet hi hph =>
    refine ht.modifyHit hi rfl ?_ rfl rfl rfl
    rintro ⟨hts, hen, hlf, hfi, hH, hS, hD⟩
    have hnone := (hS hph).1
    refine ⟨hts, hen, hlf, ?_, by simp, by simp, by simp⟩
    intro x hx; cases hx
    exact ⟨hts, Nat.le_refl _, fun e he => by rw [hnone] at he; cases he⟩
  | @enter i h hi hph hent =>
    refine ht.modifyHit hi rfl ?_ rfl rfl rfl
    rintro ⟨hts, hen, hlf, hfi, hH, hS, hD⟩
    have hl : h.left = none := by
      cases hl : h.left with
      | none => rfl
      | some l => obtain ⟨e', he', _⟩ := hlf l hl; rw [hent] at he'; cases he'
    refine ⟨hts, ?_, ?_, ?_, by simpa using hH, by simp [hph], by simp [hph]⟩
    · intro x hx; cases hx; exact ⟨hts, Nat.le_refl _⟩
    · intro x hx; rw [show h.left = some x from hx] at hl; cases hl
    · intro x hx; rw [show h.fin = some x from hx] at hH; cases hH hph
  | @leave i h hi hph hent hleft =>
    refine ht.modifyHit hi rfl ?_ rfl rfl rfl
    rintro ⟨hts, hen, hlf, hfi, hH, hS, hD⟩
    refine ⟨hts, hen, ?_, ?_, by simpa using hH, by simp [hph], by simp [hph]⟩
    · intro x hx; cases hx
      obtain ⟨e, he⟩ := Option.ne_none_iff_exists'.mp hent
      exact ⟨e, he, (hen e he).2, Nat.le_refl _⟩
    · intro x hx; rw [show h.fin = some x from hx] at hH; cases hH hph
  | @finish i h hi hph hout =>
    refine ht.modifyHit hi rfl ?_ rfl rfl rfl
    rintro ⟨hts, hen, hlf, hfi, hH, hS, hD⟩
    refine ⟨hts, hen, hlf, ?_, by simp, by simp, by simp⟩
    intro x hx; cases hx
    refine ⟨hts, Nat.le_refl _, fun e he => ?_⟩
    rcases hout with hn | hn
    · rw [show h.entered = some e from he] at hn; cases hn
    · obtain ⟨l, hl⟩ := Option.ne_none_iff_exists'.mp hn
      exact ⟨l, hl, (hlf l hl).choose_spec.2.2⟩
  | deliver hi hph _ =>
    refine ht.modifyHit hi rfl ?_ rfl rfl rfl
    rintro ⟨hts, hen, hlf, hfi, hH, hS, hD⟩
    exact ⟨hts, hen, hlf, hfi, by simp, by simp, by simpa using hD (Or.inl hph)⟩
  | _ => exact { ht with }

theorem times_reachable {w m d : Nat} {s : St} (h : Reachable w m d s) : Times s :=
  h.invariant (times_init w m d) times_step

/-! ### pacer-consultation invariants (C04) -/

/-- Consultations `(elapsed, hits, wait | none = stop)`, newest first: the `k`-th has `hits = k`, and
elapsed times do not decrease. -/
def LogOK : List (Nat × Nat × Option Int) → Prop
  | [] => True
  | (e, c, _) :: rest => c = rest.length ∧ (∀ x ∈ rest, x.1 ≤ e) ∧ LogOK rest

/-- Between the pacer's answer and the release of the hit it was asked for. -/
def pending (pc : PC) : Prop := pc = .sleep ∨ pc = .trySend ∨ pc = .blockSend

instance (pc : PC) : Decidable (pending pc) := by unfold pending; infer_instance

/-- The loop and its pacer.  `lenle`, `atPace`: one consultation per release, one more while outstanding;
`pend`: while `pending` the newest entry is for the present count and its wait is served before the send;
`dead`: no consultation after the deadline; `rel`, `relnow`: release instants; `late1`, `lateDone`: at most
one release after the deadline, then nothing pending; `stopFin`: after a pacer stop the loop is closing. -/
structure Pace (s : St) : Prop where
  log      : LogOK s.paceLog
  lenle    : s.count ≤ s.paceLog.length ∧ s.paceLog.length ≤ s.count + 1
  atPace   : s.pc = .pace → s.paceLog.length = s.count
  pend     : pending s.pc → ∃ e w rest, s.paceLog = (e, s.count, some w) :: rest ∧
               (s.pc = .sleep → s.wakeAt = e + w.toNat) ∧ (s.pc ≠ .sleep → e + w.toNat ≤ s.now)
  elapsed  : ∀ x ∈ s.paceLog, x.1 ≤ s.now
  dead     : s.du > 0 → ∀ x ∈ s.paceLog, x.1 ≤ s.du
  rel      : s.releases.length = s.count
  relnow   : ∀ r ∈ s.releases, r ≤ s.now
  late1    : s.du > 0 → (s.releases.filter (fun r => decide (r > s.du))).length ≤ 1
  lateDone : s.du > 0 → (∃ r ∈ s.releases, r > s.du) → ¬ pending s.pc
  stopFin  : (∃ e c rest, s.paceLog = (e, c, none) :: rest) → s.pc = .closeTicks ∨ afterCloseTicks s.pc = true

theorem pace_init (w m d : Nat) : Pace (init w m d) := by
  constructor <;> simp [init, LogOK, pending]

theorem not_pastDeadline {s : St} (h : pastDeadline s = false) : ¬ (s.du > 0 ∧ s.now > s.du) := by
  simpa [pastDeadline] using h

namespace Pace

theorem consult {s : St} (hp : Pace s) (hpc : s.pc = .pace) (hpast : pastDeadline s = false)
    (a : Option Int) :
    LogOK ((s.now, s.count, a) :: s.paceLog) ∧ (∀ x ∈ (s.now, s.count, a) :: s.paceLog, x.1 ≤ s.now) ∧
    (s.du > 0 → ∀ x ∈ (s.now, s.count, a) :: s.paceLog, x.1 ≤ s.du) := by
  have hnd := not_pastDeadline hpast
  refine ⟨⟨(hp.atPace hpc).symm, hp.elapsed, hp.log⟩, ?_, ?_⟩
  · intro x hx
    rcases List.mem_cons.mp hx with rfl | hx
    · exact Nat.le_refl _
    · exact hp.elapsed x hx
  · intro hd x hx
    rcases List.mem_cons.mp hx with rfl | hx
    · show s.now ≤ s.du; omega
    · exact hp.dead hd x hx

theorem not_stopped {s : St} (hp : Pace s) (h : pending s.pc) : ¬ ∃ e c rest, s.paceLog = (e, c, none) :: rest := by
  obtain ⟨e, w, rest, h1, _⟩ := hp.pend h
  rintro ⟨_, _, _, h2⟩; rw [h1] at h2; cases h2

end Pace

theorem pace_step {s s' : St} {l : Lbl} (hp : Pace s) (hs : step s l = some s') : Pace s' := by
  cases step_rule hs with
  | advance d =>
    exact { hp with
      pend := fun h => by
        obtain ⟨e, w, rest, h1, h2, h3⟩ := hp.pend h
        exact ⟨e, w, rest, h1, h2, fun hn => Nat.le_trans (h3 hn) (Nat.le_add_right _ _)⟩
      elapsed := fun x hx => Nat.le_trans (hp.elapsed x hx) (Nat.le_add_right _ _)
      relnow := fun r hr => Nat.le_trans (hp.relnow r hr) (Nat.le_add_right _ _) }
  | deadline _ _ | seeStop _ _ =>
    exact { hp with atPace := nofun, pend := nofun, lateDone := fun _ _ => nofun
                    stopFin := fun _ => .inl rfl }
  | closeTicks _ | wgDone _ _ | closeResults _ | finalStop _ =>
    exact { hp with atPace := nofun, pend := nofun, lateDone := fun _ _ => nofun
                    stopFin := fun _ => .inr rfl }
  | paceStop hpc hpast =>
    obtain ⟨hlog, hel, hdead⟩ := hp.consult hpc hpast none
    have := hp.atPace hpc
    exact { hp with
      log := hlog, elapsed := hel, dead := hdead
      lenle := by show s.count ≤ s.paceLog.length + 1 ∧ s.paceLog.length + 1 ≤ s.count + 1; omega
      atPace := nofun, pend := nofun, lateDone := fun _ _ => nofun
      stopFin := fun _ => .inl rfl }
  | paceWait w hpc hpast =>
    obtain ⟨hlog, hel, hdead⟩ := hp.consult hpc hpast (some w)
    have := hp.atPace hpc
    have hnd := not_pastDeadline hpast
    exact { hp with
      log := hlog, elapsed := hel, dead := hdead
      lenle := by show s.count ≤ s.paceLog.length + 1 ∧ s.paceLog.length + 1 ≤ s.count + 1; omega
      atPace := nofun
      pend := fun _ => ⟨s.now, w, s.paceLog, rfl, fun _ => rfl, fun h => absurd rfl h⟩
      -- a release after the deadline would put the clock past it, and then `pace` is not consulted
      lateDone := fun hd ⟨r, hr, hlt⟩ => absurd ⟨hd, Nat.lt_of_lt_of_le hlt (hp.relnow r hr)⟩ hnd
      stopFin := nofun }
  | wakeTry hpc hw _ | wakeBlock hpc hw _ =>
    obtain ⟨e, w, rest, h1, h2, h3⟩ := hp.pend (.inl hpc)
    have hwk := h2 hpc
    exact { hp with
      atPace := nofun
      pend := fun _ => ⟨e, w, rest, h1, nofun, fun _ => by show e + w.toNat ≤ s.now; omega⟩
      lateDone := fun hd hr => absurd (.inl hpc) (hp.lateDone hd hr)
      stopFin := fun h => absurd h (hp.not_stopped (.inl hpc)) }
  | tick hpc hidle =>
    have hpend : pending s.pc := .inr hpc
    obtain ⟨e, w, rest, h1, h2, h3⟩ := hp.pend hpend
    have hlen : s.paceLog.length = s.count + 1 := by
      have := hp.log; rw [h1] at this ⊢; rw [List.length_cons, ← this.1]
    have hrel := hp.rel
    exact { hp with
      lenle := by show s.count + 1 ≤ s.paceLog.length ∧ s.paceLog.length ≤ s.count + 1 + 1; omega
      atPace := fun _ => hlen
      pend := nofun
      rel := by show (s.now :: s.releases).length = s.count + 1; rw [List.length_cons, hrel]
      relnow := fun r hr => by
        rcases List.mem_cons.mp hr with rfl | hr
        · exact Nat.le_refl _
        · exact hp.relnow r hr
      late1 := fun hd => by
        -- a late release ends the pending consultation, so this is the first one
        have h0 : s.releases.filter (fun r => decide (r > s.du)) = [] :=
          List.filter_eq_nil_iff.mpr fun r hr => by simpa using fun hlt => hp.lateDone hd ⟨r, hr, hlt⟩ hpend
        show (List.filter _ (s.now :: s.releases)).length ≤ 1
        rw [List.filter_cons, h0]; split <;> simp
      lateDone := fun _ _ => nofun
      stopFin := fun h => absurd h (hp.not_stopped hpend) }
  | spawn hpc _ _ =>
    obtain ⟨e, w, rest, h1, h2, h3⟩ := hp.pend (.inr (.inl hpc))
    exact { hp with
      atPace := nofun
      pend := fun _ => ⟨e, w, rest, h1, nofun, fun _ => h3 (by rw [hpc]; nofun)⟩
      lateDone := fun hd hr => absurd (.inr (.inl hpc)) (hp.lateDone hd hr)
      stopFin := fun h => absurd h (hp.not_stopped (.inr (.inl hpc))) }
  | _ => exact { hp with }

theorem pace_reachable {w m d : Nat} {s : St} (h : Reachable w m d s) : Pace s :=
  h.invariant (pace_init w m d) pace_step

end Vegeta.Proofs.Attack
