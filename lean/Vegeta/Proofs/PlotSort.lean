/-
The sorts of `Plot.data`: the model's stable insertion sort returns a sorted permutation for any
irreflexive transitive comparison; `F64.lt` (finite values compare as the integers `fkey`) and
Go's `<` on strings are such.
-/
import Vegeta.Model.Plot
namespace Vegeta.Proofs.PlotSort
open Vegeta.Go Vegeta.Model.Plot

theorem insertBy_perm {α} (lt : α → α → Bool) (x : α) (ys : List α) :
    (insertBy lt x ys).Perm (x :: ys) := by
  induction ys with
  | nil => exact List.Perm.refl _
  | cons y ys ih =>
    unfold insertBy
    split
    · exact List.Perm.refl _
    · exact ((List.Perm.cons y ih).trans (List.Perm.swap x y ys))

theorem sortBy_perm {α} (lt : α → α → Bool) (xs : List α) : (sortBy lt xs).Perm xs := by
  induction xs with
  | nil => exact List.Perm.refl _
  | cons x xs ih =>
    show (insertBy lt x (sortBy lt xs)).Perm (x :: xs)
    exact (insertBy_perm lt x _).trans (List.Perm.cons x ih)

/-- sorted: no later element is smaller than an earlier one -/
def Sorted {α} (lt : α → α → Bool) (xs : List α) : Prop := xs.Pairwise (fun a b => lt b a = false)

theorem insertBy_sorted {α} (lt : α → α → Bool)
    (hirr : ∀ a, lt a a = false)
    (htrans : ∀ a b c, lt a b = true → lt b c = true → lt a c = true)
    (x : α) (ys : List α) (h : Sorted lt ys) : Sorted lt (insertBy lt x ys) := by
  induction ys with
  | nil => simp [insertBy, Sorted]
  | cons y ys ih =>
    unfold Sorted at h ih ⊢
    rw [List.pairwise_cons] at h
    obtain ⟨hy, hys⟩ := h
    unfold insertBy
    split
    · rename_i hxy
      refine List.pairwise_cons.mpr
        ⟨fun z hz => Bool.eq_false_iff.mpr fun hzx => ?_, List.pairwise_cons.mpr ⟨hy, hys⟩⟩
      rcases List.mem_cons.mp hz with rfl | hz
      · exact Bool.false_ne_true ((hirr x).symm.trans (htrans x z x hxy hzx))
      · exact Bool.false_ne_true ((hy z hz).symm.trans (htrans z x y hzx hxy))
    · rename_i hxy
      refine List.pairwise_cons.mpr ⟨fun z hz => ?_, ih hys⟩
      rcases List.mem_cons.mp ((insertBy_perm lt x ys).mem_iff.mp hz) with rfl | hz'
      · exact (Bool.not_eq_true _).mp hxy
      · exact hy z hz'

theorem sortBy_sorted {α} (lt : α → α → Bool)
    (hirr : ∀ a, lt a a = false)
    (htrans : ∀ a b c, lt a b = true → lt b c = true → lt a c = true)
    (xs : List α) : Sorted lt (sortBy lt xs) := by
  induction xs with
  | nil => simp [sortBy, Sorted]
  | cons x xs ih => exact insertBy_sorted lt hirr htrans x _ ih

/-- order-preserving integer key of a finite value -/
def fkey (x : F64) : Int :=
  (if x.sign then -(x.mant : Int) else (x.mant : Int)) * 2 ^ (x.expo + 1074).toNat

theorem expo_ge (x : F64) : -1074 ≤ x.expo := by
  unfold F64.expo
  split
  · omega
  · rename_i h
    have : x.bexp ≠ 0 := by simpa using h
    omega

theorem pow_split (a b : Nat) : (2 : Int) ^ (a + b) = 2 ^ a * 2 ^ b := by
  rw [Int.pow_add]

theorem ite_neg_mul (s : Bool) (m p : Int) :
    (if s then -(m * p) else m * p) = (if s then -m else m) * p := by
  cases s
  · rfl
  · exact (Int.neg_mul m p).symm

theorem pow_expo_split (e ex : Int) (h1 : -1074 ≤ e) (h2 : e ≤ ex) :
    (2 : Int) ^ (ex + 1074).toNat = 2 ^ (ex - e).toNat * 2 ^ (e + 1074).toNat := by
  have : ex + 1074 = (ex - e) + (e + 1074) := by omega
  rw [this, Int.toNat_add (by omega) (by omega), Int.pow_add]

/-- `cmpKey` scales both mantissas to the smaller exponent `e`; `fkey` is that times `2^(e+1074)`. -/
theorem cmpKey_fkey (x y : F64) :
    ((F64.cmpKey x y).1 < (F64.cmpKey x y).2) ↔ fkey x < fkey y := by
  have hx := expo_ge x
  have hy := expo_ge y
  have he : -1074 ≤ min x.expo y.expo := by omega
  have hpos : (0 : Int) < 2 ^ (min x.expo y.expo + 1074).toNat := Int.pow_pos (by omega)
  unfold F64.cmpKey fkey
  simp only [ite_neg_mul]
  rw [pow_expo_split _ x.expo he (Int.min_le_left _ _), pow_expo_split _ y.expo he (Int.min_le_right _ _),
    ← Int.mul_assoc, ← Int.mul_assoc]
  exact (Int.mul_lt_mul_right hpos).symm

theorem lt_irrefl (x : F64) : F64.lt x x = false := by
  unfold F64.lt
  split
  · rfl
  · split
    · rename_i h; simp [h]
    · unfold F64.cmpKey
      simp

theorem lt_trans (x y z : F64) (h1 : F64.lt x y = true) (h2 : F64.lt y z = true) :
    F64.lt x z = true := by
  -- no NaN; `y` is finite (above `x`, below `z`); finite values compare as their keys `fkey`
  unfold F64.lt at h1 h2 ⊢
  by_cases nx : x.isNaN = true
  · simp [nx] at h1
  by_cases ny : y.isNaN = true
  · simp [ny] at h1
  by_cases nz : z.isNaN = true
  · simp [nz] at h2
  simp only [nx, ny, nz, Bool.or_self, Bool.false_eq_true, ↓reduceIte] at h1 h2 ⊢
  by_cases ix : x.isInf = true
  · simp only [ix, ↓reduceIte, Bool.and_eq_true, Bool.not_eq_eq_eq_not, Bool.not_true, Bool.and_eq_false_imp] at h1 ⊢
    refine ⟨h1.1, ?_⟩
    intro iz
    by_cases iy : y.isInf = true
    · simp only [iy, ↓reduceIte, Bool.and_eq_true] at h2
      simp [iz] at h2
      exact absurd h2.1 (by simp [h1.2 iy])
    · simp only [iy, Bool.false_eq_true, ↓reduceIte, iz] at h2
      simpa using h2
  · simp only [ix, Bool.false_eq_true, ↓reduceIte] at h1 ⊢
    by_cases iy : y.isInf = true
    · simp only [iy, ↓reduceIte] at h1 h2
      simp only [Bool.not_eq_eq_eq_not, Bool.not_true] at h1
      simp [h1] at h2
    · simp only [iy, Bool.false_eq_true, ↓reduceIte] at h1 h2
      by_cases iz : z.isInf = true
      · simp only [iz, ↓reduceIte] at h2 ⊢
        exact h2
      · simp only [iz, Bool.false_eq_true, ↓reduceIte] at h2 ⊢
        simp only [decide_eq_true_eq] at h1 h2 ⊢
        have a := (cmpKey_fkey x y).mp h1
        have b := (cmpKey_fkey y z).mp h2
        exact (cmpKey_fkey x z).mpr (Int.lt_trans a b)

theorem bytesLt_cons (a b : Nat) (as bs : Bytes) :
    bytesLt (a :: as) (b :: bs) = true ↔ a < b ∨ a = b ∧ bytesLt as bs = true := by
  rw [bytesLt]
  rcases Nat.lt_trichotomy a b with h | rfl | h
  · simp [h]
  · simp
  · simp [h, Nat.lt_asymm h, Nat.ne_of_gt h]

theorem bytesLt_irrefl : ∀ a : Bytes, bytesLt a a = false := by
  intro a
  induction a with
  | nil => rfl
  | cons x xs ih => simp [bytesLt, ih]

theorem bytesLt_trans : ∀ a b c : Bytes, bytesLt a b = true → bytesLt b c = true → bytesLt a c = true := by
  intro a
  induction a with
  | nil =>
    intro b c h1 h2
    cases b with
    | nil => cases h1
    | cons y ys =>
      cases c with
      | nil => cases h2
      | cons z zs => rfl
  | cons x xs ih =>
    intro b c h1 h2
    cases b with
    | nil => cases h1
    | cons y ys =>
      cases c with
      | nil => cases h2
      | cons z zs =>
        rw [bytesLt_cons] at h1 h2 ⊢
        rcases h1 with hxy | ⟨rfl, h1⟩
        · rcases h2 with hyz | ⟨rfl, _⟩
          · exact Or.inl (by omega)
          · exact Or.inl hxy
        · rcases h2 with hyz | ⟨rfl, h2⟩
          · exact Or.inl hyz
          · exact Or.inr ⟨rfl, ih ys zs h1 h2⟩
end Vegeta.Proofs.PlotSort
