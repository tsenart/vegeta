/-
Target selection of the attack command: the static targeter's draws rotate over its list (`rot`), a
stream targeter's draws are its run, eager selection is the static targeter over the stream's targets.
-/
import Vegeta.Model.AttackTargets
import Vegeta.Proofs.TargeterLaws
namespace Vegeta.Proofs.AttackTargets
open Vegeta.Go
open Vegeta.Model.HTTPTargets (readAllLoop eNoTargets)
open Vegeta.Model.AttackTargets
open Vegeta.Proofs.TargeterLaws (RunsTo readAllLoop_spec)
open Vegeta.Proofs.TargeterConc (sindex_nat wrapS64_pred_succ)

/-- target number `i` of the rotation over `ts` -/
def rot {T : Type} (ts : List T) (i : Nat) : Outcome T :=
  match ts[i % ts.length]? with
  | some t => .ok t
  | none => .panic

/-- the `k`-th call of the static targeter (counter `k - 1` before it) hands out target `k mod ts.length` -/
theorem staticDraw_nat {T : Type} (ts : List T) (hne : ts ≠ []) (k : Nat) (hk : k < two63) :
    staticDraw ts ((k : Int) - 1) = (rot ts k, (k : Int)) := by
  have hpos : 0 < ts.length := List.length_pos_iff.mpr hne
  simp only [staticDraw, rot, wrapS64_pred_succ hk, sindex_nat ts.length k hpos, List.getElem?_eq_getElem (Nat.mod_lt k hpos)]

theorem draws_static {S T : Type} (step : S → Outcome T × S) (ts : List T) (hne : ts ≠ []) :
    ∀ (m k : Nat), k + m ≤ two63 → draws step m (.static ts ((k : Int) - 1)) = (List.range' k m).map (rot ts) := by
  intro m k hk
  induction m generalizing k with
  | zero => rfl
  | succ m ih =>
    simp only [draws, draw, staticDraw_nat ts hne k (by omega), List.range'_succ, List.map_cons]
    rw [← ih (k + 1) (by omega), Int.natCast_succ, Int.add_sub_cancel]

theorem draws_stream {S T : Type} (step : S → Outcome T × S) : ∀ (s : S) (ts : List T) (e : Nat) (s' : S),
    RunsTo step s ts e s' → draws step (ts.length + 1) (.stream s) = ts.map Outcome.ok ++ [.error e] := by
  intro s ts e s' h
  induction h with
  | stop hs => simp [draws, draw, hs]
  | more hs _ ih =>
    rw [List.length_cons, draws]
    simp only [draw, hs]
    rw [ih]; rfl

theorem select_eager {S T : Type} (step : S → Outcome T × S) (fuel : Nat) (s s' : S) (ts : List T) (e : Nat)
    (hr : RunsTo step s ts e s') (hf : ts.length < fuel) :
    selectTargeter step fuel false s =
      if e = eNoTargets then (if ts = [] then .error eNoTargets else .ok (.static ts (-1))) else .error e := by
  have := readAllLoop_spec step fuel s s' [] ts e hr hf
  simp only [List.nil_append] at this
  simp only [selectTargeter, Bool.false_eq_true, ↓reduceIte, this]
  by_cases he : e = eNoTargets
  · by_cases ht : ts = [] <;> simp [he, ht]
  · simp [he]

theorem map_rot_range' {T : Type} (ts : List T) : (List.range' 0 ts.length).map (rot ts) = ts.map Outcome.ok := by
  refine List.ext_getElem (by simp) fun i h _ => ?_
  have hi : i < ts.length := by simpa using h
  simp [rot, Nat.mod_eq_of_lt hi, hi]

end Vegeta.Proofs.AttackTargets
