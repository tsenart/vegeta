/-
Rounding an integer to the nearest multiple of a unit, halves up (`nearest`): the result is a multiple, within half a
unit of the argument, and does not cross a multiple of the unit. `Duration.Round` of the model (`durRound`) on a
non-negative duration is `nearest` whenever that fits `int64`.
-/
import Vegeta.Model.MetricsText
namespace Vegeta.Proofs.Nearest
open Vegeta.Go Vegeta.Model.MetricsText

/-- the multiple of `u` nearest to `d`, halves up -/
def nearest (d u : Int) : Int := if 2 * (d % u) < u then d - d % u else d + u - d % u

theorem nearest_dvd (d u : Int) : u ∣ nearest d u := by
  have h : u ∣ d - d % u := ⟨d / u, by have := Int.mul_ediv_add_emod d u; omega⟩
  unfold nearest
  split
  · exact h
  · have e : d + u - d % u = d - d % u + u := by omega
    rw [e]; exact Int.dvd_add h (Int.dvd_refl u)

theorem nearest_close (d u : Int) (hu : 0 < u) : 2 * (nearest d u - d).natAbs ≤ u := by
  have h1 := Int.emod_nonneg d (Int.ne_of_gt hu)
  have h2 := Int.emod_lt_of_pos d hu
  unfold nearest
  split <;> omega

theorem nearest_of_dvd (d u : Int) (hu : 0 < u) (h : u ∣ d) : nearest d u = d := by
  unfold nearest
  rw [Int.emod_eq_zero_of_dvd h]
  simp [hu]

/-- rounding to a multiple of `u` does not cross a multiple of `u` -/
theorem le_nearest {d u lo : Int} (hu : 0 < u) (hlo : u ∣ lo) (h : lo ≤ d) : lo ≤ nearest d u := by
  have hc := nearest_close d u hu
  apply Classical.byContradiction; intro hn
  have := Int.le_of_dvd (by omega) (Int.dvd_sub hlo (nearest_dvd d u)); omega

theorem nearest_le {d u hi : Int} (hu : 0 < u) (hhi : u ∣ hi) (h : d < hi) : nearest d u ≤ hi := by
  have hc := nearest_close d u hu
  apply Classical.byContradiction; intro hn
  have := Int.le_of_dvd (by omega) (Int.dvd_sub (nearest_dvd d u) hhi); omega

/-- `Duration.Round` on a non-negative duration: the nearest multiple, halves up, when that fits `int64`. -/
theorem durRound_eq_nearest (d m : Int) (hd : 0 ≤ d) (hm : 0 < m) (hm' : m ≤ maxInt64) (hfit : nearest d m ≤ maxInt64) :
    durRound d m = nearest d m := by
  have h1 := Int.emod_nonneg d (Int.ne_of_gt hm)
  have h2 := Int.emod_lt_of_pos d hm
  have hr : Int.tmod d m = d % m := by rw [Int.tmod_eq_emod]; simp [hd]
  have hlt : lessThanHalf (d % m) m = decide (2 * (d % m) < m) := by
    have hU : ∀ x : Int, 0 ≤ x → x ≤ 2 * maxInt64 → wrapU64 x = x := fun x h0 h1 =>
      wrapU64_id (by unfold inU64 two64; unfold maxInt64 at h1; omega)
    unfold lessThanHalf
    rw [hU (d % m) h1 (by omega), hU m (by omega) (by omega), hU _ (by omega) (by omega), ← Int.two_mul]
  unfold nearest at hfit ⊢
  simp only [durRound, hr, hlt, decide_eq_true_eq, Int.not_le.mpr hm, Int.not_lt.mpr hd, ↓reduceIte]
  split
  · rename_i h; rw [if_pos h] at hfit
    exact wrapS64_id (by unfold inS64 minInt64 maxInt64 at *; omega)
  · rename_i h; rw [if_neg h] at hfit
    rw [wrapS64_id (by unfold inS64 minInt64 maxInt64 at *; omega), if_pos (by omega)]

end Vegeta.Proofs.Nearest
