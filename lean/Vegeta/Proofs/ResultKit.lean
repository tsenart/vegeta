/-
Small facts shared by the codec proofs: a list split at its first element failing a test; the two equations the
decoder proofs rewrite `Outcome` binds with; and, for the header maps the JSON and gob decoders fill with
`headerSet`: with distinct keys the next key is fresh (`key_fresh`), so `headerSet` appends it (`headerSet_new`).
-/
import Vegeta.Model.CodecResult
namespace Vegeta.Proofs.Codec
open Vegeta.Go Vegeta.Model.Codec

theorem takeWhile_dropWhile_prefix {α : Type} (p : α → Bool) (ds : List α) (c : α) (t : List α)
    (hd : ∀ x ∈ ds, p x = true) (hc : p c = false) :
    (ds ++ c :: t).takeWhile p = ds ∧ (ds ++ c :: t).dropWhile p = c :: t := by
  rw [List.takeWhile_append_of_pos hd, List.dropWhile_append_of_pos hd]
  simp [hc]

theorem ok_bind {α β} (a : α) (f : α → Outcome β) : (Outcome.ok a >>= f) = f a := rfl
theorem pure_eq_ok {α} (a : α) : (pure a : Outcome α) = .ok a := rfl

theorem key_fresh {m hs : Header} {kv : Bytes × List Bytes} (h : ((m ++ kv :: hs).map (·.1)).Nodup) :
    kv.1 ∉ m.map (·.1) := by
  rw [List.map_append, List.map_cons, List.nodup_append] at h
  exact fun hmem => h.2.2 _ hmem _ List.mem_cons_self rfl

theorem headerSet_new (k : Bytes) (vs : List Bytes) (m : Header) (h : k ∉ m.map (·.1)) :
    headerSet k vs m = m ++ [(k, vs)] := by
  induction m with
  | nil => rfl
  | cons x xs ih =>
    simp only [List.map_cons, List.mem_cons, not_or] at h
    have hx : ¬ x.1 = k := fun e => h.1 e.symm
    simp only [headerSet, hx, if_false, ih h.2, List.cons_append]

end Vegeta.Proofs.Codec
