/-
JSON result streams of the domain `ReprJSONResult`: every record is one line that the decoder reads
back, so a stream is a list of such lines; hence the stream round trip, and the stream cut after any
number of bytes (`decodeJSON_cut` applies to these lines).
-/
import Vegeta.Proofs.CodecJSONResult
import Vegeta.Proofs.CodecRFC3339
import Vegeta.Proofs.StreamCut
namespace Vegeta.Proofs.Codec
open Vegeta.Go Vegeta.Model.Codec

/-- a record of the domain is encoded as one line, which the decoder reads back -/
theorem json_record (offMin : Int) (ho : offMin.natAbs < 1440) (r : Result) (hr : ReprJSONResult r) :
    ∃ b, encodeJSON offMin r = some b ∧ IsLine b ∧ decodeJSONLine b = .ok r := by
  obtain ⟨b, hb, hd⟩ := decodeJSONLine_encodeJSON offMin r hr
    (timeUnmarshal_timeMarshal _ _ hr.num.ts0 hr.num.ts1 ho)
  exact ⟨b, hb, encodeJSON_single_newline offMin r b hb, hd⟩

/-- the encoded stream is the concatenation of such lines -/
theorem encodeJSONAll_lines (offMin : Int) (ho : offMin.natAbs < 1440) (rs : List Result)
    (hrs : ∀ r ∈ rs, ReprJSONResult r) :
    ∃ lines, encodeJSONAll offMin rs = some lines.flatten ∧
      Forall₂ (fun l r => IsLine l ∧ decodeJSONLine l = .ok r) lines rs := by
  induction rs with
  | nil => exact ⟨[], rfl, .nil⟩
  | cons r rs ih =>
    obtain ⟨b, hb, hl, hd⟩ := json_record offMin ho r (hrs r (by simp))
    obtain ⟨ls, hls, hf⟩ := ih (fun x hx => hrs x (by simp [hx]))
    exact ⟨b :: ls, by simp [encodeJSONAll, hb, hls], .cons ⟨hl, hd⟩ hf⟩

/-- the JSON round trip on streams -/
theorem decodeJSON_encodeJSONAll (offMin : Int) (ho : offMin.natAbs < 1440) (rs : List Result)
    (hrs : ∀ r ∈ rs, ReprJSONResult r) :
    ∃ s, encodeJSONAll offMin rs = some s ∧ decodeJSON s = (rs, .eof) := by
  obtain ⟨lines, hl, hf⟩ := encodeJSONAll_lines offMin ho rs hrs
  exact ⟨lines.flatten, hl, decodeJSON_lines lines rs hf⟩

end Vegeta.Proofs.Codec
