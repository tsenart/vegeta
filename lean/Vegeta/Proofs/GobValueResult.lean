/-
The gob result codec (`Vegeta.Model.GobValue`) on whole results and streams: one value message is read
back into the result that was written (an empty body comes back nil), what comes back is `Equal` to what
was written, the stream round trip, and the record-level cut theorem.
-/
import Vegeta.Proofs.GobValueDomain
import Vegeta.Proofs.GobValueLayers
import Vegeta.Proofs.GobFrame
import Vegeta.Proofs.EqualLaws
namespace Vegeta.Proofs.Gob
open Vegeta.Go Vegeta.Model.Codec Vegeta.Model.GobFrame Vegeta.Model.GobValue Vegeta.Proofs.Codec Vegeta.Proofs.GobFrame

theorem gBytes_length (b : Bytes) : b.length < (gBytes b).length := by
  have := encodeUint_length_pos b.length
  simp [gBytes]; omega

theorem length_flatMap_mem {α β : Type} (f : α → List β) (l : List α) (x : α) (hx : x ∈ l) :
    (f x).length ≤ (l.flatMap f).length := by
  rw [List.flatMap_def]
  exact (List.sublist_flatten_of_mem (List.mem_map_of_mem hx)).length_le

theorem length_le_flatMap {α β : Type} (f : α → List β) (l : List α) (hf : ∀ x ∈ l, 0 < (f x).length) :
    l.length ≤ (l.flatMap f).length := by
  induction l with
  | nil => simp
  | cons y ys ih =>
    simp only [List.flatMap_cons, List.length_append, List.length_cons]
    have := hf y (by simp)
    have := ih (fun x hx => hf x (by simp [hx]))
    omega

theorem gStrings_bounds (vs : List Bytes) :
    vs.length < (gStrings vs).length ∧ ∀ v ∈ vs, v.length < (gStrings vs).length := by
  have h0 := encodeUint_length_pos vs.length
  unfold gStrings
  simp only [List.length_append]
  constructor
  · have := length_le_flatMap gBytes vs (fun x _ => by have := gBytes_length x; omega)
    omega
  · intro v hv
    have := length_flatMap_mem gBytes vs v hv
    have := gBytes_length v
    omega

theorem gHeader_bounds (h : Header) :
    h.length < (gHeader h).length ∧ ∀ kv ∈ h, kv.1.length < (gHeader h).length ∧
      kv.2.length < (gHeader h).length ∧ ∀ v ∈ kv.2, v.length < (gHeader h).length := by
  have h0 := encodeUint_length_pos h.length
  unfold gHeader
  simp only [List.length_append]
  constructor
  · have := length_le_flatMap (fun kv : Bytes × List Bytes => gBytes kv.1 ++ gStrings kv.2) h (fun x _ => by
      have := gBytes_length x.1
      simp only [List.length_append]; omega)
    omega
  · intro kv hkv
    have h1 := length_flatMap_mem (fun kv : Bytes × List Bytes => gBytes kv.1 ++ gStrings kv.2) h kv hkv
    simp only [List.length_append] at h1
    have h2 := gBytes_length kv.1
    have ⟨h3, h4⟩ := gStrings_bounds kv.2
    refine ⟨by omega, by omega, ?_⟩
    intro v hv
    have := h4 v hv
    omega

theorem encFields_mem_length (fs : List (Option Bytes)) :
    ∀ (gap : Nat) (q : Bytes), some q ∈ fs → q.length < (encFields gap fs).length := by
  induction fs with
  | nil => intro _ _ h; cases h
  | cons f fs ih =>
    intro gap q hq
    cases f with
    | none =>
      simp only [encFields]
      exact ih _ q (by simpa using hq)
    | some p =>
      simp only [encFields, List.length_append]
      have := encodeUint_length_pos gap
      rcases List.mem_cons.mp hq with e | h
      · cases e; omega
      · have := ih 1 q h; omega

/-- the fields `fs`, numbered from `i`, take the accumulated result `acc` to `acc'`: an omitted field
leaves it alone, a sent one is parsed by `decField` whatever follows -/
inductive FieldChain : Nat → List (Option Bytes) → Result → Result → Prop
  | nil (i : Nat) (acc : Result) : FieldChain i [] acc acc
  | skip (i : Nat) (fs : List (Option Bytes)) (acc acc' : Result) :
      FieldChain (i + 1) fs acc acc' → FieldChain i (none :: fs) acc acc'
  | send (i : Nat) (p : Bytes) (fs : List (Option Bytes)) (acc mid acc' : Result) :
      (∀ rest, decField i (p ++ rest) acc = some (mid, rest)) → FieldChain (i + 1) fs mid acc' →
      FieldChain i (some p :: fs) acc acc'

theorem FieldChain.step {i : Nat} {f : Option Bytes} {fs : List (Option Bytes)} {acc acc' : Result} (mid : Result)
    (hnone : f = none → mid = acc)
    (hsome : ∀ p, f = some p → ∀ rest, decField i (p ++ rest) acc = some (mid, rest))
    (h : FieldChain (i + 1) fs mid acc') : FieldChain i (f :: fs) acc acc' := by
  cases f with
  | none => rw [hnone rfl] at h; exact FieldChain.skip _ _ _ _ h
  | some p => exact FieldChain.send _ _ _ _ mid _ (hsome p rfl) h

/-- the decoder's loop follows the encoder's deltas: invariant `next + gap = i + 1` when field `i` is up;
one unit of fuel per sent field and one for the closing zero -/
theorem decFields_chain {i : Nat} {fs : List (Option Bytes)} {acc acc' : Result} (h : FieldChain i fs acc acc') :
    ∀ (next gap fuel : Nat), next + gap = i + 1 → 1 ≤ gap → i + fs.length < 2 ^ 64 →
      (encFields gap fs).length ≤ fuel → decFields fuel next (encFields gap fs) acc = some acc' := by
  induction h with
  | nil i acc =>
    intro next gap fuel _ _ _ hf
    simp only [encFields] at hf ⊢
    cases fuel with
    | zero => simp at hf
    | succ f => simp [decFields, decUint]
  | skip i fs acc acc' _ ih =>
    intro next gap fuel h1 h2 h3 hf
    simp only [encFields] at hf ⊢
    exact ih next (gap + 1) fuel (by omega) (by omega) (by simp at h3; omega) hf
  | send i p fs acc mid acc' hd _ ih =>
    intro next gap fuel h1 h2 h3 hf
    simp only [encFields, List.length_append] at hf
    have := encodeUint_length_pos gap
    cases fuel with
    | zero => omega
    | succ f =>
      simp only [encFields, decFields, List.append_assoc]
      rw [decUint_encodeUint gap (by simp at h3; omega)]
      simp only
      rw [if_neg (by omega)]
      have e : next + gap - 1 = i := by omega
      rw [e, hd]
      simp only
      rw [h1]
      exact ih (i + 1) 1 f rfl (by omega) (by simp at h3; omega) (by omega)

theorem fString_none {s : Bytes} (h : fString s = none) : s = [] := by
  unfold fString at h
  split at h
  · rename_i he; simpa using he
  · cases h

theorem fString_some {s p : Bytes} (h : fString s = some p) : p = gBytes s ∧ s.isEmpty = false := by
  unfold fString at h
  split at h
  · cases h
  · rename_i he; cases h; exact ⟨rfl, by simpa using he⟩

theorem fUint_none {n : Nat} (h : fUint n = none) : n = 0 := by
  unfold fUint at h
  split at h
  · assumption
  · cases h

theorem fUint_some {n : Nat} {p : Bytes} (h : fUint n = some p) : p = encodeUint n := by
  unfold fUint at h
  split at h
  · cases h
  · cases h; rfl

theorem fInt_none {n : Int} (h : fInt n = none) : n = 0 := by
  unfold fInt at h
  split at h
  · assumption
  · cases h

theorem fInt_some {n : Int} {p : Bytes} (h : fInt n = some p) : p = gInt n := by
  unfold fInt at h
  split at h
  · cases h
  · cases h; rfl

/-- every sent payload of a field list is shorter than 2^64 (it lies inside a message below `tooBig`) -/
def Small (fs : List (Option Bytes)) : Prop := ∀ q, some q ∈ fs → q.length < 2 ^ 64

theorem Small.tail {f : Option Bytes} {fs : List (Option Bytes)} (h : Small (f :: fs)) : Small fs :=
  fun q hq => h q (List.mem_cons_of_mem _ hq)

theorem map_of_eq_some {α β : Type} {o : Option α} {a : α} (f : α → β) (h : o = some a) : o.map f = some (f a) := by
  rw [h]; rfl

/-- a string or []byte field, sent unless empty: `set` is what `decField i` does with the bytes read -/
theorem FieldChain.bytesField {i : Nat} {fs : List (Option Bytes)} {acc acc' : Result} (s : Bytes)
    (set : Bytes → Result → Result) (mid : Result)
    (hdec : ∀ x b rest r, decBytes x = some (b, rest) → decField i x r = some (set b r, rest))
    (hs : Small (fString s :: fs)) (h0 : s = [] → mid = acc) (h1 : s.isEmpty = false → mid = set s acc)
    (h : FieldChain (i + 1) fs mid acc') : FieldChain i (fString s :: fs) acc acc' := by
  refine FieldChain.step mid (fun hn => h0 (fString_none hn)) (fun p hp rest => ?_) h
  have hq := hs p (by rw [hp]; exact List.mem_cons_self)
  obtain ⟨rfl, hne⟩ := fString_some hp
  have := gBytes_length s
  rw [hdec _ s rest acc (decBytes_gBytes s rest (by omega)), h1 hne]

theorem FieldChain.uintField {i : Nat} {fs : List (Option Bytes)} {acc acc' : Result} (n : Nat)
    (set : Nat → Result → Result) (mid : Result)
    (hdec : ∀ x rest r, decUint x = some (n, rest) → decField i x r = some (set n r, rest))
    (hn : n < 2 ^ 64) (h0 : n = 0 → mid = acc) (h1 : mid = set n acc) (h : FieldChain (i + 1) fs mid acc') :
    FieldChain i (fUint n :: fs) acc acc' := by
  refine FieldChain.step mid (fun hz => h0 (fUint_none hz)) (fun p hp rest => ?_) h
  obtain rfl := fUint_some hp
  rw [h1]
  exact hdec _ rest acc (decUint_encodeUint n hn rest)

/-- the list of field payloads of `r` (time field `some (gBytes b)`) takes the zero result to `gobDecoded r`:
one step per field, each setting its field in the result accumulated so far -/
theorem fields_chain (r : Result) (b : Bytes) (hnum : ReprNumbers r)
    (hb : decTimeBinary b = some r.timestamp) (hbl : b.length < 2 ^ 64)
    (hh : ∀ h, r.headers = some h → (h.map (·.1)).Nodup)
    (hsz : Small [fString r.attack, fUint r.seq, fUint r.code, some (gBytes b), fInt r.latency, fUint r.bytesOut,
        fUint r.bytesIn, fString r.error, fString (r.body.getD []), fString r.method, fString r.url,
        r.headers.map gHeader]) :
    FieldChain 0 [fString r.attack, fUint r.seq, fUint r.code, some (gBytes b), fInt r.latency, fUint r.bytesOut,
        fUint r.bytesIn, fString r.error, fString (r.body.getD []), fString r.method, fString r.url,
        r.headers.map gHeader] {} (gobDecoded r) := by
  refine FieldChain.bytesField r.attack (fun s a => { a with attack := s }) { attack := r.attack }
    (fun _ _ _ _ h => map_of_eq_some _ h) hsz (fun h => by rw [h]) (fun _ => rfl) ?_
  have hsz := hsz.tail
  refine FieldChain.uintField r.seq (fun n a => { a with seq := n }) { attack := r.attack, seq := r.seq }
    (fun _ _ _ h => map_of_eq_some _ h) hnum.seq (fun h => by rw [h]) rfl ?_
  have hsz := hsz.tail
  refine FieldChain.uintField r.code (fun n a => { a with code := n }) { attack := r.attack, seq := r.seq, code := r.code }
    (fun x rest a h => by show (decUint x).bind _ = _; rw [h]; exact if_pos hnum.code)
    (Nat.lt_trans hnum.code (by decide)) (fun h => by rw [h]) rfl ?_
  have hsz := hsz.tail
  refine FieldChain.send _ _ _ _ { attack := r.attack, seq := r.seq, code := r.code, timestamp := r.timestamp } _
    (fun rest => by
      show (decBytes _).bind _ = _
      rw [decBytes_gBytes b rest hbl]
      exact map_of_eq_some _ hb) ?_
  have hsz := hsz.tail
  refine FieldChain.step { attack := r.attack, seq := r.seq, code := r.code, timestamp := r.timestamp, latency := r.latency }
    (fun h => by rw [fInt_none h]) (fun p h rest => by
      rw [fInt_some h]; exact map_of_eq_some _ (decInt_gInt _ hnum.latency rest)) ?_
  have hsz := hsz.tail
  refine FieldChain.uintField r.bytesOut (fun n a => { a with bytesOut := n })
    { attack := r.attack, seq := r.seq, code := r.code, timestamp := r.timestamp, latency := r.latency,
      bytesOut := r.bytesOut }
    (fun _ _ _ h => map_of_eq_some _ h) hnum.bytesOut (fun h => by rw [h]) rfl ?_
  have hsz := hsz.tail
  refine FieldChain.uintField r.bytesIn (fun n a => { a with bytesIn := n })
    { attack := r.attack, seq := r.seq, code := r.code, timestamp := r.timestamp, latency := r.latency,
      bytesOut := r.bytesOut, bytesIn := r.bytesIn }
    (fun _ _ _ h => map_of_eq_some _ h) hnum.bytesIn (fun h => by rw [h]) rfl ?_
  have hsz := hsz.tail
  refine FieldChain.bytesField r.error (fun s a => { a with error := s })
    { attack := r.attack, seq := r.seq, code := r.code, timestamp := r.timestamp, latency := r.latency,
      bytesOut := r.bytesOut, bytesIn := r.bytesIn, error := r.error }
    (fun _ _ _ _ h => map_of_eq_some _ h) hsz (fun h => by rw [h]) (fun _ => rfl) ?_
  have hsz := hsz.tail
  -- the body: an empty one is not sent and stays nil
  refine FieldChain.bytesField (r.body.getD []) (fun s a => { a with body := some s })
    { attack := r.attack, seq := r.seq, code := r.code, timestamp := r.timestamp, latency := r.latency,
      bytesOut := r.bytesOut, bytesIn := r.bytesIn, error := r.error,
      body := if (r.body.getD []).isEmpty then none else r.body }
    (fun _ _ _ _ h => map_of_eq_some _ h) hsz (fun h => by rw [h]; rfl)
    (fun h => by cases hbody : r.body <;> simp_all) ?_
  have hsz := hsz.tail
  refine FieldChain.bytesField r.method (fun s a => { a with method := s })
    { attack := r.attack, seq := r.seq, code := r.code, timestamp := r.timestamp, latency := r.latency,
      bytesOut := r.bytesOut, bytesIn := r.bytesIn, error := r.error,
      body := if (r.body.getD []).isEmpty then none else r.body, method := r.method }
    (fun _ _ _ _ h => map_of_eq_some _ h) hsz (fun h => by rw [h]) (fun _ => rfl) ?_
  have hsz := hsz.tail
  refine FieldChain.bytesField r.url (fun s a => { a with url := s })
    { attack := r.attack, seq := r.seq, code := r.code, timestamp := r.timestamp, latency := r.latency,
      bytesOut := r.bytesOut, bytesIn := r.bytesIn, error := r.error,
      body := if (r.body.getD []).isEmpty then none else r.body, method := r.method, url := r.url }
    (fun _ _ _ _ h => map_of_eq_some _ h) hsz (fun h => by rw [h]) (fun _ => rfl) ?_
  have hsz := hsz.tail
  refine FieldChain.step (gobDecoded r) (fun h => ?_) (fun p h rest => ?_) (FieldChain.nil _ _)
  · cases hr : r.headers with
    | none => simp only [gobDecoded, hr]
    | some hd => rw [hr] at h; cases h
  · cases hr : r.headers with
    | none => rw [hr] at h; cases h
    | some hd =>
      rw [hr] at h
      cases h
      have hq := hsz (gHeader hd) (by rw [hr]; exact List.mem_cons_self)
      have ⟨h1, h2⟩ := gHeader_bounds hd
      have := decHeader_gHeader hd rest (by omega) (hh hd hr) (fun kv hkv => by
        have ⟨a, b, c⟩ := h2 kv hkv
        exact ⟨by omega, by omega, fun v hv => by have := c v hv; omega⟩)
      show (decHeader _).map _ = _
      rw [this]
      simp only [Option.map_some, gobDecoded, hr]

/-- one value message: the decoder (into a zero `Result`) returns the result (an empty body comes back nil) -/
theorem decValue_valuePayload (z : Zone) (r : Result) (hz : ZoneOK z) (hr : ReprGobResult z r) :
    ∃ p, valuePayload z r = some p ∧ p.length < tooBig ∧ decValue p = some (gobDecoded r) := by
  have hnum := hr.num
  obtain ⟨b, hb⟩ : ∃ b, timeBinary z r.timestamp = some b := by
    cases z with
    | utc => exact ⟨_, rfl⟩
    | fixed off => exact timeBinary_fixed off r.timestamp hz
  have hbl := timeBinary_length hb
  have hdec : decTimeBinary b = some r.timestamp := decTimeBinary_timeBinary z _ b (by
    have h0 := hnum.ts0
    have h1 := hnum.ts1
    unfold tsLimit at h1
    unfold unixToInternal
    omega) hb
  have hnz : ¬ (r.timestamp = zeroTime ∧ z = .utc) := by
    intro h
    have h0 := hnum.ts0
    rw [h.1] at h0
    unfold zeroTime at h0
    omega
  have hvp : valuePayload z r = some (255 :: 128 :: encFields 1
      [fString r.attack, fUint r.seq, fUint r.code, some (gBytes b), fInt r.latency, fUint r.bytesOut,
        fUint r.bytesIn, fString r.error, fString (r.body.getD []), fString r.method, fString r.url,
        r.headers.map gHeader]) := by
    unfold valuePayload fieldPayloads
    simp only [if_neg hnz, hb, Option.map_some]
  have hsize := hr.size _ hvp
  simp only [List.length_cons] at hsize
  refine ⟨_, hvp, by simpa using hsize, ?_⟩
  have hsz : Small [fString r.attack, fUint r.seq, fUint r.code, some (gBytes b), fInt r.latency, fUint r.bytesOut,
        fUint r.bytesIn, fString r.error, fString (r.body.getD []), fString r.method, fString r.url,
        r.headers.map gHeader] := by
    intro q hq
    have := encFields_mem_length _ 1 q hq
    unfold tooBig at hsize
    omega
  have hc := fields_chain r b hnum hdec (by omega) hr.headers hsz
  simp only [decValue]
  exact decFields_chain hc 0 1 _ rfl (Nat.le_refl _) (by simp) (by omega)

theorem gobDecoded_body_getD (r : Result) : (gobDecoded r).body.getD [] = r.body.getD [] := by
  unfold gobDecoded
  cases r.body with
  | none => simp
  | some x => cases x <;> simp

theorem stripPre_take (pre ps : List Bytes) :
    ∀ m, stripPre pre ((pre ++ ps).take m) = some (ps.take (m - pre.length)) := by
  induction pre with
  | nil => intro m; simp [stripPre]
  | cons p pre ih =>
    intro m
    cases m with
    | zero => simp [stripPre]
    | succ m =>
      simp only [List.cons_append, List.take_succ_cons, stripPre, List.length_cons]
      rw [if_pos True.intro, ih m]
      congr 2
      omega

theorem valueFrames_cons_eq_some {z : Zone} {r : Result} {rs : List Result} {ps : List Bytes}
    (h : valueFrames z (r :: rs) = some ps) :
    ∃ p ps', valuePayload z r = some p ∧ valueFrames z rs = some ps' ∧ ps = p :: ps' := by
  simp only [valueFrames] at h
  -- `some` only when both parts are
  cases h1 : valuePayload z r <;> cases h2 : valueFrames z rs <;> simp_all

/-- (the stream stands on the right: `subst` with it on the left evaluates `encodeFrames preFrames`) -/
theorem encodeGobAll_cons_eq_some {z : Zone} {r : Result} {rs : List Result} {s : Bytes}
    (h : encodeGobAll z (r :: rs) = some s) :
    ∃ ps, valueFrames z (r :: rs) = some ps ∧ encodeFrames (preFrames ++ ps) = s := by
  simpa only [encodeGobAll, Option.map_eq_some_iff] using h

theorem valueFrames_decValues (z : Zone) (rs : List Result) (hz : ZoneOK z) (hrs : ∀ r ∈ rs, ReprGobResult z r) :
    ∃ ps, valueFrames z rs = some ps ∧ (∀ p ∈ ps, p.length < tooBig) ∧
      decValues ps = (rs.map gobDecoded, true) := by
  induction rs with
  | nil => exact ⟨[], rfl, by simp, rfl⟩
  | cons r rs ih =>
    obtain ⟨ps, h1, h2, h3⟩ := ih (fun x hx => hrs x (by simp [hx]))
    obtain ⟨p, hp1, hp2, hp3⟩ := decValue_valuePayload z r hz (hrs r (by simp))
    exact ⟨p :: ps, by simp [valueFrames, hp1, h1], List.forall_mem_cons.2 ⟨hp2, h2⟩, by simp [decValues, hp3, h3]⟩

theorem decValues_take (ps : List Bytes) (rs : List Result) (h : decValues ps = (rs, true)) :
    rs.length = ps.length ∧ ∀ n, decValues (ps.take n) = (rs.take n, true) := by
  induction ps generalizing rs with
  | nil => cases h; exact ⟨rfl, fun n => by simp [decValues]⟩
  | cons p ps ih =>
    simp only [decValues] at h
    cases hp : decValue p with
    | none => rw [hp] at h; cases h
    | some r =>
      rw [hp] at h
      simp only [Prod.mk.injEq] at h
      obtain ⟨rfl, h2⟩ := h
      obtain ⟨hl, ht⟩ := ih _ (Prod.ext rfl h2)
      refine ⟨by simp [hl], fun n => ?_⟩
      cases n with
      | zero => simp [decValues]
      | succ n => simp [decValues, hp, ht n]

theorem valueFrames_spec (z : Zone) (rs : List Result) (hz : ZoneOK z) (hrs : ∀ r ∈ rs, ReprGobResult z r) :
    ∃ ps, valueFrames z rs = some ps ∧ ps.length = rs.length ∧ (∀ p ∈ ps, p.length < tooBig) ∧
      ∀ n, decValues (ps.take n) = ((rs.map gobDecoded).take n, true) := by
  obtain ⟨ps, h1, h2, h3⟩ := valueFrames_decValues z rs hz hrs
  obtain ⟨hl, ht⟩ := decValues_take ps _ h3
  exact ⟨ps, h1, by simpa using hl.symm, h2, ht⟩

theorem preFrames_lt : ∀ f ∈ preFrames, f.length < tooBig := by decide +kernel

theorem preFrames_length : preFrames.length = 4 := rfl

theorem gobTerm_true (fs : List Bytes) (t : FrameRes) :
    gobTerm fs t true = if t = .eof ∧ (fs = [] ∨ 4 < fs.length) then .eof else .err := by
  unfold gobTerm
  rw [preFrames_length]
  cases fs <;> cases t <;> simp

/-- a stream of the type definitions and value messages `ps` that decode to `rs`, cut after `k` bytes:
the framing layer yields the complete messages (`frame_prefix_safe`), the first four are dropped, the
rest decode to a prefix of `rs` -/
theorem decodeGob_frames_cut (ps : List Bytes) (rs : List Result) (hlt : ∀ p ∈ ps, p.length < tooBig)
    (hd : decValues ps = (rs, true)) (k : Nat) :
    decodeGob ((encodeFrames (preFrames ++ ps)).take k) =
      (rs.take ((cutFrames (preFrames ++ ps) k).1.length - 4),
       gobTerm (cutFrames (preFrames ++ ps) k).1 (cutFrames (preFrames ++ ps) k).2 true) := by
  have hall : ∀ f ∈ preFrames ++ ps, f.length < tooBig := fun f hf =>
    (List.mem_append.mp hf).elim (preFrames_lt f) (hlt f)
  obtain ⟨m, hm, hc, _, _⟩ := cutFrames_prefix (preFrames ++ ps) k
  have hlen : (cutFrames (preFrames ++ ps) k).1.length = m := by
    rw [hc, List.length_take]; omega
  unfold decodeGob
  simp only [frame_prefix_safe _ hall k]
  rw [hlen, hc, stripPre_take preFrames ps m]
  simp only [preFrames_length, (decValues_take ps rs hd).2 (m - 4)]

/-- the uncut stream: everything, then end-of-stream — unless no value message follows the type definitions -/
theorem decodeGob_frames (ps : List Bytes) (rs : List Result) (hlt : ∀ p ∈ ps, p.length < tooBig)
    (hd : decValues ps = (rs, true)) :
    decodeGob (encodeFrames (preFrames ++ ps)) = (rs, if ps = [] then .err else .eof) := by
  have h := decodeGob_frames_cut ps rs hlt hd (encodeFrames (preFrames ++ ps)).length
  rw [List.take_length, cutFrames_all _ _ (Nat.le_refl _)] at h
  have hl := (decValues_take ps rs hd).1
  have hne : preFrames ≠ [] := by decide
  rw [h, List.length_append, preFrames_length, Nat.add_sub_cancel_left, ← hl, List.take_length, gobTerm_true]
  cases ps <;> simp [preFrames_length, hne]

/-- the record-level cut: `cutFrames` counts the complete messages, the first four are the type definitions -/
theorem decodeGob_cut (z : Zone) (rs : List Result) (hz : ZoneOK z) (hrs : ∀ r ∈ rs, ReprGobResult z r) (k : Nat) :
    ∃ ps, valueFrames z rs = some ps ∧ ps.length = rs.length ∧
      decodeGob ((encodeFrames (preFrames ++ ps)).take k) =
        ((rs.map gobDecoded).take ((cutFrames (preFrames ++ ps) k).1.length - 4),
         gobTerm (cutFrames (preFrames ++ ps) k).1 (cutFrames (preFrames ++ ps) k).2 true) := by
  obtain ⟨ps, h1, h2, h3⟩ := valueFrames_decValues z rs hz hrs
  exact ⟨ps, h1, by simpa using (decValues_take ps _ h3).1.symm, decodeGob_frames_cut ps _ h2 h3 k⟩

theorem decodeGob_encodeGobAll (z : Zone) (rs : List Result) (hz : ZoneOK z) (hrs : ∀ r ∈ rs, ReprGobResult z r) :
    ∃ s, encodeGobAll z rs = some s ∧ decodeGob s = (rs.map gobDecoded, .eof) := by
  cases rs with
  | nil => exact ⟨[], rfl, by decide⟩
  | cons r rs =>
    obtain ⟨ps, h1, h2, h3⟩ := valueFrames_decValues z (r :: rs) hz hrs
    refine ⟨encodeFrames (preFrames ++ ps), by simp [encodeGobAll, h1], ?_⟩
    rw [decodeGob_frames ps _ h2 h3, if_neg (by intro e; rw [e] at h3; cases h3)]

theorem gob_roundtrip_equal (z : Zone) (rs : List Result) (hz : ZoneOK z) (hrs : ∀ r ∈ rs, ReprGobResult z r) :
    ∃ s out, encodeGobAll z rs = some s ∧ decodeGob s = (out, .eof) ∧ equalAll out rs = true := by
  obtain ⟨s, h1, h2⟩ := decodeGob_encodeGobAll z rs hz hrs
  exact ⟨s, _, h1, h2, Vegeta.Proofs.EncodeCmd.equalAll_decodedBy .json .gob rs (fun r hr => (hrs r hr).headers)⟩

/-- attack "ab", seq 3, code 200, 2020-09-13T12:26:40.000000123Z, latency 5 ms, error "e", body "hi", GET "u",
headers K: [a, bc] and L: [] -/
def exResult : Result :=
  { attack := [97, 98], seq := 3, code := 200, timestamp := 1600000000000000123, latency := 5000000,
    bytesOut := 7, bytesIn := 300, error := [101], body := some [104, 105], method := [71, 69, 84],
    url := [117], headers := some [([75], [[97], [98, 99]]), ([76], [])] }

/-- the same with everything optional at its zero value (only the timestamp is sent) -/
def exZero : Result := { timestamp := 0, body := some [] }

example : valuePayload .utc exResult =
    some [255, 128, 1, 2, 97, 98, 1, 3, 1, 255, 200, 1, 15, 1, 0, 0, 0, 14, 214, 240, 7, 0, 0, 0, 0, 123, 255, 255,
      1, 253, 152, 150, 128, 1, 7, 1, 254, 1, 44, 1, 1, 101, 1, 2, 104, 105, 1, 3, 71, 69, 84, 1, 1, 117,
      1, 2, 1, 75, 2, 1, 97, 2, 98, 99, 1, 76, 0, 0] := by decide +kernel

example : valuePayload .utc exZero = some [255, 128, 4, 15, 1, 0, 0, 0, 14, 119, 145, 247, 0, 0, 0, 0, 0, 255, 255, 0] := by
  decide +kernel

theorem exResult_repr : ReprGobResult .utc exResult where
  num := ⟨by decide +kernel, by decide +kernel, by decide +kernel, by decide +kernel, by unfold inS64 minInt64 maxInt64; decide +kernel, by decide +kernel, by decide +kernel⟩
  headers := by
    intro h hh
    cases hh
    decide +kernel
  size := by
    show ∀ p ∈ valuePayload .utc exResult, p.length < tooBig
    decide +kernel

example : decValue [255, 128, 1, 2, 97, 98, 1, 3, 1, 255, 200, 1, 15, 1, 0, 0, 0, 14, 214, 240, 7, 0, 0, 0, 0, 123, 255, 255,
      1, 253, 152, 150, 128, 1, 7, 1, 254, 1, 44, 1, 1, 101, 1, 2, 104, 105, 1, 3, 71, 69, 84, 1, 1, 117,
      1, 2, 1, 75, 2, 1, 97, 2, 98, 99, 1, 76, 0, 0] = some exResult := by decide +kernel

example : decValue [255, 128, 4, 15, 1, 0, 0, 0, 14, 119, 145, 247, 0, 0, 0, 0, 0, 255, 255, 0]
    = some { exZero with body := none } := by decide +kernel

example : gobDecoded exZero = { exZero with body := none } := by decide +kernel
example : gobDecoded exResult = exResult := by decide +kernel

-- a two-record stream, decoded whole
set_option maxRecDepth 20000 in
example : ∃ s, encodeGobAll .utc [exResult, exZero] = some s ∧
    decodeGob s = ([exResult, { exZero with body := none }], .eof) :=
  ⟨_, rfl, by decide +kernel⟩

-- cut right after the type definitions (no result written, or before the first value message): the frames
-- end at a boundary (`cutFrames … = (preFrames, eof)`), yet the decoder reports an error (io.ErrUnexpectedEOF)
set_option maxRecDepth 20000 in
example : cutFrames preFrames (encodeFrames preFrames).length = (preFrames, .eof) ∧
    decodeGob ((encodeFrames (preFrames ++ [])).take (encodeFrames preFrames).length) = ([], .err) := by
  decide +kernel

-- the two-record stream cut inside the second value message, and exactly after the first
set_option maxRecDepth 20000 in
example : ∃ s, encodeGobAll .utc [exResult, exZero] = some s ∧ s.length = 296 ∧
    decodeGob (s.take 290) = ([exResult], .err) ∧ decodeGob (s.take 275) = ([exResult], .eof) ∧
    decodeGob (s.take 274) = ([], .err) ∧ decodeGob (s.take 0) = ([], .eof) :=
  ⟨_, rfl, by decide +kernel, by decide +kernel, by decide +kernel, by decide +kernel, by decide +kernel⟩

end Vegeta.Proofs.Gob
