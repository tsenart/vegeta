/-
The re-ordering buffer of `labeledSeries.add` releases every result exactly once and in sequence
order, whatever the arrival order (invariant `PInv`); `Plot.Add` runs one such buffer per attack.
First, `msSince` on time stamps not before `began`: monotone, and whole milliseconds.
-/
import Vegeta.Model.Plot
import Vegeta.Proofs.AssocList
namespace Vegeta.Proofs.PlotOrder
open Vegeta.Go Vegeta.Model.LTTB Vegeta.Model.Plot
open Vegeta.Proofs.AssocList (seriesLookup_set seriesLookup_append_new plotLookup_set)

theorem bufLookup_cons (k' : Nat) (p : BufPoint) (rest : List (Nat × BufPoint)) (k : Nat) :
    bufLookup ((k', p) :: rest) k = if k' = k then some p else bufLookup rest k := by
  simp only [bufLookup, beq_iff_eq]

theorem bufLookup_erase (buf : List (Nat × BufPoint)) (k k' : Nat) :
    bufLookup (bufErase buf k) k' = if k' = k then none else bufLookup buf k' := by
  induction buf with
  | nil => simp [bufErase, bufLookup]
  | cons e rest ih =>
    obtain ⟨ke, pe⟩ := e
    unfold bufErase at ih ⊢
    by_cases h : ke = k
    · subst h
      rw [List.filter_cons_of_neg (by simp), ih, bufLookup_cons]
      by_cases h' : k' = ke
      · rw [if_pos h', if_pos h']
      · rw [if_neg h', if_neg h', if_neg (Ne.symm h')]
    · rw [List.filter_cons_of_pos (by simpa using h), bufLookup_cons, bufLookup_cons, ih]
      by_cases h' : ke = k'
      · subst h'
        rw [if_pos rfl, if_neg h, if_pos rfl]
      · rw [if_neg h', if_neg h']

theorem bufLookup_insert (buf : List (Nat × BufPoint)) (k : Nat) (p : BufPoint) (k' : Nat) :
    bufLookup (bufInsert buf k p) k' = if k' = k then some p else bufLookup buf k' := by
  unfold bufInsert
  rw [bufLookup_cons, bufLookup_erase]
  by_cases h : k = k'
  · subst h
    rw [if_pos rfl, if_pos rfl]
  · rw [if_neg h, if_neg (Ne.symm h), if_neg (Ne.symm h)]

theorem bufErase_length_lt (buf : List (Nat × BufPoint)) (k : Nat) (p : BufPoint)
    (h : bufLookup buf k = some p) : (bufErase buf k).length < buf.length := by
  induction buf with
  | nil => cases h
  | cons e rest ih =>
    obtain ⟨ke, pe⟩ := e
    unfold bufErase at ih ⊢
    by_cases hk : ke = k
    · subst hk
      simp only [List.filter_cons, bne_self_eq_false, Bool.false_eq_true, if_false, List.length_cons]
      exact Nat.lt_succ_of_le (List.length_filter_le _ _)
    · simp only [bufLookup, beq_iff_eq, if_neg hk] at h
      simp only [List.filter_cons, bne_iff_ne, ne_eq, hk, not_false_eq_true, if_true, List.length_cons]
      exact Nat.succ_lt_succ (ih h)

theorem wrapU64_timeSub (began t : Int) (h0 : began ≤ t) :
    wrapU64 (timeSub t began) = min (t - began) maxInt64 := by
  unfold timeSub wrapU64
  simp only []
  by_cases h : t - began > maxInt64
  · rw [if_pos h, Int.min_eq_right (Int.le_of_lt h)]
    rfl
  · have hd : 0 ≤ t - began := Int.sub_nonneg.mpr h0
    rw [if_neg h, if_neg (Int.not_lt.mpr (Int.le_trans (by decide) hd)), Int.min_eq_left (Int.not_lt.mp h)]
    exact Int.emod_eq_of_lt hd (Int.lt_of_le_of_lt (Int.not_lt.mp h) (by decide))

theorem msSince_mono (began t t' : Int) (h0 : began ≤ t) (h : t ≤ t') :
    msSince t began ≤ msSince t' began := by
  unfold msSince
  rw [wrapU64_timeSub _ _ h0, wrapU64_timeSub _ _ (Int.le_trans h0 h)]
  have : min (t - began) maxInt64 ≤ min (t' - began) maxInt64 :=
    Int.le_min.mpr ⟨Int.le_trans (Int.min_le_left _ _) (Int.sub_le_sub_right h _), Int.min_le_right _ _⟩
  exact Nat.div_le_div_right (Int.toNat_le_toNat this)

theorem msSince_eq_floor (began t : Int) (h0 : began ≤ t) (h1 : t - began ≤ maxInt64) :
    (msSince t began : Int) = (t - began) / 1000000 := by
  unfold msSince
  rw [wrapU64_timeSub _ _ h0, Int.min_eq_left h1, Int.natCast_ediv, Int.toNat_of_nonneg (by omega)]
  rfl

/-- the buffered point `labeledSeries.add` makes of a result -/
def pt (r : Result) : BufPoint := { label := r.label, seq := r.seq, t := r.ts, v := latencyMs r.latency }

/-- `cs` lists the results of attack `a` in sequence order: sequence numbers `0, 1, 2, …`
and time stamps that do not decrease with the sequence number (property C05). -/
structure Canon (a : Bytes) (cs : List Result) : Prop where
  attack : ∀ r ∈ cs, r.attack = a
  seq : ∀ (i : Nat) (r : Result), cs[i]? = some r → r.seq = i
  mono : ∀ (i j : Nat) (r r' : Result), i ≤ j → cs[i]? = some r → cs[j]? = some r' → r.ts ≤ r'.ts

/-- time stamp of the first request (sequence number 0) -/
def t0 (cs : List Result) : Int := (cs.head?.map (·.ts)).getD zeroTime

/-- the points the series of label `l` must hold once the results `cs` have been released -/
def specPts (began : Int) (cs : List Result) (l : Bytes) : List (Nat × F64) :=
  (cs.filter (fun r => r.label == l)).map (fun r => (msSince r.ts began, latencyMs r.latency))

/-- the `prev` field of a series holding `pts`: the x of its last point, else 0 -/
def prevOf (pts : List (Nat × F64)) : Nat := (pts.getLast?.map (·.1)).getD 0

def specSeries (a : Bytes) (began : Int) (cs : List Result) (l : Bytes) : TimeSeries :=
  { attack := a, label := l, prev := prevOf (specPts began cs l), pts := specPts began cs l }

theorem canon_seqs {a : Bytes} {cs : List Result} (hc : Canon a cs) :
    cs.map (·.seq) = List.range cs.length := by
  apply List.ext_getElem (by simp)
  intro i h1 h2
  rw [List.getElem_map, List.getElem_range]
  exact hc.seq i _ (List.getElem?_eq_getElem _)

theorem canon_nil (a : Bytes) : Canon a [] := ⟨by simp, by simp, by simp⟩

theorem canon_of_lists (a : Bytes) (cs : List Result) (hattack : ∀ r ∈ cs, r.attack = a)
    (hseq : cs.map (·.seq) = List.range cs.length) (hts : (cs.map (·.ts)).Pairwise (· ≤ ·)) :
    Canon a cs := by
  refine ⟨hattack, ?_, ?_⟩
  · intro i r hr
    obtain ⟨hi, rfl⟩ := List.getElem?_eq_some_iff.mp hr
    have := List.getElem_of_eq hseq (by rwa [List.length_map])
    rwa [List.getElem_map, List.getElem_range] at this
  · intro i j r r' hij hr hr'
    obtain ⟨hi, rfl⟩ := List.getElem?_eq_some_iff.mp hr
    obtain ⟨hj, rfl⟩ := List.getElem?_eq_some_iff.mp hr'
    rcases Nat.lt_or_eq_of_le hij with hlt | rfl
    · have := List.pairwise_iff_getElem.mp hts i j (by rwa [List.length_map]) (by rwa [List.length_map]) hlt
      rwa [List.getElem_map, List.getElem_map] at this
    · exact Int.le_refl _

theorem t0_le (a : Bytes) (cs : List Result) (hc : Canon a cs) (i : Nat) (r : Result)
    (h : cs[i]? = some r) : t0 cs ≤ r.ts := by
  cases cs with
  | nil => simp at h
  | cons c rest =>
    simp only [t0, List.head?_cons, Option.map_some, Option.getD_some]
    exact hc.mono 0 i c r (Nat.zero_le _) (by simp) h

theorem specPts_take_succ (began : Int) (cs : List Result) (k : Nat) (r : Result) (l : Bytes)
    (h : cs[k]? = some r) :
    specPts began (cs.take (k+1)) l =
      specPts began (cs.take k) l ++ (if r.label = l then [(msSince r.ts began, latencyMs r.latency)] else []) := by
  unfold specPts
  rw [List.take_add_one, h]
  simp only [Option.toList_some, List.filter_append, List.map_append, List.filter_cons, List.filter_nil]
  by_cases hl : r.label = l <;> simp [hl]

theorem prevOf_le (a : Bytes) (cs : List Result) (hc : Canon a cs) (k : Nat) (r : Result) (l : Bytes)
    (h : cs[k]? = some r) : prevOf (specPts (t0 cs) (cs.take k) l) ≤ msSince r.ts (t0 cs) := by
  unfold prevOf
  cases hq : (specPts (t0 cs) (cs.take k) l).getLast? with
  | none => exact Nat.zero_le _
  | some q =>
    -- the last point so far belongs to a result with a smaller sequence number
    obtain ⟨r', hr', rfl⟩ := List.mem_map.mp (List.mem_of_getLast? hq)
    obtain ⟨j, hj, rfl⟩ := List.mem_take_iff_getElem.mp (List.mem_filter.mp hr').1
    have hget := List.getElem?_eq_getElem (Nat.lt_of_lt_of_le hj (Nat.min_le_right _ _))
    exact msSince_mono _ _ _ (t0_le a cs hc j _ hget) (hc.mono j k _ r (by omega) hget h)

/-- State of the buffer after the results with sequence numbers `S` (labels `L`) have arrived;
`ls.seq` may still be releasable. -/
structure PInv (a : Bytes) (cs : List Result) (S : List Nat) (L : List Bytes) (ls : LabeledSeries) : Prop where
  seq_le : ls.seq ≤ cs.length
  below : ∀ k, k < ls.seq → k ∈ S
  buf : ∀ k, bufLookup ls.buf k = if k ∈ S ∧ ls.seq ≤ k then cs[k]?.map pt else none
  series : ∀ l, seriesLookup ls.series l =
    if l ∈ L then some (specSeries a (t0 cs) (cs.take ls.seq) l) else none
  began : (0 < ls.seq ∨ 0 ∈ S) → ls.began = t0 cs
  labels : ∀ k r, k ∈ S → cs[k]? = some r → r.label ∈ L
  inS : ∀ k, k ∈ S → k < cs.length

theorem specSeries_take_succ_ne (a : Bytes) (began : Int) (cs : List Result) (k : Nat) (r : Result)
    (l : Bytes) (h : cs[k]? = some r) (hl : r.label ≠ l) :
    specSeries a began (cs.take (k+1)) l = specSeries a began (cs.take k) l := by
  unfold specSeries
  rw [specPts_take_succ _ _ _ _ _ h, if_neg hl, List.append_nil]

/-- on in-order time stamps `timeSeries.add` never answers `errMonotonicTimestamp` -/
theorem specSeries_add (a : Bytes) (cs : List Result) (hc : Canon a cs) (k : Nat) (r : Result)
    (h : cs[k]? = some r) :
    (specSeries a (t0 cs) (cs.take k) r.label).add (msSince r.ts (t0 cs)) (latencyMs r.latency)
      = .ok (specSeries a (t0 cs) (cs.take (k+1)) r.label) := by
  have hprev : ¬ (specSeries a (t0 cs) (cs.take k) r.label).prev > msSince r.ts (t0 cs) :=
    Nat.not_lt.mpr (prevOf_le a cs hc k r r.label h)
  unfold TimeSeries.add
  rw [if_neg hprev]
  unfold specSeries
  rw [specPts_take_succ _ _ _ _ _ h, if_pos rfl]
  simp [prevOf]

theorem pinv_began_of_mem {a : Bytes} {cs : List Result} {S : List Nat} {L : List Bytes}
    {ls : LabeledSeries} (hinv : PInv a cs S L ls) (hmem : ls.seq ∈ S) : ls.began = t0 cs := by
  apply hinv.began
  rcases Nat.eq_zero_or_pos ls.seq with h | h
  · exact Or.inr (h ▸ hmem)
  · exact Or.inl h

theorem pinv_release_step {a : Bytes} {cs : List Result} {S : List Nat} {L : List Bytes}
    {ls : LabeledSeries} (hinv : PInv a cs S L ls) (hmem : ls.seq ∈ S) (r : Result)
    (hget : cs[ls.seq]? = some r) :
    PInv a cs S L { ls with buf := bufErase ls.buf ls.seq,
                            series := seriesSet ls.series r.label
                              (specSeries a (t0 cs) (cs.take (ls.seq + 1)) r.label),
                            seq := ls.seq + 1 } := by
  refine ⟨hinv.inS _ hmem, ?_, ?_, ?_, fun _ => pinv_began_of_mem (ls := ls) hinv hmem, hinv.labels, hinv.inS⟩
  · intro k hk
    rcases Nat.lt_succ_iff_lt_or_eq.mp hk with hk' | rfl
    · exact hinv.below k hk'
    · exact hmem
  · intro k
    show bufLookup (bufErase ls.buf ls.seq) k = if k ∈ S ∧ ls.seq + 1 ≤ k then _ else _
    rw [bufLookup_erase, hinv.buf k]
    by_cases hk : k = ls.seq
    · rw [if_pos hk, if_neg (fun h => Nat.not_succ_le_self _ (hk ▸ h.2))]
    · have : (ls.seq ≤ k) ↔ (ls.seq + 1 ≤ k) :=
        ⟨fun h => Nat.lt_of_le_of_ne h (Ne.symm hk), Nat.le_of_succ_le⟩
      rw [if_neg hk]
      simp only [this]
  · intro l
    show seriesLookup (seriesSet ls.series r.label _) l = _
    rw [seriesLookup_set, hinv.series l]
    by_cases hl : l = r.label
    · subst hl
      rw [if_pos rfl, if_pos (hinv.labels _ _ hmem hget)]
    · rw [if_neg hl]
      show _ = if l ∈ L then some (specSeries a (t0 cs) (cs.take (ls.seq + 1)) l) else none
      rw [specSeries_take_succ_ne _ _ _ _ _ _ hget (Ne.symm hl)]

/-- The release loop: releases exactly the arrived results from `ls.seq` up to the first
missing sequence number, never fails on in-order time stamps. -/
theorem release_spec (a : Bytes) (cs : List Result) (hc : Canon a cs) (S : List Nat) (L : List Bytes) :
    ∀ (fuel : Nat) (ls : LabeledSeries), PInv a cs S L ls → ls.buf.length < fuel →
      ∃ ls', release fuel ls = .ok ls' ∧ PInv a cs S L ls' ∧ ls'.seq ∉ S := by
  intro fuel
  induction fuel with
  | zero => intro ls _ h; omega
  | succ fuel ih =>
    intro ls hinv hfuel
    unfold release
    have hb := hinv.buf ls.seq
    by_cases hmem : ls.seq ∈ S
    · obtain ⟨r, hget⟩ : ∃ r, cs[ls.seq]? = some r := ⟨_, List.getElem?_eq_getElem (hinv.inS _ hmem)⟩
      rw [if_pos ⟨hmem, Nat.le_refl _⟩, hget, Option.map_some] at hb
      have hs := hinv.series r.label
      rw [if_pos (hinv.labels _ _ hmem hget)] at hs
      simp only [hb, pt, hs]
      rw [show msSince r.ts ls.began = msSince r.ts (t0 cs) by rw [pinv_began_of_mem hinv hmem],
        specSeries_add a cs hc _ r hget]
      exact ih _ (pinv_release_step hinv hmem r hget)
        (Nat.lt_of_lt_of_le (bufErase_length_lt ls.buf ls.seq (pt r) hb) (Nat.le_of_lt_succ hfuel))
    · rw [if_neg (fun h => hmem h.1)] at hb
      rw [hb]
      exact ⟨ls, rfl, hinv, hmem⟩

/-- State after the results with sequence numbers `S` have been added: `PInv` and nothing left
to release (`ls.seq` is the first missing sequence number). -/
def Inv (a : Bytes) (cs : List Result) (S : List Nat) (L : List Bytes) (ls : LabeledSeries) : Prop :=
  PInv a cs S L ls ∧ ls.seq ∉ S

theorem inv_new (a : Bytes) (cs : List Result) : Inv a cs [] [] LabeledSeries.new := by
  refine ⟨⟨?_, ?_, ?_, ?_, ?_, ?_, ?_⟩, ?_⟩ <;> simp [LabeledSeries.new, bufLookup, seriesLookup]

/-- No released result carries a label that has not arrived yet. -/
theorem pinv_specPts_nil {a : Bytes} {cs : List Result} {S : List Nat} {L : List Bytes}
    {ls : LabeledSeries} (hp : PInv a cs S L ls) (l : Bytes) (hl : l ∉ L) :
    specPts (t0 cs) (cs.take ls.seq) l = [] := by
  unfold specPts
  rw [List.map_eq_nil_iff, List.filter_eq_nil_iff]
  intro x hx hxl
  obtain ⟨j, hj, rfl⟩ := List.mem_take_iff_getElem.mp hx
  exact hl (beq_iff_eq.mp hxl ▸ hp.labels j _ (hp.below j (by omega)) (List.getElem?_eq_getElem _))

/-- The arrival of a new result `r` of the attack, before any release: its series exists, its point
is buffered.  `began'` is the new `began` field: `ls.began`, or `r.ts` when `r` is the first
request. -/
theorem pinv_arrive {a : Bytes} {cs : List Result} {S : List Nat} {L : List Bytes}
    {ls : LabeledSeries} (hc : Canon a cs) (hp : PInv a cs S L ls) (r : Result)
    (hr : cs[r.seq]? = some r) (hnew : r.seq ∉ S) (began' : Int)
    (hbegan : (0 < ls.seq ∨ 0 ∈ r.seq :: S) → began' = t0 cs) :
    PInv a cs (r.seq :: S) (r.label :: L)
      { ls with series := ensureSeries ls.series r, buf := bufInsert ls.buf r.seq (pt r),
                began := began' } := by
  refine ⟨hp.seq_le, fun k hk => List.mem_cons_of_mem _ (hp.below k hk), ?_, ?_, hbegan, ?_, ?_⟩
  · intro k
    show bufLookup (bufInsert ls.buf r.seq (pt r)) k = if k ∈ r.seq :: S ∧ ls.seq ≤ k then _ else _
    rw [bufLookup_insert, hp.buf k]
    by_cases hk : k = r.seq
    · have hle : ls.seq ≤ r.seq := Nat.le_of_not_lt (fun h => hnew (hp.below _ h))
      rw [if_pos hk, if_pos ⟨hk ▸ List.mem_cons_self, hk ▸ hle⟩, hk, hr]
      rfl
    · simp only [List.mem_cons, hk, false_or, if_false]
  · intro l
    show seriesLookup (ensureSeries ls.series r) l = _
    unfold ensureSeries
    have hsl := hp.series r.label
    by_cases hin : r.label ∈ L
    · rw [if_pos hin] at hsl
      rw [hsl]
      simp only []
      rw [hp.series l]
      by_cases hl : l = r.label
      · rw [hl, if_pos hin, if_pos List.mem_cons_self]
      · simp only [List.mem_cons, hl, false_or]
    · rw [if_neg hin] at hsl
      rw [hsl]
      simp only []
      rw [seriesLookup_append_new _ _ _ _ hsl, hp.series l]
      by_cases hl : l = r.label
      · subst hl
        rw [if_pos rfl, if_pos List.mem_cons_self]
        simp only [specSeries, pinv_specPts_nil hp _ hin, prevOf, hc.attack r (List.mem_of_getElem? hr),
          List.getLast?_nil, Option.map_none, Option.getD_none]
      · simp only [List.mem_cons, hl, false_or, if_false]
  · intro k r' hk hk'
    rcases List.mem_cons.mp hk with hk | hk
    · rw [hk, hr] at hk'
      cases hk'
      exact List.mem_cons_self
    · exact List.mem_cons_of_mem _ (hp.labels k r' hk hk')
  · intro k hk
    rcases List.mem_cons.mp hk with hk | hk
    · rw [hk]
      exact Nat.lt_of_not_le (fun h => by rw [List.getElem?_eq_none h] at hr; cases hr)
    · exact hp.inS k hk

theorem add_spec (a : Bytes) (cs : List Result) (hc : Canon a cs) (S : List Nat) (L : List Bytes)
    (ls : LabeledSeries) (hinv : Inv a cs S L ls) (r : Result) (hr : cs[r.seq]? = some r)
    (hnew : r.seq ∉ S) :
    ∃ ls', ls.add r = .ok ls' ∧ Inv a cs (r.seq :: S) (r.label :: L) ls' := by
  obtain ⟨hp, hmex⟩ := hinv
  unfold LabeledSeries.add
  simp only []
  by_cases hseq : r.seq = ls.seq
  · -- the awaited result: release
    rw [if_neg (fun h : r.seq ≠ ls.seq => h hseq)]
    refine release_spec a cs hc _ _ _ _ (pinv_arrive hc hp r hr hnew _ ?_) (Nat.lt_succ_self _)
    intro h
    by_cases h0 : ls.seq = 0
    · -- `r` is the first request: `began` becomes its time stamp
      rw [h0] at hseq
      rw [hseq] at hr
      simp only [h0, beq_self_eq_true, if_true, t0, List.head?_eq_getElem?, hr, Option.map_some,
        Option.getD_some]
    · have hb : (ls.seq == 0) = false := beq_false_of_ne h0
      simp only [hb, Bool.false_eq_true, if_false]
      exact hp.began (Or.inl (Nat.pos_of_ne_zero h0))
  · rw [if_pos hseq]
    refine ⟨_, rfl, pinv_arrive hc hp r hr hnew ls.began ?_, ?_⟩
    · intro h
      apply hp.began
      rcases h with h | h
      · exact Or.inl h
      · rcases List.mem_cons.mp h with h | h
        · exact Or.inl (by omega)
        · exact Or.inr h
    · rw [List.mem_cons, not_or]
      exact ⟨fun e => hseq e.symm, hmex⟩

def addAllLS (ls : LabeledSeries) : List Result → Outcome LabeledSeries
  | [] => .ok ls
  | r :: rs =>
    match ls.add r with
    | .ok ls' => addAllLS ls' rs
    | .error e => .error e
    | .panic => .panic

theorem addAllLS_spec (a : Bytes) (cs : List Result) (hc : Canon a cs) :
    ∀ (rs : List Result) (S : List Nat) (L : List Bytes) (ls : LabeledSeries), Inv a cs S L ls →
      (∀ r ∈ rs, cs[r.seq]? = some r) → (rs.map (·.seq) ++ S).Nodup →
      ∃ ls', addAllLS ls rs = .ok ls' ∧ Inv a cs ((rs.map (·.seq)).reverse ++ S) ((rs.map (·.label)).reverse ++ L) ls' := by
  intro rs
  induction rs with
  | nil => intro S L ls h _ _; exact ⟨ls, rfl, by simpa using h⟩
  | cons r rs ih =>
    intro S L ls hinv hmem hnd
    have hr2 : r.seq ∉ S := fun h => (List.nodup_cons.mp hnd).1 (List.mem_append_right _ h)
    obtain ⟨ls1, h1, hinv1⟩ := add_spec a cs hc S L ls hinv r (hmem r List.mem_cons_self) hr2
    have hnd2 : (rs.map (·.seq) ++ r.seq :: S).Nodup := List.perm_middle.nodup_iff.mpr hnd
    obtain ⟨ls2, h2, hinv2⟩ := ih (r.seq :: S) (r.label :: L) ls1 hinv1
      (fun r' hr' => hmem r' (List.mem_cons_of_mem _ hr')) hnd2
    refine ⟨ls2, by simp [addAllLS, h1, h2], ?_⟩
    simpa [List.append_assoc] using hinv2

theorem addAllLS_new (a : Bytes) (cs : List Result) (hc : Canon a cs) (rs : List Result)
    (hmem : ∀ r ∈ rs, cs[r.seq]? = some r) (hnd : (rs.map (·.seq)).Nodup) :
    ∃ ls, addAllLS LabeledSeries.new rs = .ok ls ∧
      Inv a cs (rs.map (·.seq)).reverse (rs.map (·.label)).reverse ls := by
  simpa only [List.append_nil] using
    addAllLS_spec a cs hc rs [] [] LabeledSeries.new (inv_new a cs) hmem (by rwa [List.append_nil])

/-- **One attack, any arrival order.**  If `rs` is a permutation of the in-order results `cs`
of an attack, adding `rs` never fails, releases everything (`seq = len`, empty buffer), and the
series of every label holds exactly the in-order points of that label. -/
theorem one_attack (a : Bytes) (cs rs : List Result) (hc : Canon a cs) (hperm : rs.Perm cs) :
    ∃ ls, addAllLS LabeledSeries.new rs = .ok ls ∧ ls.seq = cs.length ∧
      (∀ k, bufLookup ls.buf k = none) ∧
      ∀ l, seriesLookup ls.series l =
        if (∃ r ∈ cs, r.label = l) then some (specSeries a (t0 cs) cs l) else none := by
  have hmem : ∀ r ∈ rs, cs[r.seq]? = some r := by
    intro r hr
    obtain ⟨i, hget⟩ := List.mem_iff_getElem?.mp (hperm.mem_iff.mp hr)
    rwa [hc.seq i r hget]
  have hnd : (rs.map (fun r : Result => r.seq)).Nodup := by
    rw [(hperm.map _).nodup_iff, canon_seqs hc]
    exact List.nodup_range
  obtain ⟨ls, h1, hp, hmex⟩ := addAllLS_new a cs hc rs hmem hnd
  -- every sequence number has arrived, so nothing is left behind a gap
  have hall : ∀ k, k < cs.length → k ∈ (rs.map (·.seq)).reverse := fun k hk =>
    List.mem_reverse.mpr (List.mem_map.mpr
      ⟨cs[k], hperm.mem_iff.mpr (List.getElem_mem hk), hc.seq k _ (List.getElem?_eq_getElem hk)⟩)
  have hseq : ls.seq = cs.length :=
    Nat.le_antisymm hp.seq_le (Nat.le_of_not_lt fun h => hmex (hall _ h))
  refine ⟨ls, h1, hseq, ?_, ?_⟩
  · intro k
    rw [hp.buf k, if_neg]
    rintro ⟨hk, hle⟩
    have := hp.inS k hk
    omega
  · intro l
    have hiff : l ∈ (rs.map (·.label)).reverse ↔ ∃ r ∈ cs, r.label = l := by
      rw [List.mem_reverse, List.mem_map]
      exact ⟨fun ⟨r, hr, hl⟩ => ⟨r, hperm.mem_iff.mp hr, hl⟩, fun ⟨r, hr, hl⟩ => ⟨r, hperm.mem_iff.mpr hr, hl⟩⟩
    rw [hp.series l, hseq, List.take_length]
    simp only [hiff]

/-- the adds that reach the `labeledSeries` of attack `a` -/
def attackRun (p : Plot) (rs : List Result) (a : Bytes) : Outcome LabeledSeries :=
  addAllLS ((plotLookup p a).getD LabeledSeries.new) (rs.filter (fun r => r.attack == a))

theorem attackRun_cons (p : Plot) (r : Result) (rs : List Result) (ls1 : LabeledSeries)
    (h1 : ((plotLookup p r.attack).getD LabeledSeries.new).add r = .ok ls1) (a : Bytes) :
    attackRun (plotSet p r.attack ls1) rs a = attackRun p (r :: rs) a := by
  unfold attackRun
  rw [plotLookup_set, List.filter_cons]
  by_cases ha : a = r.attack
  · subst ha
    rw [if_pos rfl, if_pos (beq_self_eq_true _), addAllLS, h1]
    rfl
  · rw [if_neg ha, if_neg (fun h => ha (beq_iff_eq.mp h).symm)]

/-- `Plot.Add` routes every result to the `labeledSeries` of its attack and to no other:
the plot after `rs` holds, per attack, the result of adding that attack's results in their
relative arrival order. -/
theorem plot_addAll_split : ∀ (rs : List Result) (p : Plot),
    (∀ a, ∃ ls, attackRun p rs a = .ok ls) →
    ∃ p', Plot.addAll p rs = .ok p' ∧
      ∀ a ls, attackRun p rs a = .ok ls →
        plotLookup p' a = if (∃ r ∈ rs, r.attack = a) then some ls else plotLookup p a := by
  intro rs
  induction rs with
  | nil =>
    intro p _
    exact ⟨p, rfl, fun a ls _ => by simp⟩
  | cons r rs ih =>
    intro p hall
    -- the first `Add` succeeds, since the run of `r`'s attack does
    obtain ⟨ls1, h1⟩ : ∃ ls1, ((plotLookup p r.attack).getD LabeledSeries.new).add r = .ok ls1 := by
      obtain ⟨lsf, hf⟩ := hall r.attack
      unfold attackRun at hf
      rw [List.filter_cons, if_pos (beq_self_eq_true _), addAllLS] at hf
      cases h : ((plotLookup p r.attack).getD LabeledSeries.new).add r with
      | ok ls1 => exact ⟨ls1, rfl⟩
      | error e => rw [h] at hf; cases hf
      | panic => rw [h] at hf; cases hf
    obtain ⟨p', hp', hlook⟩ := ih (plotSet p r.attack ls1)
      (fun a => by rw [attackRun_cons p r rs ls1 h1]; exact hall a)
    refine ⟨p', by simp only [Plot.addAll, Plot.add, h1, hp'], ?_⟩
    intro a ls hrun
    rw [← attackRun_cons p r rs ls1 h1] at hrun
    rw [hlook a ls hrun]
    by_cases hex : ∃ r' ∈ rs, r'.attack = a
    · obtain ⟨r', hr', he⟩ := hex
      rw [if_pos ⟨r', hr', he⟩, if_pos ⟨r', List.mem_cons_of_mem _ hr', he⟩]
    · rw [if_neg hex, plotLookup_set]
      by_cases ha : a = r.attack
      · -- only `r` belongs to this attack: its `labeledSeries` is the one `Add` stored
        have hnil : rs.filter (fun r' => r'.attack == a) = [] :=
          List.filter_eq_nil_iff.mpr (fun x hx hxe => hex ⟨x, hx, beq_iff_eq.mp hxe⟩)
        unfold attackRun at hrun
        rw [plotLookup_set, if_pos ha, hnil] at hrun
        cases hrun
        rw [if_pos ha, if_pos ⟨r, List.mem_cons_self, ha.symm⟩]
        rfl
      · rw [if_neg ha, if_neg]
        rintro ⟨r', hr', he⟩
        rcases List.mem_cons.mp hr' with h | h
        · exact ha (h ▸ he.symm)
        · exact hex ⟨r', h, he⟩

end Vegeta.Proofs.PlotOrder
