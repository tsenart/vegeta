/-
Round trip of `time.Time.MarshalJSON` / `UnmarshalJSON` (RFC 3339 with nanoseconds) as modelled in
`Vegeta.Model.CodecRFC3339`: civil-date algorithms, fixed-width fields, fractional second, zone.
-/
import Vegeta.Proofs.CodecDecimal
import Vegeta.Proofs.ResultKit
namespace Vegeta.Proofs.Codec
open Vegeta.Go Vegeta.Model.Codec

/-- the month/day part of `absDate`, as a function of the leap flag and the day within the year -/
def t3339MonthDayL (lp : Bool) (d : Nat) : Nat × Nat :=
  if lp && d == 59 then (2, 29)
  else
    let day := if lp && d > 59 then d - 1 else d
    let m := day / 31
    let e := daysBefore.getD (m + 1) 0
    if day ≥ e then (m + 2, day - e + 1)
    else (m + 1, day - daysBefore.getD m 0 + 1)

/-- for every day `d` of a year: a month 1..12, a day within the month's length, and `dateDays`' count of them is `d` -/
theorem t3339_monthDayL_ok : ∀ lp : Bool, ∀ d, d < 365 + lp.toNat →
    1 ≤ (t3339MonthDayL lp d).1 ∧ (t3339MonthDayL lp d).1 ≤ 12 ∧ 1 ≤ (t3339MonthDayL lp d).2 ∧
    (t3339MonthDayL lp d).2 ≤ (if (t3339MonthDayL lp d).1 == 2 && lp then 29
        else daysBefore.getD (t3339MonthDayL lp d).1 0 - daysBefore.getD ((t3339MonthDayL lp d).1 - 1) 0) ∧
    daysBefore.getD ((t3339MonthDayL lp d).1 - 1) 0 + (if lp && (t3339MonthDayL lp d).1 ≥ 3 then 1 else 0) +
      ((t3339MonthDayL lp d).2 - 1) = d := by
  decide +kernel

theorem isLeap_iff (y : Int) :
    isLeap y = true ↔ (y % 4 = 0 ∧ (y % 100 ≠ 0 ∨ y % 400 = 0)) := by
  simp [isLeap]

/-- the year that begins `a` 400-year, `b` 100-year, `c` 4-year cycles and `e` years after the zero year -/
def t3339Year (a b c e : Nat) : Int := ((400 * a + 100 * b + 4 * c + e : Nat) : Int) + absZeroYear

def t3339Days (a b c e : Nat) : Nat := 146097 * a + 36524 * b + 1461 * c + 365 * e

theorem t3339_div (c r : Nat) (hc : 0 < c) :
    ∃ n r', r / c = n ∧ r - c * n = r' ∧ c * n + r' = r ∧ r' < c :=
  ⟨_, _, rfl, rfl, by rw [← Nat.mod_def]; exact Nat.div_add_mod r c,
    by rw [← Nat.mod_def]; exact Nat.mod_lt r hc⟩

/-- the step for four cycles of length `c` and one day more: the quotient `r / c` is 4 on that last day
only, and `n - n / 4` brings it back to 3 -/
theorem t3339_capDiv (c r : Nat) (hc : 0 < c) (hr : r ≤ 4 * c) :
    ∃ n, r / c - r / c / 4 = n ∧ n ≤ 3 ∧ c * n ≤ r ∧ r - c * n ≤ c ∧ (n < 3 → r - c * n < c) := by
  have hq : r / c ≤ 4 := Nat.div_le_of_le_mul (by omega)
  have h1 : c * (r / c) ≤ r := Nat.mul_div_le r c
  have h2 : r < c * (r / c + 1) := Nat.lt_mul_div_succ r hc
  generalize r / c = q at hq h1 h2 ⊢
  have : q = 0 ∨ q = 1 ∨ q = 2 ∨ q = 3 ∨ q = 4 := by omega
  rcases this with rfl | rfl | rfl | rfl | rfl
  all_goals exact ⟨_, rfl, by omega⟩

/-- day 365 exists only in the last year of a 4-year cycle, and if that ends a 100-year cycle, only if it
ends the 400-year cycle too -/
theorem absDate_parts (d0 : Nat) : ∃ a b c e yd : Nat,
    absDate d0 = (t3339Year a b c e, t3339MonthDayL (isLeap (t3339Year a b c e)) yd) ∧
    t3339Days a b c e + yd = d0 ∧
    b ≤ 3 ∧ c ≤ 24 ∧ e ≤ 3 ∧ yd ≤ 365 ∧ (yd = 365 → e = 3 ∧ (c = 24 → b = 3)) := by
  obtain ⟨a, r1, ha, h1, a1, a2⟩ := t3339_div 146097 d0 (by omega)
  obtain ⟨b, hb, b3, b1, b2, b4⟩ := t3339_capDiv 36524 r1 (by omega) (by omega)
  obtain ⟨c, r3, hc, h3, c1, c2⟩ := t3339_div 1461 (r1 - 36524 * b) (by omega)
  obtain ⟨e, he, e3, e1, e2, e4⟩ := t3339_capDiv 365 r3 (by omega) (by omega)
  refine ⟨a, b, c, e, r3 - 365 * e, ?_, ?_⟩
  · unfold t3339MonthDayL
    simp only [apply_ite (Prod.mk (t3339Year a b c e)), absDate, ha, h1, hb, hc, h3, he]
    rfl
  clear ha h1 hb hc h3 he
  unfold t3339Days
  omega

theorem daysSinceEpoch_parts (a b c e : Nat) (hb : b ≤ 3) (hc : c ≤ 24) (he : e ≤ 3) :
    daysSinceEpoch (t3339Year a b c e) = t3339Days a b c e := by
  unfold daysSinceEpoch t3339Year t3339Days
  rw [Int.add_sub_cancel, Int.toNat_natCast]
  -- quotient and remainder of the three steps, one at a time (a single `omega` over all of them is slow)
  have h1 : (400 * a + 100 * b + 4 * c + e) / 400 = a ∧
      400 * a + 100 * b + 4 * c + e - 400 * a = 100 * b + 4 * c + e := by omega
  have h2 : (100 * b + 4 * c + e) / 100 = b ∧ 100 * b + 4 * c + e - 100 * b = 4 * c + e := by omega
  have h3 : (4 * c + e) / 4 = c ∧ 4 * c + e - 4 * c = e := by omega
  simp only [h1, h2, h3]

/-- the zero year is 1 modulo 400, so the leap years are those that end a 4-year cycle, unless that also
ends a 100-year cycle and not the 400-year cycle -/
theorem isLeap_parts (a b c e : Nat) (hb : b ≤ 3) (hc : c ≤ 24) (he : e ≤ 3) :
    isLeap (t3339Year a b c e) = true ↔ e = 3 ∧ (c = 24 → b = 3) := by
  rw [isLeap_iff]
  unfold t3339Year absZeroYear
  omega

theorem t3339_year_window (a b c e yd d0 : Nat) (hb : b ≤ 3) (hc : c ≤ 24) (he : e ≤ 3) (hyd : yd ≤ 365)
    (hsum : t3339Days a b c e + yd = d0)
    (hlo : unixToAbsDays - 1 ≤ d0) (hhi : d0 ≤ unixToAbsDays + 84371) :
    1969 ≤ t3339Year a b c e ∧ t3339Year a b c e ≤ 2201 := by
  unfold unixToAbsDays at hlo hhi
  unfold t3339Days at hsum
  unfold t3339Year absZeroYear
  have : a = 730692560 ∨ a = 730692561 := by omega
  rcases this with h | h <;> subst h <;> omega

/-- **`Date` inverts `absDate`**, algebraically: for every day number `d0` (counted from the
absolute epoch) `absDate` yields a valid civil date which `Date` maps back to `d0`; day numbers from
1969-12-31 to 2201-01-01 have years 1969..2201. -/
theorem t3339_civil (d0 : Nat) : ∃ (y : Int) (m dd : Nat), absDate d0 = (y, m, dd) ∧
    1 ≤ m ∧ m ≤ 12 ∧ 1 ≤ dd ∧ dd ≤ daysIn m y ∧ dateDays y m dd = d0 ∧
    (unixToAbsDays - 1 ≤ d0 → d0 ≤ unixToAbsDays + 84371 → 1969 ≤ y ∧ y ≤ 2201) := by
  obtain ⟨a, b, c, e, yd, hdate, hsum, hb, hc, he, hyd, hlast⟩ := absDate_parts d0
  have hdse := daysSinceEpoch_parts a b c e hb hc he
  have hleap := isLeap_parts a b c e hb hc he
  have hwin := t3339_year_window a b c e yd d0 hb hc he hyd hsum
  generalize t3339Year a b c e = year at hdate hdse hleap hwin
  have hlt : yd < 365 + (isLeap year).toNat := by
    cases hl : isLeap year
    · have : yd ≠ 365 := fun h => by rw [hl] at hleap; exact absurd (hleap.2 (hlast h)) (by decide)
      simp only [Bool.toNat_false]; omega
    · simp only [Bool.toNat_true]; omega
  have hm := t3339_monthDayL_ok (isLeap year) yd hlt
  refine ⟨year, (t3339MonthDayL (isLeap year) yd).1, (t3339MonthDayL (isLeap year) yd).2, hdate,
    hm.1, hm.2.1, hm.2.2.1, hm.2.2.2.1, ?_, hwin⟩
  have hday := hm.2.2.2.2
  clear hm
  unfold dateDays
  omega

theorem padNat_digits (w n : Nat) : ∀ c ∈ padNat w n, isDigitB c = true := by
  intro c hc
  rcases List.mem_append.mp hc with h | h
  · rw [List.eq_of_mem_replicate h]; rfl
  · have := fmtNat_digits n c h
    simp [isDigitB, this]

theorem padNat_val (w n : Nat) : (padNat w n).foldl (fun a c => a * 10 + (c - 48)) 0 = n := by
  have zeros : ∀ j, (List.replicate j 48).foldl (fun a c => a * 10 + (c - 48)) 0 = 0 := by
    intro j
    induction j with
    | zero => rfl
    | succ j ih => rw [List.replicate_succ, List.foldl_cons]; exact ih
  rw [padNat, List.foldl_append, zeros]
  exact digitsVal_digitsRev (n + 1) n (by omega)

theorem padNat_length (k n : Nat) (hn : n < 10 ^ (k + 1)) : (padNat (k + 1) n).length = k + 1 := by
  have := digitsRev_length k (n + 1) n hn
  simp only [padNat, fmtNat, List.length_append, List.length_replicate, List.length_reverse]
  omega

/-- `f` is a field of `w` bytes that the parser reads as the number `n` within `[lo, hi]` -/
def t3339Field (f : Bytes) (w lo hi n : Nat) : Prop := f.length = w ∧ parseRange f lo hi = some n

theorem t3339_field_padNat (k n lo hi : Nat) (hn : n < 10 ^ (k + 1)) (hlo : lo ≤ n) (hhi : n ≤ hi) :
    t3339Field (padNat (k + 1) n) (k + 1) lo hi n := by
  have hall : (padNat (k + 1) n).all isDigitB = true := List.all_eq_true.mpr (padNat_digits _ n)
  refine ⟨padNat_length k n hn, ?_⟩
  rw [parseRange, if_pos hall, padNat_val]
  exact if_pos ⟨hlo, hhi⟩

/-- value of decimal digits given least significant first -/
def t3339ValL : List Nat → Nat
  | [] => 0
  | c :: r => (c - 48) + 10 * t3339ValL r

theorem t3339_foldl_reverse (l : List Nat) :
    l.reverse.foldl (fun a c => a * 10 + (c - 48)) 0 = t3339ValL l := by
  rw [List.foldl_reverse]
  induction l with
  | nil => rfl
  | cons c r ih => simp only [List.foldr, ih, t3339ValL]; omega

theorem t3339_valL_dropWhile (l : List Nat) :
    t3339ValL (l.dropWhile (· == 48)) * 10 ^ (l.length - (l.dropWhile (· == 48)).length) =
      t3339ValL l := by
  induction l with
  | nil => rfl
  | cons c r ih =>
    by_cases hc : c = 48
    · subst hc
      have hle : (r.dropWhile (· == 48)).length ≤ r.length :=
        (List.dropWhile_sublist _).length_le
      have : (48 :: r).length - (r.dropWhile (· == 48)).length =
          (r.length - (r.dropWhile (· == 48)).length) + 1 := by simp only [List.length_cons]; omega
      simp only [List.dropWhile_cons, beq_self_eq_true, if_true, this, t3339ValL, ← ih, Nat.pow_succ]
      rw [← Nat.mul_assoc]
      omega
    · have : ((c == 48) = true) = False := by simp [hc]
      simp [this]

theorem parseFrac_none (z : Nat) (rest : Bytes) (hz : z ≠ 46) :
    parseFrac (z :: rest) = (0, z :: rest) := by
  unfold parseFrac
  split
  · rename_i h; injection h with h1 _; exact absurd h1 hz
  · rfl

theorem parseFrac_digits (ds : Bytes) (z : Nat) (rest : Bytes) (hne : ds ≠ [])
    (hall : ∀ c ∈ ds, isDigitB c = true) (hlen : ds.length ≤ 9) (hz : isDigitB z = false) :
    parseFrac (46 :: (ds ++ z :: rest)) =
      (ds.foldl (fun a c => a * 10 + (c - 48)) 0 * 10 ^ (9 - ds.length), z :: rest) := by
  cases ds with
  | nil => exact absurd rfl hne
  | cons c r =>
    have hc : isDigitB c = true := hall c (by simp)
    obtain ⟨htw, hdw⟩ := takeWhile_dropWhile_prefix isDigitB (c :: r) z rest hall hz
    rw [List.cons_append] at htw hdw ⊢
    simp only [parseFrac, hc, if_true, htw, hdw, List.take_of_length_le hlen]

theorem parseFrac_fmtNanos (nsec z : Nat) (rest : Bytes) (hn : nsec < 1000000000)
    (hz : isDigitB z = false) (hz46 : z ≠ 46) :
    parseFrac (fmtNanos nsec ++ z :: rest) = (nsec, z :: rest) := by
  unfold fmtNanos
  by_cases h0 : nsec = 0
  · simp only [h0, if_true, List.nil_append]
    exact parseFrac_none z rest hz46
  · simp only [h0, if_false, dropTrailingZeros]
    have h9 := padNat_length 8 nsec (by simpa using hn)
    have hval : t3339ValL (padNat 9 nsec).reverse = nsec := by
      rw [← t3339_foldl_reverse, List.reverse_reverse, padNat_val]
    have hv := t3339_valL_dropWhile (padNat 9 nsec).reverse
    rw [hval, List.length_reverse, h9] at hv
    generalize hdw : (padNat 9 nsec).reverse.dropWhile (· == 48) = dw at hv
    have hsub : dw.Sublist (padNat 9 nsec).reverse := hdw ▸ List.dropWhile_sublist _
    have hlen : dw.length ≤ 9 := by
      have := hsub.length_le; rwa [List.length_reverse, h9] at this
    have hne : dw.reverse ≠ [] := by
      intro h
      have : dw = [] := by simpa using h
      subst this
      simp [t3339ValL] at hv
      omega
    rw [List.cons_append, parseFrac_digits dw.reverse z rest hne
      (fun c hc => padNat_digits 9 nsec c (List.mem_reverse.mp (hsub.mem (by simpa using hc))))
      (by simpa using hlen) hz]
    rw [t3339_foldl_reverse, List.length_reverse, hv]

theorem fmtZone_head (off : Int) :
    ∃ z zr, fmtZone off = z :: zr ∧ isDigitB z = false ∧ z ≠ 46 := by
  unfold fmtZone
  by_cases h0 : off = 0
  · exact ⟨90, [], by simp [h0], by decide, by decide⟩
  · by_cases hneg : off < 0
    · exact ⟨45, _, by rw [if_neg h0, if_pos hneg], by decide, by decide⟩
    · exact ⟨43, _, by rw [if_neg h0, if_neg hneg], by decide, by decide⟩

theorem parseZone_of_fields (sg : Nat) (fh fm : Bytes) (hr mm : Nat) (hs : sg = 45 ∨ sg = 43)
    (hh : t3339Field fh 2 0 23 hr) (hm : t3339Field fm 2 0 59 mm) :
    parseZone (sg :: (fh ++ 58 :: fm)) =
      some (if sg = 45 then -(((hr * 60 + mm) * 60 : Nat) : Int) else (((hr * 60 + mm) * 60 : Nat) : Int)) := by
  match fh, fm, hh, hm with
  | [_, _], [_, _], ⟨_, ph⟩, ⟨_, pm⟩ =>
    simp only [List.cons_append, List.nil_append, parseZone, ph, pm, hs, and_self, if_true]

theorem parseZone_fmtZone (off : Int) (ho : off.natAbs < 1440) :
    parseZone (fmtZone off) = some (off * 60) := by
  unfold fmtZone
  by_cases h0 : off = 0
  · simp [h0, parseZone]
  · rw [if_neg h0, parseZone_of_fields _ _ _ _ _ (by split <;> simp)
      (t3339_field_padNat 1 _ 0 23 (by omega) (by omega) (by omega))
      (t3339_field_padNat 1 _ 0 59 (by omega) (by omega) (by omega))]
    by_cases hneg : off < 0
    · simp [hneg]; omega
    · simp [hneg]; omega

theorem daysIn_le (m : Nat) (y : Int) (hm : m ≤ 12) : daysIn m y ≤ 31 := by
  unfold daysIn
  split
  · omega
  · have : ∀ m, m ≤ 12 → daysBefore.getD m 0 - daysBefore.getD (m - 1) 0 ≤ 31 := by decide
    exact this m hm

theorem parseRFC3339_of_fields (fy fm fd fh fi fs rest rest' : Bytes) (y m dd hh mi ss nsec : Nat) (off : Int)
    (hy : t3339Field fy 4 0 9999 y) (hm : t3339Field fm 2 1 12 m) (hd : t3339Field fd 2 1 (daysIn m y) dd)
    (hh' : t3339Field fh 2 0 23 hh) (hi : t3339Field fi 2 0 59 mi) (hs : t3339Field fs 2 0 59 ss)
    (pf : parseFrac rest = (nsec, rest')) (pz : parseZone rest' = some off) :
    parseRFC3339 (fy ++ 45 :: fm ++ 45 :: fd ++ 84 :: fh ++ 58 :: fi ++ 58 :: fs ++ rest) =
    some ((((dateDays (y : Int) m dd : Int) - (unixToAbsDays : Int)) * 86400 +
      ((hh * 3600 + mi * 60 + ss : Nat) : Int) - off) * 1000000000 + (nsec : Int)) := by
  match fy, fm, fd, fh, fi, fs, hy, hm, hd, hh', hi, hs with
  | [_, _, _, _], [_, _], [_, _], [_, _], [_, _], [_, _], ⟨_, py⟩, ⟨_, pm⟩, ⟨_, pd⟩, ⟨_, ph⟩, ⟨_, pi⟩, ⟨_, ps⟩ =>
    simp only [List.cons_append, List.nil_append, parseRFC3339, py, pm, pd, ph, pi, ps, pf, pz,
      and_self, if_true]

/-- bytes that need no escaping inside a JSON string -/
def t3339OkB (c : Nat) : Prop := 32 ≤ c ∧ c < 128 ∧ c ≠ 34 ∧ c ≠ 92

instance (c : Nat) : Decidable (t3339OkB c) := by unfold t3339OkB; infer_instance

theorem t3339_ok_padNat (w n : Nat) : ∀ c ∈ padNat w n, t3339OkB c := by
  intro c hc
  have := padNat_digits w n c hc
  simp only [isDigitB, Bool.and_eq_true, decide_eq_true_eq] at this
  unfold t3339OkB
  omega

theorem t3339_ok_fmtNanos (nsec : Nat) : ∀ c ∈ fmtNanos nsec, t3339OkB c := by
  unfold fmtNanos
  split
  · exact fun _ h => nomatch h
  · rw [List.forall_mem_cons]
    refine ⟨by decide, fun c hc => ?_⟩
    unfold dropTrailingZeros at hc
    rw [List.mem_reverse] at hc
    exact t3339_ok_padNat 9 nsec c (List.mem_reverse.mp ((List.dropWhile_sublist _).mem hc))

theorem t3339_ok_fmtZone (off : Int) : ∀ c ∈ fmtZone off, t3339OkB c := by
  unfold fmtZone
  split
  · simp only [List.forall_mem_cons]
    exact ⟨by decide, fun _ h => nomatch h⟩
  · simp only [List.forall_mem_cons, List.forall_mem_append]
    exact ⟨by split <;> decide, t3339_ok_padNat 2 _, by decide, t3339_ok_padNat 2 _⟩

/-- the text `fmtRFC3339` writes for a civil date, a second of the day, a fraction and a zone -/
def t3339Text (y m dd sod nsec : Nat) (off : Int) : Bytes :=
  padNat 4 y ++ 45 :: padNat 2 m ++ 45 :: padNat 2 dd ++ 84 :: padNat 2 (sod / 3600) ++ 58 ::
    padNat 2 (sod / 60 % 60) ++ 58 :: padNat 2 (sod % 60) ++ fmtNanos nsec ++ fmtZone off

theorem t3339_ok_text (y m dd sod nsec : Nat) (off : Int) :
    ∀ c ∈ t3339Text y m dd sod nsec off, t3339OkB c := by
  simp only [t3339Text, List.forall_mem_append, List.forall_mem_cons, and_assoc]
  exact ⟨t3339_ok_padNat 4 y, by decide, t3339_ok_padNat 2 m, by decide, t3339_ok_padNat 2 dd, by decide,
    t3339_ok_padNat 2 _, by decide, t3339_ok_padNat 2 _, by decide, t3339_ok_padNat 2 _,
    t3339_ok_fmtNanos nsec, t3339_ok_fmtZone off⟩

theorem fmtRFC3339_ok (ns offMin : Int) (b : Bytes) (h : fmtRFC3339 ns offMin = some b) :
    ∀ c ∈ b, t3339OkB c := by
  unfold fmtRFC3339 at h
  simp only at h
  split at h
  · cases h
  · generalize absDate _ = p at h
    obtain ⟨year, month, day⟩ := p
    simp only at h
    split at h
    · cases h
    · injection h with h
      rw [← h]
      exact t3339_ok_text _ _ _ _ _ _

theorem t3339_text (y m dd sod nsec : Nat) (off : Int)
    (hy : y < 10000) (hm1 : 1 ≤ m) (hm : m ≤ 12) (hd1 : 1 ≤ dd) (hd : dd ≤ daysIn m (y : Int))
    (hsod : sod < 86400) (hn : nsec < 1000000000) (ho : off.natAbs < 1440) :
    parseRFC3339 (t3339Text y m dd sod nsec off) =
      some ((((dateDays (y : Int) m dd : Int) - (unixToAbsDays : Int)) * 86400 + (sod : Int) - off * 60) *
        1000000000 + (nsec : Int)) := by
  have hdd : dd ≤ 31 := Nat.le_trans hd (daysIn_le m y hm)
  have hclock : sod / 3600 * 3600 + sod / 60 % 60 * 60 + sod % 60 = sod := by omega
  obtain ⟨z, zr, hz, hzd, hz46⟩ := fmtZone_head off
  rw [t3339Text, List.append_assoc, parseRFC3339_of_fields _ _ _ _ _ _ _ (fmtZone off) y m dd
    (sod / 3600) (sod / 60 % 60) (sod % 60) nsec (off * 60)
    (t3339_field_padNat 3 y 0 9999 hy (by omega) (by omega))
    (t3339_field_padNat 1 m 1 12 (by omega) hm1 hm)
    (t3339_field_padNat 1 dd 1 _ (by omega) hd1 hd)
    (t3339_field_padNat 1 _ 0 23 (by omega) (by omega) (by omega))
    (t3339_field_padNat 1 _ 0 59 (by omega) (by omega) (by omega))
    (t3339_field_padNat 1 _ 0 59 (by omega) (by omega) (by omega))
    (by rw [hz]; exact parseFrac_fmtNanos nsec z zr hn hzd hz46)
    (parseZone_fmtZone off ho), hclock]

/-- **time.Time: UnmarshalJSON ∘ MarshalJSON = id** for every instant from 1970-01-01T00:00:00Z up to
2200-12-31T23:59:59.999999999Z, with nanosecond precision, shown in any zone of whole minutes
(|offset| < 24 h): formatting succeeds, the fast-path parser returns the same instant, and the text
consists of printable ASCII without '"' and '\\'. -/
theorem parseRFC3339_fmtRFC3339 (ns offMin : Int) (h0 : 0 ≤ ns) (h1 : ns < 7289654400000000000)
    (ho : offMin.natAbs < 1440) :
    ∃ b, fmtRFC3339 ns offMin = some b ∧ parseRFC3339 b = some ns ∧
      ∀ c ∈ b, 32 ≤ c ∧ c < 128 ∧ c ≠ 34 ∧ c ≠ 92 := by
  unfold fmtRFC3339
  simp only []
  -- the instant in parts: nanosecond, local second, day and second of the day
  have hnsec : (ns % 1000000000).toNat < 1000000000 := by omega
  have hns : (ns / 1000000000 * 1000000000 + ((ns % 1000000000).toNat : Int)) = ns := by omega
  have hday : -1 ≤ (ns / 1000000000 + offMin * 60) / 86400 ∧
      (ns / 1000000000 + offMin * 60) / 86400 ≤ 84371 := by omega
  generalize (ns % 1000000000).toNat = nsec at hnsec hns ⊢
  generalize hloc : ns / 1000000000 + offMin * 60 = loc at hday ⊢
  have hsod : (loc % 86400).toNat < 86400 := by omega
  have hloc' : loc / 86400 * 86400 + ((loc % 86400).toNat : Int) = loc := by omega
  generalize (loc % 86400).toNat = sod at hsod hloc' ⊢
  have hd0 : ¬ (loc / 86400 + (unixToAbsDays : Int) < 0) := by unfold unixToAbsDays; omega
  have hdn : (((loc / 86400 + (unixToAbsDays : Int)).toNat : Nat) : Int) = loc / 86400 + unixToAbsDays :=
    Int.toNat_of_nonneg (by omega)
  obtain ⟨y, m, dd, hab, hm1, hm12, hd1, hdd, hdate, hyr⟩ :=
    t3339_civil (loc / 86400 + (unixToAbsDays : Int)).toNat
  obtain ⟨hy1, hy2⟩ := hyr (by unfold unixToAbsDays at hdn ⊢; omega) (by omega)
  have hyc : ¬ (y < 0 ∨ y > 9999 ∨ offMin.natAbs ≥ 1440) := by omega
  have hyn : ((y.toNat : Nat) : Int) = y := Int.toNat_of_nonneg (by omega)
  have hp := t3339_text y.toNat m dd sod nsec offMin (by omega) hm1 hm12 hd1
    (by rw [hyn]; exact hdd) hsod hnsec ho
  have hk := t3339_ok_text y.toNat m dd sod nsec offMin
  rw [t3339Text] at hp hk
  simp only [hab, if_neg hd0, if_neg hyc]
  refine ⟨_, rfl, ?_, hk⟩
  rw [hp, hyn, hdate, hdn]
  refine congrArg some ?_
  clear hab hdd hdate hyr hdn hp hk
  omega

theorem timeUnmarshalJSON_quoted (b : Bytes) (t : Int) (h : parseRFC3339 b = some t) :
    timeUnmarshalJSON (34 :: (b ++ [34])) = .ok t := by
  have h1 : (b ++ [34]).isEmpty = false := by cases b <;> rfl
  have h2 : (b ++ [34]).getLast? = some 34 := by simp
  have h3 : (b ++ [34]).dropLast = b := by simp
  simp only [timeUnmarshalJSON, h1, h2, h3, h]
  rfl

/-- the JSON forms: `Time.UnmarshalJSON (Time.MarshalJSON t) = t` on the same range -/
theorem timeUnmarshal_timeMarshal (ns offMin : Int) (h0 : 0 ≤ ns) (h1 : ns < 7289654400000000000)
    (ho : offMin.natAbs < 1440) :
    ∃ b, timeMarshalJSON ns offMin = some (34 :: (b ++ [34])) ∧ timeUnmarshalJSON (34 :: (b ++ [34])) = .ok ns ∧
      ∀ c ∈ b, 32 ≤ c ∧ c < 128 ∧ c ≠ 34 ∧ c ≠ 92 := by
  obtain ⟨b, hf, hp, hb⟩ := parseRFC3339_fmtRFC3339 ns offMin h0 h1 ho
  exact ⟨b, by simp [timeMarshalJSON, hf], timeUnmarshalJSON_quoted b ns hp, hb⟩

/-- "2020-09-13T14:26:40.123456+02:00" -/
def t3339Ex1 : Bytes := [50, 48, 50, 48, 45, 48, 57, 45, 49, 51, 84, 49, 52, 58, 50, 54, 58, 52, 48, 46,
  49, 50, 51, 52, 53, 54, 43, 48, 50, 58, 48, 48]

example : fmtRFC3339 1600000000123456000 120 = some t3339Ex1 := by decide +kernel
example : parseRFC3339 t3339Ex1 = some 1600000000123456000 := by decide +kernel
/-- "1970-01-01T00:00:00Z" -/
example : fmtRFC3339 0 0 = some [49, 57, 55, 48, 45, 48, 49, 45, 48, 49, 84, 48, 48, 58, 48, 48, 58, 48, 48, 90] := by
  decide +kernel
/-- "1969-12-31T23:59:00.000000001-00:01": one nanosecond after the epoch, one minute west -/
example : fmtRFC3339 1 (-1) = some [49, 57, 54, 57, 45, 49, 50, 45, 51, 49, 84, 50, 51, 58, 53, 57, 58, 48, 48,
  46, 48, 48, 48, 48, 48, 48, 48, 48, 49, 45, 48, 48, 58, 48, 49] := by decide +kernel
/-- "2200-12-31T23:59:59.999999999Z", the last instant covered -/
example : fmtRFC3339 7289654399999999999 0 = some [50, 50, 48, 48, 45, 49, 50, 45, 51, 49, 84, 50, 51, 58, 53, 57,
  58, 53, 57, 46, 57, 57, 57, 57, 57, 57, 57, 57, 57, 90] := by decide +kernel
/-- a leap day: 2024-02-29T12:00:00Z -/
example : fmtRFC3339 1709208000000000000 0 = some [50, 48, 50, 52, 45, 48, 50, 45, 50, 57, 84, 49, 50, 58, 48, 48,
  58, 48, 48, 90] := by decide +kernel
example : timeUnmarshalJSON (34 :: (t3339Ex1 ++ [34])) = .ok 1600000000123456000 := by decide +kernel

end Vegeta.Proofs.Codec
