/-
C19 — Command-line values mean what the manual says.
Property theorems over the model `Vegeta.Model.Flags` (flags.go, the guard of `attack`,
`normalizeAddrs`), flag by flag: what a value parses to, what that means, that `Set` never
panics, test vectors; then sequences of `Set` calls, whole command lines and what `attack` hands
on; last the facts regenerated from flags.go and attack.go that tie the model's literals to the source.
-/
import Vegeta.Model.Flags
import Vegeta.Proofs.DurationRoundTrip
import Vegeta.Extracted.Facts
namespace Vegeta.Props.C19
open Vegeta.Go Vegeta.Model.Flags
open Vegeta.Model.Histogram (trimSpace splitOn)
open Vegeta.Proofs.DurationRoundTrip (dFrom_ge dFrom_cons fmtNat_spec parse_never_panics parse_toString)
open Vegeta.Proofs.Guards (ite_ne)

/-! ### decimal integer literals (`strconv.Atoi`) -/

def decFrom (acc : Nat) (ds : Bytes) : Nat := ds.foldl (fun n c => n * 10 + (c - 48)) acc
def decVal (ds : Bytes) : Nat := decFrom 0 ds
def AllDigits (ds : Bytes) : Prop := ∀ c ∈ ds, isDigit c = true
instance (ds : Bytes) : Decidable (AllDigits ds) := by unfold AllDigits; infer_instance

/-- `decFrom`, `AllDigits` are `dFrom`, `Digs` of the duration proofs (same bodies: their lemmas apply as they stand) -/
theorem aux_decFrom_ge (ds : Bytes) : ∀ acc, acc ≤ decFrom acc ds := dFrom_ge ds

theorem aux_decFrom_cons (acc c : Nat) (r : Bytes) : decFrom acc (c :: r) = decFrom (acc * 10 + (c - 48)) r :=
  dFrom_cons acc c r

theorem aux_parseUintLoop_ok (maxVal : Nat) (ds : Bytes) : ∀ (acc v : Nat), acc ≤ maxVal →
    (parseUintLoop maxVal ds acc = (v, none) ↔ (AllDigits ds ∧ v = decFrom acc ds ∧ v ≤ maxVal)) := by
  induction ds with
  | nil =>
    intro acc v hacc
    simp only [parseUintLoop, AllDigits, decFrom, List.foldl_nil, Prod.mk.injEq, and_true, List.not_mem_nil,
      false_imp_iff, implies_true, true_and]
    exact ⟨fun h => ⟨h.symm, h ▸ hacc⟩, fun h => h.1.symm⟩
  | cons c rest ih =>
    intro acc v hacc
    have hge := aux_decFrom_ge rest (acc * 10 + (c - 48))
    rw [parseUintLoop, AllDigits, List.forall_mem_cons, aux_decFrom_cons]
    by_cases hc : isDigit c = true
    · by_cases hov : acc * 10 + (c - 48) > maxVal
      · -- the value only grows, so an overflow at this digit is final
        simp only [hc, hov, Bool.not_true, Bool.false_eq_true, ↓reduceIte]
        exact ⟨nofun, fun ⟨_, hv, hle⟩ => by omega⟩
      · simp only [hc, hov, Bool.not_true, Bool.false_eq_true, ↓reduceIte, ih _ v (Nat.not_lt.mp hov), AllDigits, true_and]
    · simp only [hc, Bool.not_false, ↓reduceIte]
      exact ⟨nofun, nofun⟩

theorem aux_parseUintLoop_err (maxVal : Nat) (ds : Bytes) : ∀ (acc v e : Nat),
    parseUintLoop maxVal ds acc = (v, some e) → (e = eSyntax ∧ v = 0) ∨ (e = eRange ∧ v = maxVal) := by
  induction ds with
  | nil => intro acc v e h; simp [parseUintLoop] at h
  | cons c rest ih =>
    intro acc v e h
    unfold parseUintLoop at h
    split at h
    · simp at h; exact Or.inl ⟨h.2.symm, h.1.symm⟩
    · split at h
      · simp at h; exact Or.inr ⟨h.2.symm, h.1.symm⟩
      · exact ih _ _ _ h

/-- `s` is a decimal literal of the 64-bit integer `n`: an optional sign and one or more digits. -/
def IntLit (s : Bytes) (n : Int) : Prop :=
  ∃ ds : Bytes, ds ≠ [] ∧ AllDigits ds ∧
    ((s = ds ∧ n = decVal ds ∧ n ≤ maxInt64) ∨ (s = 43 :: ds ∧ n = decVal ds ∧ n ≤ maxInt64) ∨
     (s = 45 :: ds ∧ n = -(decVal ds : Int) ∧ minInt64 ≤ n))

theorem aux_parseUint_ok (maxVal : Nat) (s : Bytes) (v : Nat) :
    parseUint maxVal s = (v, none) ↔ (s ≠ [] ∧ AllDigits s ∧ v = decVal s ∧ v ≤ maxVal) := by
  unfold parseUint
  by_cases hs : s = []
  · simp [hs, eSyntax]
  · simp only [hs, ↓reduceIte, ne_eq, not_false_eq_true, true_and]
    rw [aux_parseUintLoop_ok maxVal s 0 v (Nat.zero_le _)]
    rfl

theorem aux_digit_not_sign (ds : Bytes) (h : AllDigits ds) (hne : ds ≠ []) : ∀ c, ds.head? = some c → c ≠ 43 ∧ c ≠ 45 := by
  intro c hc
  cases ds with
  | nil => simp at hc
  | cons d r =>
    simp at hc; subst hc
    have := h d (by simp)
    simp [isDigit, Duration.isDigit] at this
    omega

theorem aux_intCore (neg : Bool) (s1 : Bytes) (n : Int) :
    parseIntCore neg s1 = (n, none) ↔
      (s1 ≠ [] ∧ AllDigits s1 ∧ (if neg then n = -(decVal s1 : Int) ∧ minInt64 ≤ n else n = decVal s1 ∧ n ≤ maxInt64)) := by
  unfold parseIntCore
  generalize hp : parseUint maxU64 s1 = p
  obtain ⟨un, e⟩ := p
  cases e with
  | none =>
    have h := (aux_parseUint_ok maxU64 s1 un).mp hp
    obtain ⟨h1, h2, h3, h4⟩ := h
    simp only [h1, h2, ne_eq, not_false_eq_true, true_and]
    subst h3
    simp only [maxU64] at h4
    -- left is the int64 range, below 2^63 without a sign, up to 2^63 with `-`: per sign the range test
    -- fires (error, literal out of range) or not (value, bound holds)
    cases neg <;> simp [eSyntax, two63, maxInt64, minInt64, eRange]
    · split
      · simp; omega
      · simp; omega
    · split
      · simp; omega
      · simp; omega
  | some e =>
    have hno : ¬ (s1 ≠ [] ∧ AllDigits s1 ∧ (if neg then n = -(decVal s1 : Int) ∧ minInt64 ≤ n else n = decVal s1 ∧ n ≤ maxInt64)) := by
      intro ⟨h1, h2, h3⟩
      have : parseUint maxU64 s1 = (decVal s1, none) := by
        rw [aux_parseUint_ok]
        refine ⟨h1, h2, rfl, ?_⟩
        cases neg <;> simp [maxInt64, minInt64, maxU64] at h3 ⊢ <;> omega
      rw [this] at hp; simp at hp
    simp only [hno, iff_false]
    unfold parseUint at hp
    split at hp
    · simp at hp; obtain ⟨rfl, rfl⟩ := hp; simp
    · rcases aux_parseUintLoop_err _ _ _ _ _ hp with ⟨rfl, rfl⟩ | ⟨rfl, rfl⟩
      · simp
      · cases neg <;> simp [eRange, eSyntax, maxU64, two63]

/-- **`strconv.Atoi` succeeds exactly on the decimal literals of 64-bit integers**, with the value the
literal denotes: this is what the `N` of `-rate=N/D` may be. -/
theorem atoi_ok_iff (s : Bytes) (n : Int) : atoi s = (n, none) ↔ IntLit s n := by
  unfold atoi parseInt64
  by_cases hs : s = []
  · subst hs
    refine ⟨nofun, ?_⟩
    rintro ⟨ds, hne, _, ⟨h, _⟩ | ⟨h, _⟩ | ⟨h, _⟩⟩
    · exact absurd h.symm hne
    · nomatch h
    · nomatch h
  -- in each case of the sign, only the matching form of literal is possible: digits are not signs
  · rw [if_neg hs]
    split
    · next t =>
      rw [aux_intCore]
      refine ⟨fun ⟨h1, h2, h3, h4⟩ => ⟨t, h1, h2, .inr (.inl ⟨rfl, h3, h4⟩)⟩, ?_⟩
      rintro ⟨ds, hne, hd, ⟨h, _⟩ | ⟨h, h3, h4⟩ | ⟨h, _⟩⟩
      · exact absurd rfl (aux_digit_not_sign ds hd hne 43 (h ▸ rfl)).1
      · cases h; exact ⟨hne, hd, h3, h4⟩
      · cases h
    · next t =>
      rw [aux_intCore]
      refine ⟨fun ⟨h1, h2, h3, h4⟩ => ⟨t, h1, h2, .inr (.inr ⟨rfl, h3, h4⟩)⟩, ?_⟩
      rintro ⟨ds, hne, hd, ⟨h, _⟩ | ⟨h, _⟩ | ⟨h, h3, h4⟩⟩
      · exact absurd rfl (aux_digit_not_sign ds hd hne 45 (h ▸ rfl)).2
      · cases h
      · cases h; exact ⟨hne, hd, h3, h4⟩
    · next h43 h45 =>
      rw [aux_intCore]
      refine ⟨fun ⟨h1, h2, h3, h4⟩ => ⟨s, h1, h2, .inl ⟨rfl, h3, h4⟩⟩, ?_⟩
      rintro ⟨ds, hne, hd, ⟨rfl, h3, h4⟩ | ⟨h, _⟩ | ⟨h, _⟩⟩
      · exact ⟨hne, hd, h3, h4⟩
      · exact absurd h (h43 ds)
      · exact absurd h (h45 ds)

/-! ### `strings.Cut` -/

theorem aux_cut_append (sep : Nat) (a b : Bytes) (h : sep ∉ a) : cut sep (a ++ sep :: b) = some (a, b) := by
  induction a with
  | nil => simp [cut]
  | cons c r ih =>
    rw [List.mem_cons, not_or] at h
    simp [cut, Ne.symm h.1, ih h.2]

theorem aux_cut_none (sep : Nat) (s : Bytes) (h : sep ∉ s) : cut sep s = none := by
  induction s with
  | nil => rfl
  | cons c r ih =>
    rw [List.mem_cons, not_or] at h
    simp [cut, Ne.symm h.1, ih h.2]

/-! ### `-rate` -/

theorem aux_intlit_chars {s : Bytes} {n : Int} (h : IntLit s n) {c : Nat} (hc : c ∈ s) :
    isDigit c = true ∨ c = 43 ∨ c = 45 := by
  obtain ⟨ds, _, hd, ⟨rfl, _⟩ | ⟨rfl, _⟩ | ⟨rfl, _⟩⟩ := h
  · exact .inl (hd c hc)
  · exact (List.mem_cons.mp hc).elim (fun e => .inr (.inl e)) (fun hc => .inl (hd c hc))
  · exact (List.mem_cons.mp hc).elim (fun e => .inr (.inr e)) (fun hc => .inl (hd c hc))

theorem aux_intlit_no_slash (s : Bytes) (n : Int) (h : IntLit s n) : 47 ∉ s :=
  fun hm => absurd (aux_intlit_chars h hm) (by decide)

/-- a bare unit is not itself a duration (so the `"1"` prefix is what makes `N/unit` parse) -/
theorem aux_bare_not_duration : ∀ u ∈ bareUnits, (Duration.parse u).isOk = false := by decide

theorem aux_bare_one : ∀ u ∈ bareUnits, (Duration.unitValue u).map (fun ns => Outcome.ok (ns : Int)) = some (Duration.parse (49 :: u)) := by decide +kernel

/-- how `Set` splits a value: at the first `/`; without one the duration part is `"1s"` -/
def RateSplit (v nb db : Bytes) : Prop :=
  (47 ∉ v ∧ nb = v ∧ db = [49, 115]) ∨ (47 ∉ nb ∧ v = nb ++ 47 :: db)

theorem aux_rate_split_exists (v : Bytes) : ∃ nb db, RateSplit v nb db := by
  by_cases hm : 47 ∈ v
  · obtain ⟨nb, db, rfl, hnb⟩ := List.eq_append_cons_of_mem hm
    exact ⟨nb, db, .inr ⟨hnb, rfl⟩⟩
  · exact ⟨v, [49, 115], .inl ⟨hm, rfl, rfl⟩⟩

theorem aux_rate_split_cut (v nb db : Bytes) (h : RateSplit v nb db) : rateParts v = (nb, db) := by
  unfold rateParts
  rcases h with ⟨h1, rfl, rfl⟩ | ⟨h1, rfl⟩
  · rw [aux_cut_none 47 _ h1]
  · rw [aux_cut_append 47 nb db h1]

theorem aux_rateSet_lit (r : Rate) (v nb db : Bytes) (n : Int) (hs : RateSplit v nb db) (hn : IntLit nb n) :
    rateSet r v = if n = 0 then ⟨⟨0, r.per⟩, .ok ()⟩ else
      match Duration.parse (unitFix db) with
      | .ok d => ⟨⟨n, d⟩, .ok ()⟩
      | .error e => ⟨⟨n, 0⟩, .error e⟩
      | .panic => ⟨⟨n, r.per⟩, .panic⟩ := by
  have hinf : v ≠ infinityWord := by
    rcases hs with ⟨_, rfl, _⟩ | ⟨_, rfl⟩
    · -- a literal has no `i`
      exact fun e => absurd (aux_intlit_chars hn (c := 105) (e ▸ by decide)) (by decide)
    · -- the word has no `/`
      exact fun e => absurd (e ▸ by simp : 47 ∈ infinityWord) (by decide)
  rw [rateSet, if_neg hinf, aux_rate_split_cut v nb db hs, (atoi_ok_iff nb n).mpr hn]
  by_cases h0 : n = 0
  · subst h0; rfl
  · simp only [h0, ↓reduceIte]; rfl

/-- the same by cases, the parser's panic outcome excluded -/
theorem aux_rateSet_lit_cases (r : Rate) (v nb db : Bytes) (n : Int) (hs : RateSplit v nb db) (hn : IntLit nb n) :
    (n = 0 ∧ rateSet r v = ⟨⟨0, r.per⟩, .ok ()⟩) ∨
    (n ≠ 0 ∧ ∃ d, Duration.parse (unitFix db) = .ok d ∧ rateSet r v = ⟨⟨n, d⟩, .ok ()⟩) ∨
    (n ≠ 0 ∧ ∃ e, Duration.parse (unitFix db) = .error e ∧ rateSet r v = ⟨⟨n, 0⟩, .error e⟩) := by
  rw [aux_rateSet_lit r v nb db n hs hn]
  by_cases h0 : n = 0
  · exact .inl ⟨h0, if_pos h0⟩
  · rw [if_neg h0]
    cases hp : Duration.parse (unitFix db) with
    | ok d => exact .inr (.inl ⟨h0, d, rfl, rfl⟩)
    | error e => exact .inr (.inr ⟨h0, e, rfl, rfl⟩)
    | panic => exact absurd hp (parse_never_panics _)

theorem aux_rate_split_unique {v nb db nb' db' : Bytes} (h : RateSplit v nb db) (h' : RateSplit v nb' db') :
    nb' = nb ∧ db' = db := by
  have e := aux_rate_split_cut v nb' db' h'
  rw [aux_rate_split_cut v nb db h] at e
  cases e; exact ⟨rfl, rfl⟩

theorem aux_rateSet_cases (r : Rate) (v : Bytes) (hinf : v ≠ infinityWord) : ∃ nb db, RateSplit v nb db ∧
    ((∃ e, (atoi nb).2 = some e ∧ rateSet r v = ⟨⟨(atoi nb).1, r.per⟩, .error e⟩) ∨
     (IntLit nb (atoi nb).1 ∧ (atoi nb).2 = none)) := by
  obtain ⟨nb, db, hs⟩ := aux_rate_split_exists v
  refine ⟨nb, db, hs, ?_⟩
  rw [rateSet, if_neg hinf, aux_rate_split_cut v nb db hs]
  generalize ha : atoi nb = p
  obtain ⟨n, _ | e⟩ := p
  · exact .inr ⟨(atoi_ok_iff nb n).mp ha, rfl⟩
  · exact .inl ⟨e, rfl, rfl⟩

/-- **An accepted `N/D` means exactly N per D**: for a decimal 64-bit integer literal `N ≠ 0`
and a Go duration `D`, `Set` stores `(N, D)` whatever the rate held before. -/
theorem rate_parse (r : Rate) (nb db : Bytes) (n d : Int) (hn : IntLit nb n) (hn0 : n ≠ 0)
    (hd : Duration.parse db = .ok d) : rateSet r (nb ++ 47 :: db) = ⟨⟨n, d⟩, .ok ()⟩ := by
  have hbare : bareUnits.contains db = false := by
    have : db ∉ bareUnits := fun hm => by
      have := aux_bare_not_duration db hm
      rw [hd] at this; nomatch this
    simp [this]
  rw [aux_rateSet_lit r _ nb db n (Or.inr ⟨aux_intlit_no_slash nb n hn, rfl⟩) hn, if_neg hn0, unitFix, hbare]
  simp only [Bool.false_eq_true, ↓reduceIte, hd]

/-- **No time unit ⇒ one second.** -/
theorem rate_parse_no_unit (r : Rate) (nb : Bytes) (n : Int) (hn : IntLit nb n) (hn0 : n ≠ 0) :
    rateSet r nb = ⟨⟨n, 1000000000⟩, .ok ()⟩ := by
  rw [aux_rateSet_lit r _ nb [49, 115] n (Or.inl ⟨aux_intlit_no_slash nb n hn, rfl, rfl⟩) hn, if_neg hn0]
  rfl

/-- **A bare unit means one of it**: `N/ns`, `N/us`, `N/µs`, `N/ms`, `N/s`, `N/m`, `N/h`. -/
theorem rate_parse_bare_unit (r : Rate) (nb u : Bytes) (n : Int) (hn : IntLit nb n) (hn0 : n ≠ 0) (hu : u ∈ bareUnits) :
    ∃ ns : Nat, Duration.unitValue u = some ns ∧ rateSet r (nb ++ 47 :: u) = ⟨⟨n, ns⟩, .ok ()⟩ := by
  have h1 := aux_bare_one u hu
  cases hv : Duration.unitValue u with
  | none => rw [hv] at h1; nomatch h1
  | some ns =>
    rw [hv] at h1
    have hc : bareUnits.contains u = true := by simp [hu]
    refine ⟨ns, rfl, ?_⟩
    rw [aux_rateSet_lit r _ nb u n (Or.inr ⟨aux_intlit_no_slash nb n hn, rfl⟩) hn, if_neg hn0, unitFix, hc,
      if_pos rfl, ← Option.some.inj h1]

example : IntLit [53, 48] 50 ∧ (50 : Int) ≠ 0 ∧ Duration.parse [49, 48, 109, 115] = .ok 10000000 :=
  ⟨⟨[53, 48], by decide, by decide, Or.inl ⟨rfl, by decide, by decide⟩⟩, by decide, by decide⟩
example : rateSet defaultRate [53, 48, 47, 49, 48, 109, 115] = ⟨⟨50, 10000000⟩, .ok ()⟩ := by decide +kernel
example : rateSet defaultRate [55] = ⟨⟨7, 1000000000⟩, .ok ()⟩ := by decide +kernel
example : rateSet defaultRate [55, 47, 109] = ⟨⟨7, 60000000000⟩, .ok ()⟩ := by decide +kernel

/-- `Set` never panics, whatever the bytes. -/
theorem rate_never_panics (r : Rate) (v : Bytes) : (rateSet r v).out ≠ .panic := by
  by_cases hinf : v = infinityWord
  · simp [rateSet, hinf]
  · obtain ⟨nb, db, hs, ⟨e, _, h⟩ | ⟨hl, _⟩⟩ := aux_rateSet_cases r v hinf
    · rw [h]; nofun
    · rcases aux_rateSet_lit_cases r v nb db _ hs hl with ⟨_, h⟩ | ⟨_, d, _, h⟩ | ⟨_, e, _, h⟩ <;> rw [h] <;> nofun

/-- `infinity`, or an integer literal that is zero or has a duration part `ParseDuration` reads (a bare unit as one of it) -/
def AcceptedRate (v : Bytes) : Prop :=
  v = infinityWord ∨
  ∃ nb db n, RateSplit v nb db ∧ IntLit nb n ∧ (n = 0 ∨ ∃ d, Duration.parse (unitFix db) = .ok d)

/-- **Malformed values are rejected** — exactly the following strings are accepted: the word
`infinity`; or `N` or `N/D` (split at the first `/`) where `N` is a decimal literal of a
64-bit integer (optional sign, at least one digit) and either `N = 0` (then `D` is not looked
at) or `D` is a Go duration or one of the bare units ns us µs ms s m h. Every other byte
string yields an error (never a panic: `rate_never_panics`). -/
theorem rate_rejects_malformed (r : Rate) (v : Bytes) : (rateSet r v).out = .ok () ↔ AcceptedRate v := by
  by_cases hinf : v = infinityWord
  · simp [rateSet, hinf, AcceptedRate]
  · simp only [AcceptedRate, hinf, false_or]
    obtain ⟨nb, db, hs, ⟨e, he, h⟩ | ⟨hl, _⟩⟩ := aux_rateSet_cases r v hinf
    · rw [h]
      refine ⟨nofun, ?_⟩
      rintro ⟨nb', db', n', hs', hl', _⟩
      obtain ⟨rfl, rfl⟩ := aux_rate_split_unique hs hs'
      rw [(atoi_ok_iff _ _).mpr hl'] at he
      nomatch he
    · rcases aux_rateSet_lit_cases r v nb db _ hs hl with ⟨h0, h⟩ | ⟨h0, d, hd, h⟩ | ⟨h0, e, hp, h⟩ <;> rw [h]
      · exact ⟨fun _ => ⟨nb, db, _, hs, hl, .inl h0⟩, fun _ => rfl⟩
      · exact ⟨fun _ => ⟨nb, db, _, hs, hl, .inr ⟨d, hd⟩⟩, fun _ => rfl⟩
      · -- the one split of `v` has a non-zero integer part and a duration part that does not parse
        refine ⟨nofun, ?_⟩
        rintro ⟨nb', db', n', hs', hl', hacc⟩
        obtain ⟨rfl, rfl⟩ := aux_rate_split_unique hs hs'
        obtain rfl : (atoi nb').1 = n' := by rw [(atoi_ok_iff _ _).mpr hl']
        rcases hacc with h0' | ⟨d, hd⟩
        · exact absurd h0' h0
        · rw [hp] at hd; nomatch hd

/-- **Accepted ⇒ exactly `(N, D)`**: whatever `Set` accepts other than the word `infinity` (whose
meaning is `rate_infinity_unlimited_and_guarded`) has the form
`N` or `N/D`, and the stored rate is `N` per `D` (`Per` untouched when `N = 0`). -/
theorem rate_accepted_meaning (r r' : Rate) (v : Bytes) (h : rateSet r v = ⟨r', .ok ()⟩) (hinf : v ≠ infinityWord) :
    ∃ nb db n, RateSplit v nb db ∧ IntLit nb n ∧ r'.freq = n ∧
      (n = 0 → r'.per = r.per) ∧ (n ≠ 0 → Duration.parse (unitFix db) = .ok r'.per) := by
  obtain ⟨nb, db, hs, ⟨e, _, h'⟩ | ⟨hl, _⟩⟩ := aux_rateSet_cases r v hinf
  · rw [h'] at h; nomatch h
  · refine ⟨nb, db, _, hs, hl, ?_⟩
    rcases aux_rateSet_lit_cases r v nb db _ hs hl with ⟨h0, h'⟩ | ⟨h0, d, hd, h'⟩ | ⟨_, e, _, h'⟩ <;> rw [h'] at h
    · cases h; exact ⟨h0.symm, fun _ => rfl, fun hn => absurd h0 hn⟩
    · cases h; exact ⟨rfl, fun hn => absurd hn h0, fun _ => hd⟩
    · nomatch h

example : ¬ AcceptedRate [97, 98, 99] := by
  rw [← rate_rejects_malformed defaultRate]; decide
example : ¬ AcceptedRate [53, 47] := by
  rw [← rate_rejects_malformed defaultRate]; decide
example : AcceptedRate [53, 47, 115] := by
  rw [← rate_rejects_malformed defaultRate]; decide

/-- **`-rate=0` (and every accepted value whose integer part is zero: `0/1s`, `00`, `+0`, …)
means an unlimited rate and demands `-max-workers`**: `Set` succeeds and stores `Freq = 0`
whatever the flag held before; the pacer treats that as infinite; the guard of `attack`
fires exactly when `-max-workers` still has its default. -/
theorem rate_zero_unlimited_and_guarded (r : Rate) (v nb db : Bytes) (hs : RateSplit v nb db) (hz : IntLit nb 0) :
    rateSet r v = ⟨⟨0, r.per⟩, .ok ()⟩ ∧ unlimited ⟨0, r.per⟩ = true ∧
      ∀ mw : Nat, attackGuard mw ⟨0, r.per⟩ = true ↔ mw = defaultMaxWorkers := by
  refine ⟨?_, by simp [unlimited], by intro mw; simp [attackGuard]⟩
  rw [aux_rateSet_lit r v nb db 0 hs hz, if_pos rfl]

/-- the literal value `0` -/
theorem rate_zero_literal (r : Rate) :
    rateSet r [48] = ⟨⟨0, r.per⟩, .ok ()⟩ ∧ unlimited (rateSet r [48]).st = true ∧
      attackGuard defaultMaxWorkers (rateSet r [48]).st = true :=
  have h := rate_zero_unlimited_and_guarded r [48] [48] [49, 115] (Or.inl ⟨by decide, rfl, rfl⟩)
    ⟨[48], by decide, by decide, Or.inl ⟨rfl, by decide, by decide⟩⟩
  ⟨h.1, by rw [h.1]; exact h.2.1, by rw [h.1]; exact (h.2.2 _).mpr rfl⟩

/-- The guard fires for an unlimited rate only through `Freq = 0` — and then exactly when
`-max-workers` was left at its default; a limited rate never demands `-max-workers`. -/
theorem guard_iff (mw : Nat) (r : Rate) : attackGuard mw r = true ↔ (mw = defaultMaxWorkers ∧ r.freq = 0) := by
  simp [attackGuard]

/-- **`-rate=infinity` means an unlimited rate and demands `-max-workers`** — for every rate the
flag held before (in particular the attack command's default 50/1s): `Set` succeeds and stores
`Freq = 0` leaving `Per` alone; the pacer treats that as infinite; the guard of `attack` fires
exactly when `-max-workers` still has its default. Same statement as for `-rate=0`
(`rate_zero_unlimited_and_guarded`). -/
theorem rate_infinity_unlimited_and_guarded (r : Rate) :
    rateSet r infinityWord = ⟨⟨0, r.per⟩, .ok ()⟩ ∧ unlimited (rateSet r infinityWord).st = true ∧
      ∀ mw : Nat, attackGuard mw (rateSet r infinityWord).st = true ↔ mw = defaultMaxWorkers := by
  have h : rateSet r infinityWord = ⟨⟨0, r.per⟩, .ok ()⟩ := by simp [rateSet]
  refine ⟨h, by rw [h]; simp [unlimited], ?_⟩
  intro mw; rw [h]; simp [attackGuard]

/-- `0` and `infinity` leave the flag in the same state -/
theorem rate_infinity_same_as_zero (r : Rate) : rateSet r infinityWord = rateSet r [48] := by
  rw [(rate_infinity_unlimited_and_guarded r).1, (rate_zero_literal r).1]

/-- **Defect 13 as it was before the repair** (commit 2df3294 in /repo): with the old `Set`
(`rateSetOld`: `"infinity"` returned nil without touching the rate) the attack command's default
50/1s stayed in place, the pacer was limited and the guard never demanded `-max-workers`. The
regenerated fact `facts_rate_infinity_branch` holds the repaired branch in place (`f.Freq = 0; return nil`). -/
theorem rate_infinity_old_counterexample :
    rateSetOld defaultRate infinityWord = ⟨⟨50, 1000000000⟩, .ok ()⟩ ∧
    unlimited (rateSetOld defaultRate infinityWord).st = false ∧
    ∀ mw : Nat, attackGuard mw (rateSetOld defaultRate infinityWord).st = false := by
  refine ⟨by decide, by decide, ?_⟩
  intro mw; simp [rateSetOld, attackGuard, defaultRate]

theorem aux_intlit_fmtNat (n : Nat) (h : (n : Int) ≤ maxInt64) : IntLit (Duration.fmtNat n) n := by
  obtain ⟨h1, h2, h3⟩ := fmtNat_spec n
  exact ⟨Duration.fmtNat n, h2, h1, Or.inl ⟨rfl, congrArg Nat.cast h3.symm, h⟩⟩

/-- A rate's printed form parses back to the same rate, for every positive frequency and
every period whose own printed form parses back (hypothesis `hdur`, discharged for all
positive periods in `rate_string_roundtrip`). -/
theorem rate_string_roundtrip_partial (r0 r : Rate) (hf : 0 < r.freq) (hfm : r.freq ≤ maxInt64)
    (hdur : Duration.parse (Duration.toString r.per) = .ok r.per) :
    rateSet r0 (rateString r) = ⟨r, .ok ()⟩ := by
  have hfmt : fmtInt r.freq = Duration.fmtNat r.freq.natAbs := by simp [fmtInt]; omega
  have hnat : (r.freq.natAbs : Int) = r.freq := by omega
  have hl : IntLit (Duration.fmtNat r.freq.natAbs) r.freq := by
    have := aux_intlit_fmtNat r.freq.natAbs (by omega)
    rwa [hnat] at this
  have := rate_parse r0 (Duration.fmtNat r.freq.natAbs) (Duration.toString r.per) r.freq r.per hl (by omega) hdur
  unfold rateString
  rw [hfmt, this]

/-- **A rate's printed form parses back to the same rate**: `Set (String r) = r` for every rate
with positive frequency and positive period (both `int64`), whatever the flag held before.
Rests on `ParseDuration (d.String()) = d` for all positive `d`, proved over the kit's model of
the two functions including the float64 arithmetic of the fraction
(`Vegeta.Proofs.DurationRoundTrip.parse_toString`). -/
theorem rate_string_roundtrip (r0 r : Rate) (hf : 0 < r.freq) (hfm : r.freq ≤ maxInt64)
    (hp : 0 < r.per) (hpm : r.per ≤ maxInt64) : rateSet r0 (rateString r) = ⟨r, .ok ()⟩ :=
  rate_string_roundtrip_partial r0 r hf hfm (parse_toString r.per hp hpm)

example : Duration.parse (Duration.toString 1500000000) = .ok 1500000000 := by decide +kernel
example : rateSet ⟨0, 0⟩ (rateString ⟨50, 1500000000⟩) = ⟨⟨50, 1500000000⟩, .ok ()⟩ := by decide +kernel

/-- printed forms the flag round-trips although `Duration.String` pads them (`1m0s`, `1h0m10s`) or
ends in `0s` without being padded (`1m10s`): instances of `rate_string_roundtrip` -/
example : rateSet ⟨0, 0⟩ (rateString ⟨50, 60000000000⟩) = ⟨⟨50, 60000000000⟩, .ok ()⟩ ∧
    rateSet ⟨0, 0⟩ (rateString ⟨50, 70000000000⟩) = ⟨⟨50, 70000000000⟩, .ok ()⟩ ∧
    rateSet ⟨0, 0⟩ (rateString ⟨50, 90000000000⟩) = ⟨⟨50, 90000000000⟩, .ok ()⟩ ∧
    rateSet ⟨0, 0⟩ (rateString ⟨50, 3610000000000⟩) = ⟨⟨50, 3610000000000⟩, .ok ()⟩ := by decide +kernel

/-! ### repeated flags: the maps `-header` and `-connect-to` build -/

theorem aux_setAll_outs {σ} (set : σ → Bytes → Res σ) (g : Bytes → Outcome Unit) (h : ∀ s v, (set s v).out = g v)
    (vs : List Bytes) : ∀ s, (setAll set s vs).1 = vs.map g := by
  induction vs with
  | nil => intro s; rfl
  | cons v vs ih => intro s; simp [setAll, h, ih]

/-- the values stored under key `k` (`m[k]`, nil when absent) -/
def lookup (m : List (Bytes × List Bytes)) (k : Bytes) : List Bytes :=
  match m with
  | [] => []
  | (k', vs) :: rest => if k' = k then vs else lookup rest k

def keys (m : List (Bytes × List Bytes)) : List Bytes := m.map (·.1)

theorem aux_headerAppend_lookup (m : Header) (k v k' : Bytes) :
    lookup (headerAppend m k v) k' = if k = k' then lookup m k' ++ [v] else lookup m k' := by
  induction m with
  | nil => by_cases h : k = k' <;> simp [headerAppend, lookup, h]
  | cons e rest ih =>
    obtain ⟨k0, vs⟩ := e
    unfold headerAppend
    by_cases h0 : k0 = k
    · subst h0
      by_cases h : k0 = k' <;> simp [lookup, h]
    · simp only [h0, ↓reduceIte, lookup]
      by_cases h1 : k0 = k'
      · subst h1; simp [Ne.symm h0]
      · simp [h1, ih]

theorem aux_headerAppend_keys (m : Header) (k v : Bytes) :
    keys (headerAppend m k v) = if k ∈ keys m then keys m else keys m ++ [k] := by
  induction m with
  | nil => simp [headerAppend, keys]
  | cons e rest ih =>
    obtain ⟨k0, vs⟩ := e
    unfold headerAppend
    by_cases h0 : k0 = k
    · subst h0; simp [keys]
    · simp only [h0, ↓reduceIte]
      simp only [keys, List.map_cons, List.mem_cons] at ih ⊢
      rw [ih]
      have : ¬ k = k0 := fun e => h0 e.symm
      simp only [this, false_or]
      split <;> rename_i hm <;> simp [hm]

theorem aux_headerAppend_nodup (m : Header) (k v : Bytes) (h : (keys m).Nodup) : (keys (headerAppend m k v)).Nodup := by
  rw [aux_headerAppend_keys]
  split
  · exact h
  · rename_i hk
    rw [List.nodup_append]
    exact ⟨h, by simp, by intro a ha b hb; simp at hb; subst hb; intro e; subst e; exact hk ha⟩

/-- values of the accepted settings with key `k`, in command-line order -/
def valuesFor (parse : Bytes → Option (Bytes × Bytes)) (vs : List Bytes) (k : Bytes) : List Bytes :=
  (vs.filterMap parse).filterMap fun (k', x) => if k' = k then some x else none

theorem aux_accumulate (set : AddrMap → Bytes → Res AddrMap) (parse : Bytes → Option (Bytes × Bytes))
    (hset : ∀ m v, (set m v).st = match parse v with
      | some (k, x) => headerAppend m k x
      | none => m) (vs : List Bytes) : ∀ m0 : AddrMap,
    (∀ k, lookup (setAll set m0 vs).2 k = lookup m0 k ++ valuesFor parse vs k) ∧
    ((keys m0).Nodup → (keys (setAll set m0 vs).2).Nodup) := by
  induction vs with
  | nil => intro m0; simp [setAll, valuesFor]
  | cons v rest ih =>
    intro m0
    simp only [setAll]
    have hs := hset m0 v
    cases hp : parse v with
    | none =>
      rw [hp] at hs; simp only [] at hs
      rw [hs]
      obtain ⟨i2, i3⟩ := ih m0
      refine ⟨?_, i3⟩
      intro k; rw [i2 k]; simp [valuesFor, hp]
    | some p =>
      obtain ⟨k0, x⟩ := p
      rw [hp] at hs; simp only [] at hs
      rw [hs]
      obtain ⟨i2, i3⟩ := ih (headerAppend m0 k0 x)
      refine ⟨?_, fun hn => i3 (aux_headerAppend_nodup m0 k0 x hn)⟩
      intro k; rw [i2 k, aux_headerAppend_lookup]
      by_cases hk : k0 = k <;> simp [valuesFor, hp, hk]

/-! ### `-header` -/

/-- what a well-formed `-header` value stands for: the text before the first `:` and the text
after it, both trimmed and both non-empty — byte for byte, no canonicalisation of the key -/
def headerParse (v : Bytes) : Option (Bytes × Bytes) :=
  match cut 58 v with
  | none => none
  | some (a, b) => if trimSpace a = [] ∨ trimSpace b = [] then none else some (trimSpace a, trimSpace b)

theorem aux_headerSet (h : Header) (v : Bytes) :
    headerSet h v = match headerParse v with
      | some (k, x) => ⟨headerAppend h k x, .ok ()⟩
      | none => ⟨h, .error eFormat⟩ := by
  unfold headerSet headerParse
  cases cut 58 v with
  | none => rfl
  | some p =>
    obtain ⟨a, b⟩ := p
    simp only []
    by_cases h1 : trimSpace a = [] <;> by_cases h2 : trimSpace b = [] <;> simp [h1, h2]

/-- **Repeated `-header` flags accumulate, key case preserved** — for any sequence of values
(any order, repeats, malformed ones in between): each call is accepted exactly when the value
is well formed; afterwards the values under every key `k` are what was there before followed by
the values of the accepted settings whose key is byte-for-byte `k`, in command-line order; keys
stay distinct. `Content-Type` and `content-type` are different keys. -/
theorem headers_accumulate_case_preserved (h0 : Header) (vs : List Bytes) :
    (setAll headerSet h0 vs).1 = vs.map (fun v => if (headerParse v).isSome then Outcome.ok () else Outcome.error eFormat) ∧
    (∀ k, lookup (setAll headerSet h0 vs).2 k = lookup h0 k ++ valuesFor headerParse vs k) ∧
    ((keys h0).Nodup → (keys (setAll headerSet h0 vs).2).Nodup) := by
  refine ⟨aux_setAll_outs headerSet _ (fun h v => ?_) vs h0, aux_accumulate headerSet headerParse (fun h v => ?_) vs h0⟩
  all_goals rw [aux_headerSet]; cases headerParse v <;> rfl

/-- `headers.Set` on any bytes: nil or an error (cited by C16) -/
theorem header_never_panics (h : Header) (v : Bytes) : (headerSet h v).out ≠ .panic := by
  rw [aux_headerSet]
  cases headerParse v <;> simp

example : (setAll headerSet [] [[65, 58, 49], [97, 58, 50], [58], [65, 58, 32, 51, 32]]).2 = [([65], [[49], [51]]), ([97], [[50]])] := by decide +kernel

/-! ### `-max-body` -/

/-- the digit loop on digits `ds` followed by a non-digit: at the first byte (`first`) a digit is demanded -/
theorem aux_dsLoop_digits (ds rest : Bytes) : ∀ (acc : Nat) (first : Bool), AllDigits ds → (first = true → ds ≠ []) →
    (∀ c, rest.head? = some c → isDigit c = false) → decFrom acc ds ≤ maxU64 →
    dsLoop (ds ++ rest) acc first = .ok (decFrom acc ds, rest) := by
  induction ds with
  | nil =>
    intro acc first _ hf hr _
    cases first with
    | true => exact absurd rfl (hf rfl)
    | false =>
      cases rest with
      | nil => simp [dsLoop, decFrom]
      | cons c r => have := hr c rfl; simp [dsLoop, decFrom, this]
  | cons c r ih =>
    intro acc first hd _ hr hle
    have hc : isDigit c = true := hd c (by simp)
    have hd' : AllDigits r := fun x hx => hd x (by simp [hx])
    rw [aux_decFrom_cons] at hle ⊢
    have hge := aux_decFrom_ge r (acc * 10 + (c - 48))
    simp only [List.cons_append, dsLoop, hc, ↓reduceIte]
    have h1 : ¬ acc > dsCutoff := by simp only [dsCutoff, maxU64] at *; omega
    have h2 : ¬ acc * 10 + (c - 48) ≥ two64 := by simp only [two64, maxU64] at *; omega
    simp only [h1, h2, ↓reduceIte]
    exact ih _ false hd' nofun hr hle

/-- **`-max-body` accepts the documented size notations** (1024-based): decimal digits, then —
optionally separated and followed by white space — a unit name in any letter case:
nothing / `b` / `byte` (×1); `k` `kb` `kilo` `kilobyte` `kilobytes` (×2¹⁰); likewise mega (×2²⁰),
giga (×2³⁰), tera (×2⁴⁰), peta (×2⁵⁰); `e` `eb` (×2⁶⁰). The stored limit is digits × unit,
provided it fits an `int64`. (`dsUnitShift` is that table, compared with the library source by
`facts_datasize_units`; `Kb Mb Gb Tb Pb Eb` in exactly this spelling are bit units: `hbits` excludes
them, their refusal is in the model `dsUnmarshal` only.) -/
theorem max_body_notations (n0 : Int) (ds rest : Bytes) (k : Nat) (hne : ds ≠ []) (hd : AllDigits ds)
    (hr : ∀ c, rest.head? = some c → isDigit c = false)
    (hunit : dsUnitShift (toLower (trimSpace rest)) = some k) (hbits : trimSpace rest ∉ bitsUnits)
    (hfit : ((decVal ds * 2 ^ k : Nat) : Int) ≤ maxInt64) :
    maxBodySet n0 (ds ++ rest) = ⟨(decVal ds * 2 ^ k : Nat), .ok ()⟩ := by
  have hpos : 0 < 2 ^ k := Nat.two_pow_pos k
  have hmul : decVal ds ≤ decVal ds * 2 ^ k := Nat.le_mul_of_pos_right _ hpos
  have hle : decVal ds ≤ maxU64 := by simp only [maxU64, maxInt64] at *; omega
  have hm1 : ds ++ rest ≠ minusOne := by
    cases ds with
    | nil => contradiction
    | cons c r =>
      have hc : isDigit c = true := hd c (by simp)
      intro e; simp [minusOne] at e
      rw [e.1] at hc; simp [isDigit, Duration.isDigit] at hc
  have hb : bitsUnits.contains (trimSpace rest) = false := by simp [hbits]
  have hdiv : ¬ decVal ds > maxU64 / 2 ^ k := by
    have : decVal ds * 2 ^ k ≤ maxU64 := by simp only [maxU64, maxInt64] at *; omega
    have := (Nat.le_div_iff_mul_le hpos).mpr this
    omega
  unfold maxBodySet dsUnmarshal
  rw [if_neg hm1, aux_dsLoop_digits ds rest 0 true hd (fun _ => hne) hr hle, ← decVal]
  simp only [hb, Bool.false_eq_true, ↓reduceIte, hunit, hdiv]
  have : ¬ ((decVal ds * 2 ^ k : Nat) : Int) > maxInt64 := by omega
  simp only [this, ↓reduceIte]

/-- `-1` means no limit -/
theorem max_body_minus_one (n0 : Int) : maxBodySet n0 minusOne = ⟨-1, .ok ()⟩ := by
  simp [maxBodySet]

/-- a size beyond `int64` is refused -/
theorem max_body_overflow_rejected (n0 : Int) (v : Bytes) (b : Nat) (h : dsUnmarshal v = .ok b) (hv : v ≠ minusOne)
    (hbig : (b : Int) > maxInt64) : ∃ e, maxBodySet n0 v = ⟨n0, .error e⟩ := by
  unfold maxBodySet
  rw [if_neg hv, h]
  simp only [hbig, ↓reduceIte]
  exact ⟨_, rfl⟩

theorem aux_dsLoop_never_panics (t : Bytes) : ∀ (acc : Nat) (first : Bool), dsLoop t acc first ≠ .panic := by
  induction t with
  | nil => nofun
  | cons c r ih =>
    intro acc first
    unfold dsLoop
    exact ite_ne (ite_ne nofun (ite_ne nofun (ih _ _))) (ite_ne nofun nofun)

theorem aux_dsUnmarshal_never_panics (v : Bytes) : dsUnmarshal v ≠ .panic := by
  unfold dsUnmarshal
  cases h : dsLoop v 0 true with
  | error e => nofun
  | panic => exact absurd h (aux_dsLoop_never_panics _ _ _)
  | ok p =>
    dsimp only
    refine ite_ne nofun ?_
    generalize dsUnitShift _ = sh
    cases sh with
    | none => nofun
    | some sh => exact ite_ne nofun nofun

theorem aux_maxBodySet (v : Bytes) :
    (∃ x, ∀ n, maxBodySet n v = ⟨x, .ok ()⟩) ∨ (∃ e, ∀ n, maxBodySet n v = ⟨n, .error e⟩) := by
  unfold maxBodySet
  split
  · exact .inl ⟨-1, fun _ => rfl⟩
  · cases hd : dsUnmarshal v with
    | ok b =>
      dsimp only
      split
      · exact .inr ⟨_, fun _ => rfl⟩
      · exact .inl ⟨b, fun _ => rfl⟩
    | error e => exact .inr ⟨e, fun _ => rfl⟩
    | panic => exact absurd hd (aux_dsUnmarshal_never_panics v)

/-- `maxBodyFlag.Set` on any bytes: nil or an error (cited by C16) -/
theorem max_body_never_panics (n0 : Int) (v : Bytes) : (maxBodySet n0 v).out ≠ .panic := by
  rcases aux_maxBodySet v with ⟨x, h⟩ | ⟨e, h⟩ <;> rw [h] <;> nofun

/-- the manual's own examples, with the printed form the manual shows -/
theorem max_body_documented_examples :
    -- "10 MB" -> 10MB
    (maxBodySet 0 [49, 48, 32, 77, 66] = ⟨10485760, .ok ()⟩ ∧ maxBodyString 10485760 = [49, 48, 77, 66]) ∧
    -- "10240 g" -> 10TB
    (maxBodySet 0 [49, 48, 50, 52, 48, 32, 103] = ⟨10995116277760, .ok ()⟩ ∧ maxBodyString 10995116277760 = [49, 48, 84, 66]) ∧
    -- "2000" -> 2000B
    (maxBodySet 0 [50, 48, 48, 48] = ⟨2000, .ok ()⟩ ∧ maxBodyString 2000 = [50, 48, 48, 48, 66]) ∧
    -- "1tB" -> 1TB
    (maxBodySet 0 [49, 116, 66] = ⟨1099511627776, .ok ()⟩ ∧ maxBodyString 1099511627776 = [49, 84, 66]) ∧
    -- "5 peta" -> 5PB
    (maxBodySet 0 [53, 32, 112, 101, 116, 97] = ⟨5629499534213120, .ok ()⟩ ∧ maxBodyString 5629499534213120 = [53, 80, 66]) ∧
    -- "28 kilobytes" -> 28KB
    (maxBodySet 0 [50, 56, 32, 107, 105, 108, 111, 98, 121, 116, 101, 115] = ⟨28672, .ok ()⟩ ∧ maxBodyString 28672 = [50, 56, 75, 66]) ∧
    -- "1 gigabyte" -> 1GB
    (maxBodySet 0 [49, 32, 103, 105, 103, 97, 98, 121, 116, 101] = ⟨1073741824, .ok ()⟩ ∧ maxBodyString 1073741824 = [49, 71, 66]) := by
  decide +kernel

example : maxBodySet 0 ([49, 48] ++ [32, 77, 66]) = ⟨(decVal [49, 48] * 2 ^ 20 : Nat), .ok ()⟩ :=
  max_body_notations 0 [49, 48] [32, 77, 66] 20 (by decide) (by decide) (by decide) (by decide) (by decide) (by decide)

/-! ### `net.SplitHostPort` -/

theorem aux_indexByte_none (c : Nat) (s : Bytes) (h : c ∉ s) : indexByte c s = none := by
  induction s with
  | nil => rfl
  | cons x r ih =>
    rw [List.mem_cons, not_or] at h
    simp [indexByte, Ne.symm h.1, ih h.2]

theorem aux_indexByte_append (c : Nat) (x y : Bytes) (h : c ∉ x) : indexByte c (x ++ c :: y) = some x.length := by
  induction x with
  | nil => simp [indexByte]
  | cons a r ih =>
    rw [List.mem_cons, not_or] at h
    simp [indexByte, Ne.symm h.1, ih h.2]

theorem aux_indexByte_some (c : Nat) (s : Bytes) (k : Nat) (h : indexByte c s = some k) : k < s.length ∧ s[k]? = some c := by
  by_cases hm : c ∈ s
  · obtain ⟨x, y, rfl, hx⟩ := List.eq_append_cons_of_mem hm
    rw [aux_indexByte_append c x y hx] at h
    cases h
    simp
  · rw [aux_indexByte_none c s hm] at h
    nomatch h

theorem aux_lastIndexByte_append (c : Nat) (a b : Bytes) (h : c ∉ b) : lastIndexByte c (a ++ c :: b) = some a.length := by
  unfold lastIndexByte
  have : (a ++ c :: b).reverse = b.reverse ++ c :: a.reverse := by simp
  rw [this, aux_indexByte_append c _ _ (by simpa using h)]
  simp

theorem aux_splitHostPort_never_panics (hp : Bytes) : splitHostPort hp ≠ .panic := by
  unfold splitHostPort
  cases hi : lastIndexByte 58 hp with
  | none => nofun
  | some i =>
    -- a `:` was found, so `hp[0]` exists
    obtain ⟨c, r, rfl⟩ : ∃ c r, hp = c :: r := by
      cases hp with
      | nil => nomatch hi
      | cons c r => exact ⟨c, r, rfl⟩
    dsimp only [idx, List.getElem?_cons_zero]
    refine ite_ne ?_ (ite_ne nofun (ite_ne nofun (ite_ne nofun nofun)))
    cases he : indexByte 93 (c :: r) with
    | none => nofun
    | some e =>
      dsimp only
      split
      · nofun
      · -- `hp[e+1]` is read only when `]` is not the last byte
        refine ite_ne (ite_ne nofun (ite_ne nofun nofun)) ?_
        have : e + 1 < (c :: r).length := by have := (aux_indexByte_some 93 _ e he).1; omega
        rw [List.getElem?_eq_getElem this]
        nofun

theorem aux_splitHostPort_simple (a b : Bytes) (ha : 58 ∉ a ∧ 91 ∉ a ∧ 93 ∉ a) (hb : 58 ∉ b ∧ 91 ∉ b ∧ 93 ∉ b) :
    splitHostPort (a ++ 58 :: b) = .ok (a, b) := by
  have h91 : 91 ∉ a ++ 58 :: b := by simp [ha.2.1, hb.2.1]
  have h93 : 93 ∉ a ++ 58 :: b := by simp [ha.2.2, hb.2.2]
  have hc0 : ∃ c0, idx (a ++ 58 :: b) 0 = .ok c0 ∧ c0 ≠ 91 := by
    cases a with
    | nil => exact ⟨58, by simp [idx], by decide⟩
    | cons c r => exact ⟨c, by simp [idx], by intro e; exact ha.2.1 (by simp [e])⟩
  obtain ⟨c0, hc0, hne⟩ := hc0
  unfold splitHostPort
  rw [aux_lastIndexByte_append 58 a b hb.1, hc0]
  simp only [hne, ↓reduceIte, List.take_left', aux_indexByte_none 58 a ha.1, Option.isSome_none, Bool.false_eq_true,
    List.drop_zero, aux_indexByte_none 91 _ h91, aux_indexByte_none 93 _ h93]
  simp

/-! ### `-connect-to` -/

theorem aux_splitOn_none (sep : Nat) (a : Bytes) (h : sep ∉ a) : splitOn sep a = [a] := by
  induction a with
  | nil => rfl
  | cons c r ih =>
    rw [List.mem_cons, not_or] at h
    simp [splitOn, Ne.symm h.1, ih h.2]

theorem aux_splitOn_append (sep : Nat) (a rest : Bytes) (h : sep ∉ a) : splitOn sep (a ++ sep :: rest) = a :: splitOn sep rest := by
  induction a with
  | nil => simp [splitOn]
  | cons c r ih =>
    rw [List.mem_cons, not_or] at h
    simp [splitOn, Ne.symm h.1, ih h.2]

/-- what a well-formed `-connect-to` value stands for: exactly four `:`-separated parts
`src:port:dst:port`, with `src:port` and `dst:port` acceptable to `net.SplitHostPort` -/
def connectParse (s : Bytes) : Option (Bytes × Bytes) :=
  match splitOn 58 s with
  | [p0, p1, p2, p3] =>
    if (splitHostPort (p0 ++ 58 :: p1)).isOk ∧ (splitHostPort (p2 ++ 58 :: p3)).isOk
    then some (p0 ++ 58 :: p1, p2 ++ 58 :: p3) else none
  | _ => none

theorem aux_connectToSet (m : AddrMap) (s : Bytes) :
    ∃ e, connectToSet m s = match connectParse s with
      | some (k, x) => ⟨headerAppend m k x, .ok ()⟩
      | none => ⟨m, .error e⟩ := by
  unfold connectToSet connectParse
  generalize splitOn 58 s = l
  rcases l with _ | ⟨p0, _ | ⟨p1, _ | ⟨p2, _ | ⟨p3, _ | ⟨p4, l⟩⟩⟩⟩⟩
  -- any number of parts other than four is a format error
  any_goals exact ⟨_, rfl⟩
  dsimp only
  cases h1 : splitHostPort (p0 ++ 58 :: p1) with
  | panic => exact absurd h1 (aux_splitHostPort_never_panics _)
  | error e => exact ⟨eAddr, by simp [Outcome.isOk]⟩
  | ok x =>
    cases h2 : splitHostPort (p2 ++ 58 :: p3) with
    | panic => exact absurd h2 (aux_splitHostPort_never_panics _)
    | error e => exact ⟨eAddr, by simp [Outcome.isOk]⟩
    | ok y => exact ⟨0, by simp [Outcome.isOk]⟩

theorem aux_connectToSet_st (m : AddrMap) (s : Bytes) :
    (connectToSet m s).st = match connectParse s with
      | some (k, x) => headerAppend m k x
      | none => m := by
  obtain ⟨e, he⟩ := aux_connectToSet m s
  rw [he]; cases connectParse s <;> rfl

/-- **`-connect-to` builds the documented mapping** — for any sequence of values: a value is
accepted exactly when it is well formed (`connectParse`); afterwards `src:port` maps to the
`dst:port` of every accepted setting with that source, in command-line order (identical sources
accumulate: the round-robin list), sources stay distinct keys. -/
theorem connect_to_mapping (m0 : AddrMap) (vs : List Bytes) :
    (∀ k, lookup (setAll connectToSet m0 vs).2 k = lookup m0 k ++ valuesFor connectParse vs k) ∧
    ((keys m0).Nodup → (keys (setAll connectToSet m0 vs).2).Nodup) ∧
    (∀ m v, ((connectToSet m v).out = .ok () ↔ (connectParse v).isSome = true)) := by
  obtain ⟨h1, h2⟩ := aux_accumulate connectToSet connectParse aux_connectToSet_st vs m0
  refine ⟨h1, h2, fun m v => ?_⟩
  obtain ⟨e, he⟩ := aux_connectToSet m v
  rw [he]; cases connectParse v <;> simp

/-- the documented form `src:port:dst:port` with host names / IPv4 addresses / ports (parts
without `:` `[` `]`) is well formed and stands for `src:port ↦ dst:port` -/
theorem connect_to_tuple (p0 p1 p2 p3 : Bytes)
    (h0 : 58 ∉ p0 ∧ 91 ∉ p0 ∧ 93 ∉ p0) (h1 : 58 ∉ p1 ∧ 91 ∉ p1 ∧ 93 ∉ p1)
    (h2 : 58 ∉ p2 ∧ 91 ∉ p2 ∧ 93 ∉ p2) (h3 : 58 ∉ p3 ∧ 91 ∉ p3 ∧ 93 ∉ p3) :
    connectParse (p0 ++ 58 :: (p1 ++ 58 :: (p2 ++ 58 :: p3))) = some (p0 ++ 58 :: p1, p2 ++ 58 :: p3) := by
  unfold connectParse
  rw [aux_splitOn_append 58 p0 _ h0.1, aux_splitOn_append 58 p1 _ h1.1, aux_splitOn_append 58 p2 _ h2.1,
    aux_splitOn_none 58 p3 h3.1]
  simp [aux_splitHostPort_simple p0 p1 h0 h1, aux_splitHostPort_simple p2 p3 h2 h3, Outcome.isOk]

/-- anything that does not have exactly four `:`-separated parts is refused -/
theorem connect_to_needs_four_parts (s : Bytes) (h : (splitOn 58 s).length ≠ 4) : connectParse s = none := by
  unfold connectParse
  split
  · rename_i heq; rw [heq] at h; simp at h
  · rfl

/-- `connectToFlag.Set` on any bytes: nil or an error (cited by C16) -/
theorem connect_to_never_panics (m : AddrMap) (s : Bytes) : (connectToSet m s).out ≠ .panic := by
  obtain ⟨e, he⟩ := aux_connectToSet m s
  rw [he]; cases connectParse s <;> simp

-- google.com:80:localhost:6060 (the manual's example), twice the same source
example : (setAll connectToSet [] [[103, 58, 56, 48, 58, 108, 58, 54, 48], [97, 58, 49], [103, 58, 56, 48, 58, 109, 58, 55]]).2
    = [([103, 58, 56, 48], [[108, 58, 54, 48], [109, 58, 55]])] := by decide +kernel

/-! ### `-dns-ttl` -/

/-- **`-dns-ttl` values map to the documented meanings**: `-1` disables caching (a negative
TTL), a zero duration caches forever, any other accepted value is the Go duration as written
(cached and refreshed every TTL when positive, disabled when negative); everything else is an
error. -/
theorem dns_ttl_meaning (d0 : Int) :
    (dnsTTLSet d0 minusOne = ⟨-1, .ok ()⟩ ∧ dnsMode (-1) = .disabled) ∧
    (dnsTTLSet d0 [48] = ⟨0, .ok ()⟩ ∧ dnsMode 0 = .forever) ∧
    (∀ v x, v ≠ minusOne → (dnsTTLSet d0 v = ⟨x, .ok ()⟩ ↔ Duration.parse v = .ok x)) ∧
    (∀ v, v ≠ minusOne → (∀ x, Duration.parse v ≠ .ok x) → ∃ e, dnsTTLSet d0 v = ⟨0, .error e⟩) ∧
    (∀ x : Int, dnsMode x = if x < 0 then .disabled else if x = 0 then .forever else .refreshEvery x) := by
  refine ⟨⟨by simp [dnsTTLSet], by decide⟩, ⟨by unfold dnsTTLSet; rw [if_neg (by decide)]; rfl, by decide⟩, ?_, ?_, fun x => rfl⟩
  · intro v x hv
    unfold dnsTTLSet
    rw [if_neg hv]
    cases hp : Duration.parse v with
    | ok y => simp
    | error e => simp
    | panic => exact absurd hp (parse_never_panics v)
  · intro v hv hno
    unfold dnsTTLSet
    rw [if_neg hv]
    cases hp : Duration.parse v with
    | ok y => exact absurd hp (hno y)
    | error e => exact ⟨e, rfl⟩
    | panic => exact absurd hp (parse_never_panics v)

/-- **`-dns-ttl` stores the parsed duration itself — no rounding**: whatever `Set` accepts other than
`-1` is exactly `ParseDuration(v)`, in nanoseconds (1.5 s stays 1.5 s, 999 ms does not become 0). -/
theorem dns_ttl_identity (d0 x : Int) (v : Bytes) (hv : v ≠ minusOne) (h : dnsTTLSet d0 v = ⟨x, .ok ()⟩) :
    Duration.parse v = .ok x := ((dns_ttl_meaning d0).2.2.1 v x hv).mp h

theorem aux_dnsTTLSet (v : Bytes) :
    (∃ x, ∀ d, dnsTTLSet d v = ⟨x, .ok ()⟩) ∨ (∃ e, ∀ d, dnsTTLSet d v = ⟨0, .error e⟩) := by
  unfold dnsTTLSet
  split
  · exact .inl ⟨-1, fun _ => rfl⟩
  · cases hp : Duration.parse v with
    | ok x => exact .inl ⟨x, fun _ => rfl⟩
    | error e => exact .inr ⟨e, fun _ => rfl⟩
    | panic => exact absurd hp (parse_never_panics v)

/-- `dnsTTLFlag.Set` on any bytes: nil or an error (cited by C16) -/
theorem dns_ttl_never_panics (d0 : Int) (v : Bytes) : (dnsTTLSet d0 v).out ≠ .panic := by
  rcases aux_dnsTTLSet v with ⟨x, h⟩ | ⟨e, h⟩ <;> rw [h] <;> nofun

example : dnsTTLSet 0 [49, 46, 53, 115] = ⟨1500000000, .ok ()⟩ ∧ dnsTTLSet 0 [57, 57, 57, 109, 115] = ⟨999000000, .ok ()⟩ := by decide +kernel

/-! ### `-resolvers` -/

theorem aux_if_false {c : Prop} [Decidable c] {b : Bool} (h : (if c then false else b) = true) : b = true := by
  split at h
  · nomatch h
  · exact h

theorem aux_ipv4Loop (s : Bytes) : ∀ (val pos digLen : Nat) (first prevDot : Bool),
    ipv4Loop s val pos digLen first prevDot = true →
    (∀ c ∈ s, isDigit c = true ∨ c = 46) ∧ pos ≤ 3 ∧ (pos < 3 → 46 ∈ s) := by
  induction s with
  | nil => intro v p d f pd h; simp [ipv4Loop] at h; simp [h]
  | cons c r ih =>
    intro v p d f pd h
    unfold ipv4Loop at h
    -- a digit or a dot: past the two refusals of either branch the loop goes on with the rest
    split at h
    · next hc =>
      obtain ⟨h1, h2, h3⟩ := ih _ _ _ _ _ (aux_if_false (aux_if_false h))
      exact ⟨List.forall_mem_cons.mpr ⟨.inl hc, h1⟩, h2, fun hp => List.mem_cons_of_mem _ (h3 hp)⟩
    · split at h
      · next hdot =>
        obtain ⟨h1, h2, h3⟩ := ih _ _ _ _ _ (aux_if_false (aux_if_false h))
        have hdot : c = 46 := by simpa using hdot
        exact ⟨List.forall_mem_cons.mpr ⟨.inr hdot, h1⟩, by omega, fun _ => hdot ▸ List.mem_cons_self⟩
      · nomatch h

theorem aux_firstSep_dot (s : Bytes) (h1 : ∀ c ∈ s, isDigit c = true ∨ c = 46) (h2 : 46 ∈ s) : firstSep s = some 46 := by
  induction s with
  | nil => nomatch h2
  | cons c r ih =>
    obtain ⟨hc, hr⟩ := List.forall_mem_cons.mp h1
    unfold firstSep
    rcases hc with hc | rfl
    · have hne : c ≠ 46 ∧ c ≠ 58 ∧ c ≠ 37 := by
        simp [isDigit, Duration.isDigit] at hc; omega
      rw [if_neg (by simp [hne])]
      exact ih hr ((List.mem_cons.mp h2).resolve_left (Ne.symm hne.1))
    · rfl

theorem aux_validIPv4_chars (s : Bytes) (h : validIPv4 s = true) :
    (∀ c ∈ s, isDigit c = true ∨ c = 46) ∧ validIP s = true := by
  obtain ⟨h1, _, h3⟩ := aux_ipv4Loop s 0 0 0 true false h
  refine ⟨h1, ?_⟩
  unfold validIP
  rw [aux_firstSep_dot s h1 (h3 (by omega))]
  exact h

/-- **An IPv4 address without a port gets port 53.** -/
theorem resolver_default_port (a : Bytes) (h : validIPv4 a = true) : normalizeAddr a = .ok (a ++ [58, 53, 51]) := by
  obtain ⟨hch, hip⟩ := aux_validIPv4_chars a h
  have hfree : 58 ∉ a ∧ 91 ∉ a ∧ 93 ∉ a := by
    refine ⟨?_, ?_, ?_⟩ <;> intro hm <;> rcases hch _ hm with hc | hc <;> simp [isDigit, Duration.isDigit] at hc
  have hc : a.contains 58 = false := by simp [hfree.1]
  have hsp := aux_splitHostPort_simple a [53, 51] hfree (by decide)
  unfold normalizeAddr
  simp only [hc, Bool.false_eq_true, ↓reduceIte, hsp, hip]
  rfl

/-- **Resolver addresses are normalised as documented** (`ip[:port]`, default port 53, an IP
literal is required): whatever `normalizeAddrs` accepts is the address itself when it contains
a `:` and the address with `:53` appended otherwise; it splits into host and port
(`net.SplitHostPort`), the port is a decimal number ≤ 65535 and the host is an IP literal
(`net.ParseIP`: IPv4 dotted quad or IPv6 text, no zone). -/
theorem resolver_normalisation (a a' : Bytes) (h : normalizeAddr a = .ok a') :
    a' = (if a.contains 58 then a else a ++ [58, 53, 51]) ∧
    ∃ host port, splitHostPort a' = .ok (host, port) ∧ validIP host = true ∧
      port ≠ [] ∧ AllDigits port ∧ decVal port ≤ 65535 := by
  unfold normalizeAddr at h
  dsimp only at h
  generalize (if a.contains 58 = true then a else a ++ [58, 53, 51]) = adr at h
  cases hs : splitHostPort adr with
  | panic => rw [hs] at h; nomatch h
  | error e => rw [hs] at h; nomatch h
  | ok hp =>
    obtain ⟨host, port⟩ := hp
    rw [hs] at h
    dsimp only at h
    generalize hpu : parseUint maxU16 port = pu at h
    obtain ⟨p, _ | e⟩ := pu
    · dsimp only at h
      split at h
      · next hip =>
        cases h
        obtain ⟨hne, hd, rfl, hle⟩ := (aux_parseUint_ok maxU16 port p).mp hpu
        exact ⟨rfl, host, port, hs, hip, hne, hd, hle⟩
      · nomatch h
    · nomatch h

theorem aux_normalizeAddr_never_panics (a : Bytes) : normalizeAddr a ≠ .panic := by
  unfold normalizeAddr
  dsimp only
  cases h : splitHostPort _ with
  | panic => exact absurd h (aux_splitHostPort_never_panics _)
  | error e => nofun
  | ok p =>
    dsimp only
    generalize parseUint maxU16 p.2 = pu
    obtain ⟨n, e⟩ := pu
    cases e with
    | some e => nofun
    | none => exact ite_ne nofun nofun

/-- what `normalizeAddr` does not accept gets an error, never a panic (by `resolver_normalisation`: every
host that is not an IP literal, every port that is not a 16-bit decimal number) -/
theorem resolver_rejects (a : Bytes) (h : ∀ a', normalizeAddr a ≠ .ok a') : ∃ e, normalizeAddr a = .error e := by
  cases hn : normalizeAddr a with
  | ok x => exact absurd hn (h x)
  | error e => exact ⟨e, rfl⟩
  | panic => exact absurd hn (aux_normalizeAddr_never_panics a)

/-- `AllNormal as out`: `out` is `as` normalised address by address (`resolver_list`) -/
inductive AllNormal : List Bytes → List Bytes → Prop
  | nil : AllNormal [] []
  | cons {a a' : Bytes} {as out : List Bytes} : normalizeAddr a = .ok a' → AllNormal as out → AllNormal (a :: as) (a' :: out)

/-- the whole list: accepted exactly when every address is, element by element in order -/
theorem resolver_list (as out : List Bytes) : normalizeAddrs as = .ok out ↔ AllNormal as out := by
  constructor
  · intro h
    induction as generalizing out with
    | nil => cases h; exact .nil
    | cons a r ih =>
      unfold normalizeAddrs at h
      split at h
      · nomatch h
      · nomatch h
      · next a' ha =>
        split at h
        · next r' hr => cases h; exact .cons ha (ih r' hr)
        · next hne => exact absurd h (hne out)
  · intro h
    induction h with
    | nil => rfl
    | cons ha _ ih => simp [normalizeAddrs, ha, ih]

/-- `normalizeAddrs` on any list: a list or an error (cited by C16) -/
theorem normalizeAddrs_never_panics (as : List Bytes) : normalizeAddrs as ≠ .panic := by
  induction as with
  | nil => simp [normalizeAddrs]
  | cons a r ih =>
    unfold normalizeAddrs
    cases ha : normalizeAddr a with
    | panic => exact absurd ha (aux_normalizeAddr_never_panics a)
    | error e => simp
    | ok a' =>
      simp only []
      cases hr : normalizeAddrs r with
      | panic => exact absurd hr ih
      | error e => simp
      | ok r' => simp

example : normalizeAddrs [[49, 46, 50, 46, 51, 46, 52], [91, 58, 58, 49, 93, 58, 53, 51]] =
    .ok [[49, 46, 50, 46, 51, 46, 52, 58, 53, 51], [91, 58, 58, 49, 93, 58, 53, 51]] := by decide +kernel
-- "localhost" is not an IP literal
example : (normalizeAddr [108, 111, 99, 97, 108, 104, 111, 115, 116]).isOk = false := by decide +kernel

/-- the resolver hands out its addresses in rotation, starting with the second:
call `i` (counting from 1) uses `addrs[i mod len]`; with at least one address it never panics -/
theorem resolver_rotation (addrs : List Bytes) (hne : addrs ≠ []) : ∀ (n k : Nat),
    ∃ l, rotation addrs n k = .ok l ∧ l.length = n ∧ ∀ i, i < n → l[i]? = addrs[(k + i + 1) % addrs.length]? := by
  have hlen : 0 < addrs.length := List.length_pos_iff.mpr hne
  intro n
  induction n with
  | zero => intro k; exact ⟨[], rfl, rfl, by intro i hi; omega⟩
  | succ n ih =>
    intro k
    obtain ⟨l, h1, h2, h3⟩ := ih (k + 1)
    have hlt : (k + 1) % addrs.length < addrs.length := Nat.mod_lt _ hlen
    refine ⟨addrs[(k + 1) % addrs.length] :: l, ?_, by simp [h2], ?_⟩
    · unfold rotation
      have : ¬ addrs.length = 0 := by omega
      simp only [this, ↓reduceIte, List.getElem?_eq_getElem hlt, h1]
    · intro i hi
      cases i with
      | zero => simp [List.getElem?_eq_getElem hlt]
      | succ j =>
        have := h3 j (by omega)
        simp only [List.getElem?_cons_succ, this]
        congr 2; omega

/-! ### flag values as state machines: arbitrary sequences of `Set` calls -/

theorem aux_setAll_append {σ} (set : σ → Bytes → Res σ) (vs : List Bytes) (v : Bytes) : ∀ s : σ,
    (setAll set s (vs ++ [v])).2 = (set (setAll set s vs).2 v).st := by
  induction vs with
  | nil => intro s; simp [setAll]
  | cons x xs ih => intro s; simp only [List.cons_append, setAll]; exact ih _

/-- **`-rate`: the last `Set` decides, whatever was set before** — for every initial rate, every
earlier sequence of values (accepted or not) and a last value `N/D`, `N/unit` or bare `N` with
`N ≠ 0`: the flag holds exactly `N` per `D` (`D` = 1 s for a bare `N`: the period of an earlier
`-rate=100/m` does not survive a later `-rate=50`). -/
theorem rate_sequence_last_wins (r : Rate) (vs : List Bytes) (nb : Bytes) (n : Int) (hn : IntLit nb n) (hn0 : n ≠ 0) :
    (setAll rateSet r (vs ++ [nb])).2 = ⟨n, 1000000000⟩ ∧
    (∀ db d, Duration.parse db = .ok d → (setAll rateSet r (vs ++ [nb ++ 47 :: db])).2 = ⟨n, d⟩) ∧
    (∀ u ∈ bareUnits, ∃ ns : Nat, Duration.unitValue u = some ns ∧ (setAll rateSet r (vs ++ [nb ++ 47 :: u])).2 = ⟨n, ns⟩) := by
  refine ⟨?_, ?_, ?_⟩
  · rw [aux_setAll_append, rate_parse_no_unit _ nb n hn hn0]
  · intro db d hd
    rw [aux_setAll_append, rate_parse _ nb db n d hn hn0 hd]
  · intro u hu
    obtain ⟨ns, h1, h2⟩ := rate_parse_bare_unit (setAll rateSet r vs).2 nb u n hn hn0 hu
    exact ⟨ns, h1, by rw [aux_setAll_append, h2]⟩

/-- a last `0` (any accepted form with integer part 0) or `infinity` makes the rate unlimited and
leaves the period of the state before it: exactly `⟨0, previous Per⟩` -/
theorem rate_sequence_last_unlimited (r : Rate) (vs : List Bytes) :
    (setAll rateSet r (vs ++ [infinityWord])).2 = ⟨0, (setAll rateSet r vs).2.per⟩ ∧
    (∀ v nb db, RateSplit v nb db → IntLit nb 0 → (setAll rateSet r (vs ++ [v])).2 = ⟨0, (setAll rateSet r vs).2.per⟩) := by
  refine ⟨?_, ?_⟩
  · rw [aux_setAll_append, (rate_infinity_unlimited_and_guarded _).1]
  · intro v nb db hs hz
    rw [aux_setAll_append, (rate_zero_unlimited_and_guarded _ v nb db hs hz).1]

/-- **What a failing `-rate` `Set` leaves behind** (Go assigns `f.Freq` / `f.Per` also on error): after
a refused value the state is the old one with `Freq` replaced by what `Atoi` returned (`(atoi nb).1`;
in the model 0 on a syntax error, ±max on a range error), or — when the integer was fine and the
duration was not — `⟨N, 0⟩`. Nothing else. -/
theorem rate_failed_set_state (r : Rate) (v : Bytes) (e : Nat) (h : (rateSet r v).out = .error e) :
    ∃ nb db, RateSplit v nb db ∧
      (((atoi nb).2 = some e ∧ (rateSet r v).st = ⟨(atoi nb).1, r.per⟩) ∨
       ((atoi nb).2 = none ∧ (rateSet r v).st = ⟨(atoi nb).1, 0⟩)) := by
  have hinf : v ≠ infinityWord := by
    intro hv; rw [hv] at h; simp [rateSet] at h
  obtain ⟨nb, db, hs, ⟨e', he, h'⟩ | ⟨hl, hnone⟩⟩ := aux_rateSet_cases r v hinf
  · rw [h'] at h ⊢
    cases h
    exact ⟨nb, db, hs, .inl ⟨he, rfl⟩⟩
  · refine ⟨nb, db, hs, .inr ⟨hnone, ?_⟩⟩
    rcases aux_rateSet_lit_cases r v nb db _ hs hl with ⟨_, h'⟩ | ⟨_, d, _, h'⟩ | ⟨_, e', _, h'⟩
    · rw [h'] at h; nomatch h
    · rw [h'] at h; nomatch h
    · rw [h']

example : (setAll rateSet defaultRate [[49, 48, 48, 47, 109], [53, 48]]).2 = ⟨50, 1000000000⟩ := by decide +kernel   -- 100/m then 50
example : (rateSet ⟨7, 60000000000⟩ [120]).out = .error eSyntax ∧ (rateSet ⟨7, 60000000000⟩ [120]).st = ⟨0, 60000000000⟩ := by decide +kernel

/-- **`-header` / `-connect-to` / `-max-body` / `-dns-ttl`: a refused value leaves the flag's state
exactly as it was** — except `-dns-ttl`, whose `*(f.ttl), err = ParseDuration(v)` stores 0. -/
theorem failed_set_leaves_state (v : Bytes) :
    (∀ h : Header, (headerSet h v).out ≠ .ok () → (headerSet h v).st = h) ∧
    (∀ m : AddrMap, (connectToSet m v).out ≠ .ok () → (connectToSet m v).st = m) ∧
    (∀ n : Int, (maxBodySet n v).out ≠ .ok () → (maxBodySet n v).st = n) ∧
    (∀ d : Int, (dnsTTLSet d v).out ≠ .ok () → (dnsTTLSet d v).st = 0) := by
  refine ⟨fun h => ?_, fun m => ?_, fun n hne => ?_, fun d hne => ?_⟩
  · rw [aux_headerSet]
    cases headerParse v <;> simp
  · obtain ⟨e, he⟩ := aux_connectToSet m v
    rw [he]
    cases connectParse v <;> simp
  · rcases aux_maxBodySet v with ⟨x, hx⟩ | ⟨e, he⟩
    · rw [hx] at hne; exact absurd rfl hne
    · rw [he]
  · rcases aux_dnsTTLSet v with ⟨x, hx⟩ | ⟨e, he⟩
    · rw [hx] at hne; exact absurd rfl hne
    · rw [he]

/-- **`-max-body` / `-dns-ttl`: the last accepted `Set` decides**, whatever sequence came before:
the stored value is the one that last text means, taken alone. -/
theorem scalar_flags_last_wins (vs : List Bytes) (v : Bytes) :
    (∀ (n0 n1 x : Int), maxBodySet n1 v = ⟨x, .ok ()⟩ → (setAll maxBodySet n0 (vs ++ [v])).2 = x) ∧
    (∀ (d0 d1 x : Int), dnsTTLSet d1 v = ⟨x, .ok ()⟩ → (setAll dnsTTLSet d0 (vs ++ [v])).2 = x) := by
  refine ⟨fun n0 n1 x h => ?_, fun d0 d1 x h => ?_⟩
  · rw [aux_setAll_append]
    rcases aux_maxBodySet v with ⟨y, hy⟩ | ⟨e, he⟩
    · rw [hy] at h ⊢; cases h; rfl
    · rw [he] at h; nomatch h
  · rw [aux_setAll_append]
    rcases aux_dnsTTLSet v with ⟨y, hy⟩ | ⟨e, he⟩
    · rw [hy] at h ⊢; cases h; rfl
    · rw [he] at h; nomatch h

/-! ### whole command lines: repeated flags in any order -/

def rateVals : List FlagArg → List Bytes
  | [] => []
  | .rate v :: r => v :: rateVals r
  | _ :: r => rateVals r

def headerVals : List FlagArg → List Bytes
  | [] => []
  | .header v :: r => v :: headerVals r
  | _ :: r => headerVals r

def connectVals : List FlagArg → List Bytes
  | [] => []
  | .connectTo v :: r => v :: connectVals r
  | _ :: r => connectVals r

def maxWorkersVals : List FlagArg → List Nat
  | [] => []
  | .maxWorkers n :: r => n :: maxWorkersVals r
  | _ :: r => maxWorkersVals r

def maxBodyVals : List FlagArg → List Bytes
  | [] => []
  | .maxBody v :: r => v :: maxBodyVals r
  | _ :: r => maxBodyVals r

def dnsTTLVals : List FlagArg → List Bytes
  | [] => []
  | .dnsTTL v :: r => v :: dnsTTLVals r
  | _ :: r => dnsTTLVals r

theorem aux_parseArgs_fields (args : List FlagArg) : ∀ (o o' : Opts), parseArgs o args = .ok o' →
    o'.rate = (setAll rateSet o.rate (rateVals args)).2 ∧
    o'.headers = (setAll headerSet o.headers (headerVals args)).2 ∧
    o'.connectTo = (setAll connectToSet o.connectTo (connectVals args)).2 ∧
    o'.maxWorkers = ((maxWorkersVals args).getLast?).getD o.maxWorkers ∧
    o'.maxBody = (setAll maxBodySet o.maxBody (maxBodyVals args)).2 ∧
    o'.dnsTTL = (setAll dnsTTLSet o.dnsTTL (dnsTTLVals args)).2 := by
  induction args with
  | nil => intro o o' h; cases h; exact ⟨rfl, rfl, rfl, rfl, rfl, rfl⟩
  | cons a rest ih =>
    intro o o' h
    unfold parseArgs at h
    split at h
    · next o1 ha =>
      have i := ih o1 o' h
      cases a with
      | maxWorkers n =>
        simp only [applyArg] at ha
        split at ha
        · injection ha with h1; subst h1
          obtain ⟨i1, i2, i3, i4, i5⟩ := i
          refine ⟨i1, i2, i3, ?_, i5⟩
          rw [i4]; simp [maxWorkersVals, List.getLast?_cons]
        · injection ha with _ h2; nomatch h2
      -- a flag with a text value: `applyArg`, the `…Vals` functions and `setAll` compute
      | _ => injection ha with h1; subst h1; exact i
    · nomatch h
    · nomatch h

/-- **Flags of different kinds do not interfere, in any order**: when a command line is
accepted, the rate is the result of the `-rate` values alone (in their order), the headers of
the `-header` values alone, the connect-to map of the `-connect-to` values alone, and
`-max-workers` is the last one given — wherever the other flags stand in between. (`-max-body` and
`-dns-ttl` likewise: `attack_command_end_to_end`.) -/
theorem cmdline_flags_independent (args : List FlagArg) : ∀ (o o' : Opts), parseArgs o args = .ok o' →
    o'.rate = (setAll rateSet o.rate (rateVals args)).2 ∧
    o'.headers = (setAll headerSet o.headers (headerVals args)).2 ∧
    o'.connectTo = (setAll connectToSet o.connectTo (connectVals args)).2 ∧
    o'.maxWorkers = ((maxWorkersVals args).getLast?).getD o.maxWorkers := by
  intro o o' h
  obtain ⟨i1, i2, i3, i4, _⟩ := aux_parseArgs_fields args o o' h
  exact ⟨i1, i2, i3, i4⟩

/-- **Documented defaults**: on an accepted command line every flag that was not given has its
documented default — rate 50/1s, `-max-workers` 18446744073709551615, `-max-body` -1, `-dns-ttl` 0,
no headers, no connect-to mapping (README usage; source tie: `facts_default_rate`,
`facts_default_max_workers`, `facts_defaults`). -/
theorem cmdline_unset_flags_keep_defaults (args : List FlagArg) (o : Opts) (h : parseArgs defaultOpts args = .ok o) :
    (rateVals args = [] → o.rate = ⟨50, 1000000000⟩) ∧
    (maxWorkersVals args = [] → o.maxWorkers = 18446744073709551615) ∧
    (maxBodyVals args = [] → o.maxBody = -1) ∧ (dnsTTLVals args = [] → o.dnsTTL = 0) ∧
    (headerVals args = [] → o.headers = []) ∧ (connectVals args = [] → o.connectTo = []) := by
  -- each field is the fold of its own flag's values, and the fold of no values is the default
  obtain ⟨i1, i2, i3, i4, i5, i6⟩ := aux_parseArgs_fields args defaultOpts o h
  exact ⟨fun e => by rw [i1, e]; rfl, fun e => by rw [i4, e]; rfl, fun e => by rw [i5, e]; rfl,
    fun e => by rw [i6, e]; rfl, fun e => by rw [i2, e]; rfl, fun e => by rw [i3, e]; rfl⟩

theorem aux_last_rate_guarded (args : List FlagArg) (o' : Opts) (h : parseArgs defaultOpts args = .ok o')
    (hmw : maxWorkersVals args = []) (pre : List Bytes) (v : Bytes) (hr : rateVals args = pre ++ [v])
    (hv : ∀ r, (rateSet r v).st.freq = 0) : attackGuard o'.maxWorkers o'.rate = true := by
  obtain ⟨h1, _, _, h4, _⟩ := aux_parseArgs_fields args defaultOpts o' h
  rw [guard_iff, h4, hmw, h1, hr, aux_setAll_append]
  exact ⟨rfl, hv _⟩

/-- `-rate=0` as the last `-rate` flag of an accepted command line without `-max-workers`
makes the guard of `attack` fire, wherever it stands among the other flags. -/
theorem cmdline_rate_zero_guarded (args : List FlagArg) (o' : Opts) (h : parseArgs defaultOpts args = .ok o')
    (hmw : maxWorkersVals args = []) (pre : List Bytes) (hr : rateVals args = pre ++ [[48]]) :
    attackGuard o'.maxWorkers o'.rate = true :=
  aux_last_rate_guarded args o' h hmw pre _ hr fun r => by rw [(rate_zero_literal r).1]

/-- the same for `-rate=infinity` as the last `-rate` flag -/
theorem cmdline_rate_infinity_guarded (args : List FlagArg) (o' : Opts) (h : parseArgs defaultOpts args = .ok o')
    (hmw : maxWorkersVals args = []) (pre : List Bytes) (hr : rateVals args = pre ++ [infinityWord]) :
    attackGuard o'.maxWorkers o'.rate = true :=
  aux_last_rate_guarded args o' h hmw pre _ hr fun r => by rw [(rate_infinity_unlimited_and_guarded r).1]

/-! ### from the command line to what `attack` hands on -/

/-- **`attack` passes every parsed value on unchanged** (when the guard lets it run): the header map
of the `-header` flag is the very map given to the targeter — same keys byte for byte, same values
in the same order, no copy through a canonicalising `Add` —, the rate is the pacer, `-max-body`,
`-dns-ttl` (no rounding), `-connect-to` and `-max-workers` reach the attacker as parsed. The guard
is the only way `attack` refuses these values. (Source tie: `facts_plumbing`.) -/
theorem attack_plumbing_identity (o : Opts) :
    (attackGuard o.maxWorkers o.rate = true → attackPlumbing o = .error eGuard) ∧
    (attackGuard o.maxWorkers o.rate = false → attackPlumbing o =
      .ok { targeterHeader := o.headers, pacer := o.rate, maxWorkers := o.maxWorkers, maxBody := o.maxBody,
            dnsTTL := o.dnsTTL, connectTo := o.connectTo }) := by
  unfold attackPlumbing
  constructor <;> intro h <;> simp [h]

/-- **End to end, from the words on the command line to what the attack is run with** — for every
command line of these flags that `vegeta attack` accepts (flags of any kinds, any number, any
order) and that passes the guard:
* the targeter's default headers are, under every key `k` compared byte for byte, exactly the
  values of the well-formed `-header` flags with that key, in command-line order — nothing merged
  under another spelling, nothing renamed (the on-the-wire oracle `header_case_on_wire` is this
  statement observed through the targeter and the HTTP client);
* the pacer is the state the `-rate` flags alone leave (so the last one decides,
  `rate_sequence_last_wins`);
* `-max-body` / `-dns-ttl` are what their own flags alone leave (the last accepted one,
  `scalar_flags_last_wins`; `-dns-ttl` unrounded, `dns_ttl_identity`);
* the connect-to map is the fold of the `-connect-to` flags; `-max-workers` is the last one given. -/
theorem attack_command_end_to_end (args : List FlagArg) (p : Plumbed) (h : attackCommand args = .ok p) :
    (∀ k, lookup p.targeterHeader k = valuesFor headerParse (headerVals args) k) ∧
    p.pacer = (setAll rateSet defaultRate (rateVals args)).2 ∧
    p.maxBody = (setAll maxBodySet (-1) (maxBodyVals args)).2 ∧
    p.dnsTTL = (setAll dnsTTLSet 0 (dnsTTLVals args)).2 ∧
    (∀ k, lookup p.connectTo k = valuesFor connectParse (connectVals args) k) ∧
    p.maxWorkers = ((maxWorkersVals args).getLast?).getD defaultMaxWorkers ∧
    attackGuard p.maxWorkers p.pacer = false := by
  unfold attackCommand at h
  cases hp : parseArgs defaultOpts args with
  | error e => rw [hp] at h; simp at h
  | panic => rw [hp] at h; simp at h
  | ok o =>
    rw [hp] at h
    simp only [] at h
    obtain ⟨g1, g2⟩ := attack_plumbing_identity o
    cases hg : attackGuard o.maxWorkers o.rate with
    | true => rw [g1 hg] at h; simp at h
    | false =>
      rw [g2 hg] at h
      simp at h; subst h
      obtain ⟨a1, a2, a3, a4, b1, b2⟩ := aux_parseArgs_fields args defaultOpts o hp
      have hh := (headers_accumulate_case_preserved [] (headerVals args)).2.1
      have hc := (connect_to_mapping [] (connectVals args)).1
      simp only [defaultOpts] at a1 a2 a3 a4 b1 b2
      refine ⟨?_, a1, b1, b2, ?_, a4, hg⟩
      · intro k; simp only []; rw [a2, hh k]; simp [lookup]
      · intro k; simp only []; rw [a3, hc k]; simp [lookup]

-- -header "x-api-key: 1" -rate 100/m -header "X-API-KEY: 2" -rate 50 -max-workers 3
example : (attackCommand [.header [120, 45, 97, 58, 32, 49], .rate [49, 48, 48, 47, 109], .header [88, 45, 65, 58, 32, 50], .rate [53, 48],
      .maxWorkers 3]).isOk = true := by decide +kernel
example : attackCommand [.rate [48]] = .error eGuard := by decide +kernel

/-! ### facts regenerated from the source -/

/-- A string literal is `String.ofList` of its characters (the elaborator unifies the two), so the
bytes of `ofAscii "…"` can be read off without running the UTF-8 encoder and decoder. `simp`
does not see through the literal; `rw` does. -/
theorem aux_ofAscii_ofList (l : List Char) : ofAscii (String.ofList l) = l.map Char.toNat := by
  rw [ofAscii, String.toList_ofList]

/-- source fact: `attackCmd` initialises the rate to `vegeta.Rate{Freq: 50, Per: time.Second}`, the model's `defaultRate` -/
theorem facts_default_rate : Vegeta.Extracted.c19DefaultRateFound = true ∧
    Vegeta.Extracted.c19DefaultRate = (defaultRate.freq, defaultRate.per) := by decide +kernel

/-- source fact: `-max-workers` defaults to `vegeta.DefaultMaxWorkers`, declared as `math.MaxUint64` -/
theorem facts_default_max_workers : Vegeta.Extracted.c19DefaultMaxWorkers = defaultMaxWorkers ∧
    Vegeta.Extracted.c19DefaultMaxWorkersExpr = ofAscii "math.MaxUint64" := by
  rw [aux_ofAscii_ofList]; decide

/-- the option defaults: `maxBody: vegeta.DefaultMaxBody` = `int64(-1)`; `dnsTTL` and `connectTo` are
not in the literal (zero values: 0 and the nil map) -/
theorem facts_defaults :
    Vegeta.Extracted.c19DefaultMaxBodyExpr = [ofAscii "vegeta.DefaultMaxBody", ofAscii "int64(-1)"] ∧
    ofAscii "dnsTTL" ∉ Vegeta.Extracted.c19OptsLiteralKeys ∧ ofAscii "connectTo" ∉ Vegeta.Extracted.c19OptsLiteralKeys ∧
    ofAscii "maxWorkers" ∉ Vegeta.Extracted.c19OptsLiteralKeys := by
  repeat rw [aux_ofAscii_ofList]
  decide +kernel

/-- the guard is the first statement of `attack`, returns an error, and has the modelled shape -/
theorem facts_guard : Vegeta.Extracted.c19GuardIsFirstStatement = true ∧ Vegeta.Extracted.c19GuardReturnsError = true ∧
    Vegeta.Extracted.c19GuardCond = ofAscii "opts.maxWorkers == vegeta.DefaultMaxWorkers && opts.rate.Freq == 0" := by
  rw [aux_ofAscii_ofList]; decide +kernel

/-- the pacer handed to `Attack` is the parsed rate itself -/
theorem facts_pacer_is_rate : Vegeta.Extracted.c19PacerArg = ofAscii "opts.rate" := by
  rw [aux_ofAscii_ofList]; decide

/-- `attack()` reads the header maps straight from the flag values, hands `hdr` to both targeters and
passes each option the parsed field itself -/
theorem facts_plumbing :
    Vegeta.Extracted.c19HeaderVars = [ofAscii "hdr = opts.headers.Header", ofAscii "proxyHdr = opts.proxyHeaders.Header"] ∧
    Vegeta.Extracted.c19TargeterHeaderArgs = [ofAscii "NewJSONTargeter(hdr)", ofAscii "NewHTTPTargeter(hdr)"] ∧
    Vegeta.Extracted.c19OptionArgs = [ofAscii "MaxWorkers(opts.maxWorkers)", ofAscii "MaxBody(opts.maxBody)",
      ofAscii "ProxyHeader(proxyHdr)", ofAscii "DNSCaching(opts.dnsTTL)", ofAscii "ConnectTo(opts.connectTo)"] := by
  repeat rw [aux_ofAscii_ofList]
  decide +kernel

/-- flag name ↔ `flag.Value` type ↔ option field -/
theorem facts_flag_table :
    Vegeta.Extracted.c19FlagTable =
      [(ofAscii "max-workers", ofAscii "Uint64Var", ofAscii "maxWorkers"),
       (ofAscii "max-body", ofAscii "maxBodyFlag", ofAscii "maxBody"),
       (ofAscii "rate", ofAscii "rateFlag", ofAscii "rate"),
       (ofAscii "header", ofAscii "headers", ofAscii "headers"),
       (ofAscii "dns-ttl", ofAscii "dnsTTLFlag", ofAscii "dnsTTL"),
       (ofAscii "connect-to", ofAscii "connectToFlag", ofAscii "connectTo"),
       (ofAscii "resolvers", ofAscii "csl", ofAscii "resolvers")] := by
  repeat rw [aux_ofAscii_ofList]
  decide +kernel

/-- the only special word of `rateFlag.Set` is `infinity`, and its branch is exactly
`f.Freq = 0; return nil` — the repair of defect 13; reverting it breaks this obligation -/
theorem facts_rate_infinity_branch : Vegeta.Extracted.c19RateSpecialWords = [infinityWord] ∧
    Vegeta.Extracted.c19RateSpecialWordBranches = [[ofAscii "f.Freq = 0", ofAscii "return nil"]] := by
  repeat rw [aux_ofAscii_ofList]
  decide +kernel

/-- the literals of `rateFlag.Set` are the model's -/
theorem facts_rate_literals : Vegeta.Extracted.c19RateSpecialWords = [infinityWord] ∧
    Vegeta.Extracted.c19RateBareUnits = bareUnits ∧ Vegeta.Extracted.c19RateDefaultPer = [49, 115] ∧
    Vegeta.Extracted.c19RateSplit = ofAscii "/|2" := by
  rw [aux_ofAscii_ofList]; decide

/-- every unit name of `datasize.ByteSize.UnmarshalText` (module version as in go.mod),
lower-cased, has the multiplier the model's table gives; the bit-unit spellings agree -/
theorem facts_datasize_units :
    (∀ e ∈ Vegeta.Extracted.c19DatasizeUnits, ∀ nm ∈ e.1, dsUnitShift (toLower nm) = some e.2) ∧
    Vegeta.Extracted.c19DatasizeUnits.length = 7 ∧
    Vegeta.Extracted.c19DatasizeBitsUnits = bitsUnits := by decide +kernel

theorem aux_ite_eq_some {α} {c : Prop} [Decidable c] {a k : α} {r : Option α}
    (h : (if c then some a else r) = some k) : (c ∧ a = k) ∨ r = some k := by
  split at h
  · exact .inl ⟨‹c›, Option.some.inj h⟩
  · exact .inr h

/-- …and the model's table has no unit the library lacks -/
theorem facts_datasize_units_complete (u : Bytes) (k : Nat) (h : dsUnitShift u = some k) :
    ∃ e ∈ Vegeta.Extracted.c19DatasizeUnits, e.2 = k ∧ u ∈ e.1.map toLower := by
  -- row by row down the table; each name of a row is then found in the extracted table
  unfold dsUnitShift at h
  obtain ⟨hu, rfl⟩ | h := aux_ite_eq_some h
  · rcases hu with rfl | rfl | rfl <;> decide
  obtain ⟨hu, rfl⟩ | h := aux_ite_eq_some h
  · rcases hu with rfl | rfl | rfl | rfl | rfl <;> decide
  obtain ⟨hu, rfl⟩ | h := aux_ite_eq_some h
  · rcases hu with rfl | rfl | rfl | rfl | rfl <;> decide
  obtain ⟨hu, rfl⟩ | h := aux_ite_eq_some h
  · rcases hu with rfl | rfl | rfl | rfl | rfl <;> decide
  obtain ⟨hu, rfl⟩ | h := aux_ite_eq_some h
  · rcases hu with rfl | rfl | rfl | rfl | rfl <;> decide
  obtain ⟨hu, rfl⟩ | h := aux_ite_eq_some h
  · rcases hu with rfl | rfl | rfl | rfl | rfl <;> decide
  obtain ⟨hu, rfl⟩ | h := aux_ite_eq_some h
  · rcases hu with rfl | rfl <;> decide
  nomatch h

end Vegeta.Props.C19
