/-
C10 — Report metrics equal an exact reference computation, in any order, incrementally.

`Add` is a fold of `addAcc` over the results (`accAll`); `Close` derives the rest from the accumulator and leaves it
alone. Each accumulator field after the fold is shown to be the reference's expression on its own — minimum and maximum
fields through `List.min?`/`List.max?`, the wrapping sums inside the domain, the status-code table by extensionality of
strictly sorted association lists, the error set as first-occurrence dedup — which gives `metrics_eq_ref`; order
independence is that of the reference. Since `Close` does not touch the accumulator, intermediate `Close` calls are
invisible (`interleaved_close`) and every periodic report is the reference report of the results so far.
Then the text reporter (lib/reporters.go:57-139; model `Model/MetricsText.lean`): `round` is rounding to the nearest
multiple (`Proofs/Nearest`) of a unit chosen by magnitude; the text and JSON layouts; and the report command's loop
(report.go:136-166), whose written reports are exactly the reference reports of the prefixes read before each.
-/
import Vegeta.Model.Metrics
import Vegeta.Spec.Metrics
import Vegeta.Model.MetricsText
import Vegeta.Proofs.Nearest
namespace Vegeta.Props.C10
open Vegeta.Go Vegeta.Model.Metrics Vegeta.Spec.Metrics Vegeta.Model.MetricsText

/-! ## The metrics (lib/metrics.go `Add`, `Close`) against the reference -/

def accAll (a : Acc) (rs : List Result) : Acc := rs.foldl addAcc a

/-! ### extremes and counts -/

theorem aux_minL_eq (l : List Int) : minL l = l.min? := by
  induction l with
  | nil => rfl
  | cons x xs ih => rw [minL, ih, List.min?_cons]; cases xs.min? <;> simp [Int.min_def]

theorem aux_maxL_eq (l : List Int) : maxL l = l.max? := by
  induction l with
  | nil => rfl
  | cons x xs ih =>
    rw [maxL, ih, List.max?_cons]
    cases xs.max? with
    | none => rfl
    | some m => simp only [Option.elim_some, Int.max_def, Option.some.injEq]; split <;> split <;> omega

theorem aux_minL_spec {l : List Int} {m : Int} : minL l = some m ↔ m ∈ l ∧ ∀ x ∈ l, m ≤ x := by
  rw [aux_minL_eq]; exact List.min?_eq_some_iff

theorem aux_maxL_spec {l : List Int} {m : Int} : maxL l = some m ↔ m ∈ l ∧ ∀ x ∈ l, x ≤ m := by
  rw [aux_maxL_eq]; exact List.max?_eq_some_iff

theorem aux_minL_some (l : List Int) (h : l ≠ []) : ∃ m, minL l = some m :=
  Option.ne_none_iff_exists'.mp (by rw [aux_minL_eq]; exact mt List.min?_eq_none_iff.mp h)

theorem aux_maxL_some (l : List Int) (h : l ≠ []) : ∃ m, maxL l = some m :=
  Option.ne_none_iff_exists'.mp (by rw [aux_maxL_eq]; exact mt List.max?_eq_none_iff.mp h)

theorem aux_minL_perm {l1 l2 : List Int} (h : l1.Perm l2) : minL l1 = minL l2 :=
  Option.ext fun m => by simp only [aux_minL_spec, h.mem_iff]

theorem aux_maxL_perm {l1 l2 : List Int} (h : l1.Perm l2) : maxL l1 = maxL l2 :=
  Option.ext fun m => by simp only [aux_maxL_spec, h.mem_iff]

/-- a field that `Add` updates by `stepEarliest` (`earliest` with the timestamp; the minimum latency, unset while
`estInit = false`) holds the least of its start value, if set, and the new values -/
theorem aux_min_field (π : Acc → Option Int) (f : Result → Int)
    (hstep : ∀ a r, π (addAcc a r) = stepEarliest (π a) (f r)) (rs : List Result) : ∀ a : Acc,
    π (accAll a rs) = minL ((π a).toList ++ rs.map f) := by
  simp only [aux_minL_eq]
  induction rs with
  | nil => intro a; cases h : π a <;> simp [accAll, h]
  | cons r rs ih =>
    intro a
    rw [accAll, List.foldl_cons, ← accAll, ih, hstep]
    cases π a with
    | none => rfl
    | some e =>
      have : stepEarliest (some e) (f r) = some (min e (f r)) := by
        simp only [stepEarliest, Int.min_def]; split <;> split <;> first | rfl | omega
      simp only [this, Option.toList_some, List.singleton_append, List.map_cons, List.min?_cons', List.foldl_cons]

/-- … by `stepLatest` (`latest` with the timestamp, `end_` with the end instant, the maximum latency): the greatest -/
theorem aux_max_field (π : Acc → Option Int) (f : Result → Int)
    (hstep : ∀ a r, π (addAcc a r) = stepLatest (π a) (f r)) (rs : List Result) : ∀ a : Acc,
    π (accAll a rs) = maxL ((π a).toList ++ rs.map f) := by
  simp only [aux_maxL_eq]
  induction rs with
  | nil => intro a; cases h : π a <;> simp [accAll, h]
  | cons r rs ih =>
    intro a
    rw [accAll, List.foldl_cons, ← accAll, ih, hstep]
    cases π a with
    | none => rfl
    | some e =>
      have : stepLatest (some e) (f r) = some (max e (f r)) := by
        simp only [stepLatest, Int.max_def]; split <;> split <;> first | rfl | (congr 1; omega)
      simp only [this, Option.toList_some, List.singleton_append, List.map_cons, List.max?_cons', List.foldl_cons]

theorem aux_success (rs : List Result) : ∀ a : Acc,
    (accAll a rs).success = a.success + successCount rs := by
  induction rs with
  | nil => intro a; rfl
  | cons r rs ih =>
    intro a
    simp only [accAll, List.foldl_cons] at ih ⊢
    rw [ih (addAcc a r)]
    simp only [addAcc, successCount, List.filter_cons]
    split <;> simp <;> omega

theorem aux_estInit (rs : List Result) : ∀ a : Acc, (accAll a rs).estInit = (a.estInit || !rs.isEmpty) := by
  induction rs with
  | nil => intro a; simp [accAll]
  | cons r rs ih =>
    intro a
    simp only [accAll, List.foldl_cons] at ih ⊢
    rw [ih (addAcc a r)]; simp [addAcc]

/-! ### the status-code table -/

/-- value stored under key `k` (0 when absent) -/
def look (k : Nat) : List (Nat × Nat) → Nat
  | [] => 0
  | (k', v) :: t => if k' = k then v else look k t

/-- keys strictly increasing (the status-code table is a sorted association list) -/
def SS : List (Nat × Nat) → Prop
  | [] => True
  | (k, _) :: t => (∀ p ∈ t, k < p.1) ∧ SS t

/-- all stored values positive -/
def Pos (l : List (Nat × Nat)) : Prop := ∀ p ∈ l, 0 < p.2

theorem aux_look_absent (k : Nat) (l : List (Nat × Nat)) (h : ∀ p ∈ l, k < p.1) : look k l = 0 := by
  induction l with
  | nil => rfl
  | cons p t ih =>
    obtain ⟨k', v⟩ := p
    have h1 := h (k', v) (by simp)
    simp only [look]
    split
    · omega
    · exact ih (fun p hp => h p (by simp [hp]))

theorem aux_look_below (k k' v : Nat) (t : List (Nat × Nat)) (s : SS ((k', v) :: t)) (h : k < k') :
    look k ((k', v) :: t) = 0 :=
  aux_look_absent k _ (fun q hq => by
    rcases List.mem_cons.mp hq with rfl | hq
    · exact h
    · have := s.1 q hq; omega)

/-- Two canonical maps with the same contents are the same list. -/
theorem aux_ext : ∀ (l1 l2 : List (Nat × Nat)), SS l1 → SS l2 → Pos l1 → Pos l2 →
    (∀ k, look k l1 = look k l2) → l1 = l2 := by
  intro l1
  induction l1 with
  | nil =>
    intro l2 _ _ _ p2 h
    cases l2 with
    | nil => rfl
    | cons p t =>
      have := h p.1
      have hv := p2 p (by simp)
      simp [look] at this; omega
  | cons p1 t1 ih =>
    intro l2 s1 s2 p1' p2 h
    obtain ⟨k1, v1⟩ := p1
    have hv1 : 0 < v1 := p1' (k1, v1) (by simp)
    cases l2 with
    | nil => have := h k1; simp [look] at this; omega
    | cons p2' t2 =>
      obtain ⟨k2, v2⟩ := p2'
      have hv2 : 0 < v2 := p2 (k2, v2) (by simp)
      -- the first keys agree: the smaller one would be absent from the other map
      have hk : k1 = k2 := by
        have h1 := h k1
        have h2 := h k2
        rcases Nat.lt_trichotomy k1 k2 with hlt | heq | hgt
        · rw [aux_look_below k1 _ _ _ s2 hlt] at h1; simp [look] at h1; omega
        · exact heq
        · rw [aux_look_below k2 _ _ _ s1 hgt] at h2; simp [look] at h2; omega
      subst hk
      have hv := h k1
      simp only [look, ↓reduceIte] at hv
      subst hv
      congr 1
      apply ih t2 s1.2 s2.2 (fun p hp => p1' p (by simp [hp])) (fun p hp => p2 p (by simp [hp]))
      intro k
      have := h k
      simp only [look] at this
      by_cases hk : k1 = k
      · subst hk; rw [aux_look_absent k1 t1 s1.1, aux_look_absent k1 t2 s2.1]
      · simpa [hk] using this

/-- strictly increasing list of keys -/
def Sorted : List Nat → Prop
  | [] => True
  | k :: t => (∀ x ∈ t, k < x) ∧ Sorted t

theorem aux_mem_insertDedup (c x : Nat) (l : List Nat) : x ∈ insertDedup c l ↔ x = c ∨ x ∈ l := by
  induction l with
  | nil => simp [insertDedup]
  | cons k t ih =>
    simp only [insertDedup]
    split
    · simp
    · split
      · rename_i h; subst h; simp
      · simp only [List.mem_cons, ih]
        constructor
        · rintro (h | h | h) <;> simp [h]
        · rintro (h | h | h) <;> simp [h]

theorem aux_insertDedup_sorted (c : Nat) (l : List Nat) (h : Sorted l) : Sorted (insertDedup c l) := by
  induction l with
  | nil => simp [insertDedup, Sorted]
  | cons k t ih =>
    simp only [insertDedup]
    split
    · rename_i hlt
      refine ⟨?_, h⟩
      intro x hx
      rcases List.mem_cons.mp hx with rfl | hx
      · exact hlt
      · have := h.1 x hx; omega
    · split
      · exact h
      · refine ⟨?_, ih h.2⟩
        intro x hx
        rcases (aux_mem_insertDedup c x t).mp hx with rfl | hx
        · omega
        · exact h.1 x hx

theorem aux_SS_iff (l : List (Nat × Nat)) : SS l ↔ Sorted (l.map (·.1)) := by
  induction l with
  | nil => exact Iff.rfl
  | cons p t ih => simp only [SS, Sorted, List.map_cons, List.forall_mem_map, ih]

/-- on the keys `bumpCode` is `insertDedup` -/
theorem aux_bump_keys (c : Nat) (l : List (Nat × Nat)) : (bumpCode c l).map (·.1) = insertDedup c (l.map (·.1)) := by
  induction l with
  | nil => rfl
  | cons p t ih =>
    simp only [bumpCode, List.map_cons, insertDedup]
    split
    · rfl
    · split
      · rfl
      · rw [List.map_cons, ih]

theorem aux_bump_SS (c : Nat) (l : List (Nat × Nat)) (h : SS l) : SS (bumpCode c l) := by
  rw [aux_SS_iff, aux_bump_keys]
  exact aux_insertDedup_sorted c _ ((aux_SS_iff l).mp h)

theorem aux_bump_Pos (c : Nat) (l : List (Nat × Nat)) (h : Pos l) : Pos (bumpCode c l) := by
  induction l with
  | nil => intro p hp; simp [bumpCode] at hp; rw [hp]; simp
  | cons q t ih =>
    obtain ⟨k, v⟩ := q
    intro p hp
    simp only [bumpCode] at hp
    split at hp
    · rcases List.mem_cons.mp hp with rfl | hp
      · simp
      · exact h p hp
    · split at hp
      · rcases List.mem_cons.mp hp with rfl | hp
        · simp
        · exact h p (by simp [hp])
      · rcases List.mem_cons.mp hp with rfl | hp
        · exact h _ (by simp)
        · exact ih (fun p hp => h p (by simp [hp])) p hp

theorem aux_bump_look (c k : Nat) (l : List (Nat × Nat)) (h : SS l) :
    look k (bumpCode c l) = if k = c then look k l + 1 else look k l := by
  induction l with
  | nil => simp only [bumpCode, look]; split <;> split <;> omega
  | cons q t ih =>
    obtain ⟨k', v⟩ := q
    simp only [bumpCode]
    split
    · rename_i hlt
      simp only [look]
      by_cases hk : k = c
      · subst hk
        have : ¬ k' = k := by omega
        simp only [this, ↓reduceIte]
        rw [aux_look_absent k t (fun p hp => by have := h.1 p hp; omega)]
      · have : ¬ c = k := fun e => hk e.symm
        simp [this, hk]
    · split
      · rename_i h1 h2
        subst h2
        simp only [look]
        by_cases hk : c = k
        · subst hk; simp
        · have : ¬ k = c := fun e => hk e.symm
          simp [hk, this]
      · rename_i h1 h2
        simp only [look]
        by_cases hk : k' = k
        · subst hk
          have : ¬ k' = c := fun e => h2 e.symm
          simp [this]
        · simp only [hk, ↓reduceIte]; exact ih h.2

theorem aux_codes (rs : List Result) : ∀ a : Acc, SS a.statusCodes → Pos a.statusCodes →
    SS (accAll a rs).statusCodes ∧ Pos (accAll a rs).statusCodes ∧
    ∀ k, look k (accAll a rs).statusCodes = look k a.statusCodes + countCode k rs := by
  induction rs with
  | nil => intro a h1 h2; exact ⟨h1, h2, fun k => by simp [accAll, countCode]⟩
  | cons r rs ih =>
    intro a h1 h2
    simp only [accAll, List.foldl_cons] at ih ⊢
    obtain ⟨i1, i2, i3⟩ := ih (addAcc a r) (aux_bump_SS _ _ h1) (aux_bump_Pos _ _ h2)
    refine ⟨i1, i2, ?_⟩
    intro k
    rw [i3 k]
    simp only [addAcc, aux_bump_look _ _ _ h1, countCode, List.filter_cons]
    by_cases hk : k = r.code
    · subst hk; simp; omega
    · have : ¬ r.code = k := fun e => hk e.symm
      simp [hk, this]

theorem aux_sortDedup (l : List Nat) : Sorted (sortDedup l) ∧ ∀ x, x ∈ sortDedup l ↔ x ∈ l := by
  induction l with
  | nil => simp [sortDedup, Sorted]
  | cons c t ih =>
    refine ⟨aux_insertDedup_sorted _ _ ih.1, ?_⟩
    intro x
    simp only [sortDedup, aux_mem_insertDedup, ih.2, List.mem_cons]

theorem aux_map_SS (g : Nat → Nat) (l : List Nat) (h : Sorted l) : SS (l.map (fun c => (c, g c))) := by
  rw [aux_SS_iff, List.map_map]
  show Sorted (l.map id)
  rwa [List.map_id]

theorem aux_map_look (g : Nat → Nat) (k : Nat) (l : List Nat) :
    look k (l.map (fun c => (c, g c))) = if k ∈ l then g k else 0 := by
  induction l with
  | nil => simp [look]
  | cons c t ih =>
    simp only [List.map_cons, look, List.mem_cons]
    by_cases h : c = k
    · subst h; simp
    · have : ¬ k = c := fun e => h e.symm
      simp only [h, ↓reduceIte, ih, this, false_or]

theorem aux_countCode_pos (k : Nat) (rs : List Result) : 0 < countCode k rs ↔ k ∈ rs.map (·.code) := by
  induction rs with
  | nil => simp [countCode]
  | cons r rs ih =>
    simp only [countCode, List.filter_cons, List.map_cons, List.mem_cons] at ih ⊢
    by_cases h : r.code = k
    · simp [h]
    · have : ¬ k = r.code := fun e => h e.symm
      simp only [beq_iff_eq, h, ↓reduceIte, this, false_or]
      exact ih

theorem aux_codeHistogram (rs : List Result) :
    SS (codeHistogram rs) ∧ Pos (codeHistogram rs) ∧ ∀ k, look k (codeHistogram rs) = countCode k rs := by
  have hs := aux_sortDedup (rs.map (·.code))
  refine ⟨aux_map_SS _ _ hs.1, ?_, ?_⟩
  · intro p hp
    simp only [codeHistogram, List.mem_map] at hp
    obtain ⟨c, hc, rfl⟩ := hp
    exact (aux_countCode_pos c rs).mpr ((hs.2 c).mp hc)
  · intro k
    simp only [codeHistogram, aux_map_look]
    split
    · rfl
    · rename_i h
      have : ¬ 0 < countCode k rs := fun hp => h ((hs.2 k).mpr ((aux_countCode_pos k rs).mp hp))
      omega

/-! ### the error set, request count and wrapping sums -/

theorem aux_errors_fold (es : List Bytes) : ∀ acc : List Bytes,
    es.foldl stepErrors acc = acc ++ (dedupFirst (es.filter (fun e => e ≠ []))).filter (fun x => x ∉ acc) := by
  induction es with
  | nil => intro acc; simp [dedupFirst]
  | cons e t ih =>
    intro acc
    simp only [List.foldl_cons]
    rw [ih]
    by_cases he : e = []
    · subst he; simp [stepErrors]
    · simp only [stepErrors, he, ↓reduceIte, ne_eq, not_false_eq_true, decide_true, List.filter_cons_of_pos, dedupFirst]
      by_cases hm : e ∈ acc
      · simp only [hm, ↓reduceIte, List.filter_cons, not_true_eq_false, decide_false, Bool.false_eq_true, List.filter_filter]
        congr 1
        apply List.filter_congr
        intro x _
        by_cases hx : x ∈ acc
        · simp [hx]
        · have : x ≠ e := fun h => hx (h ▸ hm)
          simp [hx, this]
      · simp only [hm, ↓reduceIte, List.filter_cons, not_false_eq_true, decide_true, List.append_assoc, List.singleton_append, List.filter_filter]
        congr 2
        apply List.filter_congr
        intro x _
        by_cases hx : x = e
        · subst hx; simp
        · simp [hx]

theorem aux_errors (rs : List Result) : ∀ a : Acc,
    (accAll a rs).errors = (rs.map (·.error)).foldl stepErrors a.errors := by
  induction rs with
  | nil => intro a; rfl
  | cons r rs ih =>
    intro a
    simp only [accAll, List.foldl_cons, List.map_cons] at ih ⊢
    rw [ih (addAcc a r)]; rfl

theorem aux_addAll (rs : List Result) : ∀ m : Metrics, addAll m rs = { acc := accAll m.acc rs, der := m.der } := by
  induction rs with
  | nil => intro m; rfl
  | cons r rs ih => intro m; simp only [addAll, accAll, List.foldl_cons] at ih ⊢; rw [ih]; rfl

theorem aux_requests (rs : List Result) : ∀ a : Acc, (accAll a rs).requests = a.requests + rs.length := by
  induction rs with
  | nil => intro a; rfl
  | cons r rs ih =>
    intro a
    simp only [accAll, List.foldl_cons, List.length_cons] at ih ⊢
    rw [ih]; simp only [addAcc]; omega

theorem aux_wrapS64_congr {x y : Int} (h : x % (two64 : Int) = y % (two64 : Int)) : wrapS64 x = wrapS64 y := by
  unfold wrapS64; rw [h]

theorem aux_wrapS64_emod (x : Int) : wrapS64 x % (two64 : Int) = x % (two64 : Int) := by
  unfold wrapS64
  simp only []
  split
  · rw [Int.sub_emod_right, Int.emod_emod]
  · rw [Int.emod_emod]

theorem aux_wrap_add (x y : Int) : wrapS64 (wrapS64 x + y) = wrapS64 (x + y) :=
  aux_wrapS64_congr (by rw [Int.add_emod, aux_wrapS64_emod, ← Int.add_emod])

theorem aux_bytes_field (π : Acc → Nat) (f : Result → Nat)
    (hstep : ∀ a r, π (addAcc a r) = (π a + f r) % two64) (rs : List Result) : ∀ a : Acc, π a < two64 →
    π (accAll a rs) = (π a + sumNat (rs.map f)) % two64 := by
  induction rs with
  | nil => intro a h; simp only [accAll, List.foldl_nil, List.map_nil, sumNat, Nat.add_zero]; exact (Nat.mod_eq_of_lt h).symm
  | cons r rs ih =>
    intro a _
    simp only [accAll, List.foldl_cons, List.map_cons, sumNat] at ih ⊢
    rw [ih (addAcc a r) (by rw [hstep]; exact Nat.mod_lt _ (by decide)), hstep, Nat.mod_add_mod, Nat.add_assoc]

theorem aux_latTotal (rs : List Result) : ∀ a : Acc, inS64 a.latTotal →
    (accAll a rs).latTotal = wrapS64 (a.latTotal + sumInt (rs.map (·.latency))) := by
  induction rs with
  | nil => intro a h; simp only [accAll, List.foldl_nil, List.map_nil, sumInt, Int.add_zero]; exact (wrapS64_id h).symm
  | cons r rs ih =>
    intro a _
    simp only [accAll, List.foldl_cons, List.map_cons, sumInt] at ih ⊢
    rw [ih (addAcc a r) (wrapS64_range _)]
    simp only [addAcc]
    rw [aux_wrap_add]; congr 1; omega

theorem aux_sumInt_nonneg (l : List Int) (h : ∀ x ∈ l, 0 ≤ x) : 0 ≤ sumInt l := by
  induction l with
  | nil => simp [sumInt]
  | cons x xs ih =>
    have := h x (by simp)
    have := ih (fun y hy => h y (by simp [hy]))
    simp only [sumInt]; omega

theorem aux_sumInt_perm {l1 l2 : List Int} (h : l1.Perm l2) : sumInt l1 = sumInt l2 := by
  induction h with
  | nil => rfl
  | cons x _ ih => simp only [sumInt, ih]
  | swap x y l => simp only [sumInt]; omega
  | trans _ _ ih1 ih2 => rw [ih1, ih2]

theorem aux_sumNat_perm {l1 l2 : List Nat} (h : l1.Perm l2) : sumNat l1 = sumNat l2 := by
  induction h with
  | nil => rfl
  | cons x _ ih => simp only [sumNat, ih]
  | swap x y l => simp only [sumNat]; omega
  | trans _ _ ih1 ih2 => rw [ih1, ih2]

theorem aux_sumInt_append (a b : List Int) : sumInt (a ++ b) = sumInt a + sumInt b := by
  induction a with
  | nil => simp [sumInt]
  | cons x t ih => simp only [List.cons_append, sumInt, ih]; omega

theorem aux_sumNat_append (a b : List Nat) : sumNat (a ++ b) = sumNat a + sumNat b := by
  induction a with
  | nil => simp [sumNat]
  | cons x t ih => simp only [List.cons_append, sumNat, ih]; omega

/-! ### the closed metrics equal the reference -/

/-- The quantifier of the property: timestamps at or after the Unix epoch, non-negative latencies,
every end instant inside the `int64` nanosecond range (before the year 2262), and totals that fit
their Go types (`int64` latency total, `uint64` byte totals). -/
structure Domain (rs : List Result) : Prop where
  ts_nonneg  : ∀ r ∈ rs, 0 ≤ r.timestamp
  lat_nonneg : ∀ r ∈ rs, 0 ≤ r.latency
  end_fits   : ∀ r ∈ rs, r.timestamp + r.latency ≤ maxInt64
  lat_sum    : sumInt (rs.map (·.latency)) ≤ maxInt64
  in_sum     : sumNat (rs.map (·.bytesIn)) < two64
  out_sum    : sumNat (rs.map (·.bytesOut)) < two64

theorem aux_satSub_id (a b : Int) (h1 : 0 ≤ b) (h2 : b ≤ a) (h3 : a ≤ maxInt64) : satSub a b = a - b := by
  unfold satSub maxInt64 minInt64 at *
  simp only []
  split
  · omega
  · split <;> omega

theorem aux_close_some (a : Acc) (d : Derived) (e l n : Int) (h0 : a.requests ≠ 0)
    (he : a.earliest = some e) (hl : a.latest = some l) (hn : a.end_ = some n) :
    close { acc := a, der := d } = { acc := a, der := derive a e l n } := by
  simp only [close, h0, ↓reduceIte, he, hl, hn]

theorem aux_instants (rs : List Result) (h : rs ≠ []) : ∃ e l n,
    minL (rs.map (·.timestamp)) = some e ∧ maxL (rs.map (·.timestamp)) = some l ∧
    maxL (rs.map (fun r => r.timestamp + r.latency)) = some n ∧ (accAll Acc.init rs).earliest = some e ∧
    (accAll Acc.init rs).latest = some l ∧ (accAll Acc.init rs).end_ = some n := by
  obtain ⟨e, he⟩ := aux_minL_some (rs.map (·.timestamp)) (by simpa using h)
  obtain ⟨l, hl⟩ := aux_maxL_some (rs.map (·.timestamp)) (by simpa using h)
  obtain ⟨n, hn⟩ := aux_maxL_some (rs.map (fun r => r.timestamp + r.latency)) (by simpa using h)
  exact ⟨e, l, n, he, hl, hn, (aux_min_field (·.earliest) (·.timestamp) (fun _ _ => rfl) rs _).trans he,
    (aux_max_field (·.latest) (·.timestamp) (fun _ _ => rfl) rs _).trans hl,
    (aux_max_field (·.end_) (fun r => r.timestamp + r.latency) (fun _ _ => rfl) rs _).trans hn⟩

/-- **The closed metrics equal the reference computation** — request count, status-code histogram, byte
totals and means, latency total/mean/min/max, earliest, latest and end instants, duration, wait, rate,
throughput, success ratio and the distinct error texts (in order of first occurrence) — for every list
of results in the domain, of any size. -/
theorem metrics_eq_ref (rs : List Result) (hd : Domain rs) :
    report (close (addAll Metrics.init rs)) = ref rs := by
  rw [aux_addAll]
  show report (close { acc := accAll Acc.init rs, der := Derived.init }) = ref rs
  by_cases hrs : rs = []
  · subst hrs; rfl
  · have hlen : rs.length ≠ 0 := fun h => hrs (List.length_eq_zero_iff.mp h)
    have hreq : (accAll Acc.init rs).requests = rs.length := by rw [aux_requests]; simp [Acc.init]
    -- instants
    obtain ⟨e, l, n, he, hl, hn, hE, hL, hN⟩ := aux_instants rs hrs
    obtain ⟨e1, e2⟩ := aux_minL_spec.mp he
    obtain ⟨l1, l2⟩ := aux_maxL_spec.mp hl
    obtain ⟨n1, n2⟩ := aux_maxL_spec.mp hn
    have he0 : 0 ≤ e := by
      obtain ⟨r, hr, rfl⟩ := List.mem_map.mp e1; exact hd.ts_nonneg r hr
    have hel : e ≤ l := e2 l l1
    have hln : l ≤ n := by
      obtain ⟨r, hr, rfl⟩ := List.mem_map.mp l1
      have := n2 (r.timestamp + r.latency) (List.mem_map.mpr ⟨r, hr, rfl⟩)
      have := hd.lat_nonneg r hr
      omega
    have hnmax : n ≤ maxInt64 := by
      obtain ⟨r, hr, rfl⟩ := List.mem_map.mp n1; exact hd.end_fits r hr
    have hdur : satSub l e = l - e := aux_satSub_id _ _ he0 hel (by omega)
    have hwait : satSub n l = n - l := aux_satSub_id _ _ (by omega) hln hnmax
    have hwrap : wrapS64 (l - e + (n - l)) = l - e + (n - l) :=
      wrapS64_id (by unfold inS64 minInt64 maxInt64 at *; omega)
    -- totals
    have hin : (accAll Acc.init rs).bytesInTotal = sumNat (rs.map (·.bytesIn)) := by
      rw [aux_bytes_field (·.bytesInTotal) (·.bytesIn) (fun _ _ => rfl) _ _ (by decide)]
      simp only [Acc.init, Nat.zero_add]; exact Nat.mod_eq_of_lt hd.in_sum
    have hout : (accAll Acc.init rs).bytesOutTotal = sumNat (rs.map (·.bytesOut)) := by
      rw [aux_bytes_field (·.bytesOutTotal) (·.bytesOut) (fun _ _ => rfl) _ _ (by decide)]
      simp only [Acc.init, Nat.zero_add]; exact Nat.mod_eq_of_lt hd.out_sum
    have hlat : (accAll Acc.init rs).latTotal = sumInt (rs.map (·.latency)) := by
      rw [aux_latTotal _ _ (by simp [Acc.init, inS64, minInt64, maxInt64])]
      simp only [Acc.init, Int.zero_add]
      have h0 := aux_sumInt_nonneg (rs.map (·.latency)) (by
        intro x hx; obtain ⟨r, hr, rfl⟩ := List.mem_map.mp hx; exact hd.lat_nonneg r hr)
      have h1 := hd.lat_sum
      exact wrapS64_id (by unfold inS64 minInt64 maxInt64 at *; omega)
    have hsucc : (accAll Acc.init rs).success = successCount rs := by rw [aux_success]; simp [Acc.init]
    -- latency extremes
    obtain ⟨mx, hmx⟩ := aux_maxL_some (rs.map (·.latency)) (by simpa using hrs)
    obtain ⟨mn, hmn⟩ := aux_minL_some (rs.map (·.latency)) (by simpa using hrs)
    have hmax : (accAll Acc.init rs).latMax = mx := by
      have h := aux_max_field (fun a => some a.latMax) (·.latency)
        (fun a r => by simp only [addAcc, maxStep, stepLatest]; split <;> rfl) rs Acc.init
      obtain ⟨m1, m2⟩ := aux_maxL_spec.mp hmx
      obtain ⟨r, hr, hrm⟩ := List.mem_map.mp m1
      have := hd.lat_nonneg r hr
      refine Option.some.inj (h.trans (aux_maxL_spec.mpr ⟨List.mem_cons_of_mem _ m1, fun x hx => ?_⟩))
      rcases List.mem_cons.mp hx with rfl | hx
      · show (0 : Int) ≤ mx; omega
      · exact m2 x hx
    have hmin : (accAll Acc.init rs).latMin = mn := by
      have h := (aux_min_field (fun a => if a.estInit then some a.latMin else none) (·.latency)
        (fun a r => by
          cases h : a.estInit
          · simp [addAcc, minStep, stepEarliest, h]
          · simp only [addAcc, minStep, stepEarliest, h, ↓reduceIte, Bool.true_eq_false, false_or, gt_iff_lt]
            split <;> rfl) rs Acc.init).trans hmn
      rw [aux_estInit] at h
      simpa [Acc.init, hrs] using h
    -- status codes and errors
    have hcodes : (accAll Acc.init rs).statusCodes = codeHistogram rs := by
      obtain ⟨c1, c2, c3⟩ := aux_codes rs Acc.init (by simp [Acc.init, SS]) (by intro p hp; simp [Acc.init] at hp)
      obtain ⟨d1, d2, d3⟩ := aux_codeHistogram rs
      apply aux_ext _ _ c1 d1 c2 d2
      intro k; rw [c3, d3]; simp [Acc.init, look]
    have herr : (accAll Acc.init rs).errors = dedupFirst (errorTexts rs) := by
      rw [aux_errors, aux_errors_fold]; simp [Acc.init, errorTexts]
    rw [aux_close_some _ _ e l n (by rw [hreq]; exact hlen) hE hL hN]
    simp only [report, derive, ref, hlen, ↓reduceIte, hreq, hdur, hwait, hwrap, hin, hout, hlat,
      hsucc, hmax, hmin, hcodes, herr, hE, hL, hN, he, hl, hn, hmx, hmn, Option.getD_some]

/-! ### any order of the results -/

theorem aux_codeHistogram_perm {rs1 rs2 : List Result} (h : rs1.Perm rs2) : codeHistogram rs1 = codeHistogram rs2 := by
  obtain ⟨c1, c2, c3⟩ := aux_codeHistogram rs1
  obtain ⟨d1, d2, d3⟩ := aux_codeHistogram rs2
  apply aux_ext _ _ c1 d1 c2 d2
  intro k; rw [c3, d3]; exact (h.filter _).length_eq

theorem aux_dedupFirst_mem (es : List Bytes) (x : Bytes) : x ∈ dedupFirst es ↔ x ∈ es := by
  induction es with
  | nil => simp [dedupFirst]
  | cons e t ih =>
    simp only [dedupFirst, List.mem_cons, List.mem_filter, ih]
    by_cases hx : x = e <;> simp [hx]

theorem aux_dedupFirst_nodup (es : List Bytes) : (dedupFirst es).Nodup := by
  induction es with
  | nil => simp [dedupFirst]
  | cons e t ih =>
    simp only [dedupFirst, List.nodup_cons]
    refine ⟨?_, List.Nodup.sublist List.filter_sublist ih⟩
    simp [List.mem_filter]

/-- The reference report with the error list blanked: every field but the errors. -/
def withoutErrors (r : Report) : Report := { r with errors := [] }

/-- **The reference does not depend on the order of the results**: any permutation gives the same values
in every field, and the same set of error texts (the two lists are permutations of each other). -/
theorem ref_perm (rs1 rs2 : List Result) (h : rs1.Perm rs2) :
    withoutErrors (ref rs1) = withoutErrors (ref rs2) ∧ (ref rs1).errors.Perm (ref rs2).errors := by
  have hlen := h.length_eq
  have h1 := aux_minL_perm (h.map (·.timestamp))
  have h2 := aux_maxL_perm (h.map (·.timestamp))
  have h3 := aux_maxL_perm (h.map (fun r => r.timestamp + r.latency))
  have h4 := aux_sumNat_perm (h.map (·.bytesIn))
  have h5 := aux_sumNat_perm (h.map (·.bytesOut))
  have h6 := aux_sumInt_perm (h.map (·.latency))
  have h7 := aux_maxL_perm (h.map (·.latency))
  have h8 := aux_minL_perm (h.map (·.latency))
  have h9 : successCount rs1 = successCount rs2 := (h.filter _).length_eq
  have h10 := aux_codeHistogram_perm h
  constructor
  · simp only [ref, withoutErrors, hlen, h1, h2, h3, h4, h5, h6, h7, h8, h9, h10]
    split <;> rfl
  · have he : (dedupFirst (errorTexts rs1)).Perm (dedupFirst (errorTexts rs2)) := by
      rw [List.perm_ext_iff_of_nodup (aux_dedupFirst_nodup _) (aux_dedupFirst_nodup _)]
      intro x
      rw [aux_dedupFirst_mem, aux_dedupFirst_mem]
      exact ((h.map (·.error)).filter _).mem_iff
    simp only [ref, hlen]
    split
    · exact List.Perm.refl _
    · exact he

theorem aux_domain_perm {rs1 rs2 : List Result} (h : rs1.Perm rs2) (hd : Domain rs1) : Domain rs2 :=
  { ts_nonneg := fun r hr => hd.ts_nonneg r (h.mem_iff.mpr hr)
    lat_nonneg := fun r hr => hd.lat_nonneg r (h.mem_iff.mpr hr)
    end_fits := fun r hr => hd.end_fits r (h.mem_iff.mpr hr)
    lat_sum := by rw [← aux_sumInt_perm (h.map (·.latency))]; exact hd.lat_sum
    in_sum := by rw [← aux_sumNat_perm (h.map (·.bytesIn))]; exact hd.in_sum
    out_sum := by rw [← aux_sumNat_perm (h.map (·.bytesOut))]; exact hd.out_sum }

/-- **The closed metrics do not depend on the order in which the results were added**: for any two
orders of the same multiset every reported value is the same; the error texts form the same set. -/
theorem metrics_order_independent (rs1 rs2 : List Result) (hd : Domain rs1) (h : rs1.Perm rs2) :
    withoutErrors (report (close (addAll Metrics.init rs1))) = withoutErrors (report (close (addAll Metrics.init rs2))) ∧
    (report (close (addAll Metrics.init rs1))).errors.Perm (report (close (addAll Metrics.init rs2))).errors := by
  rw [metrics_eq_ref rs1 hd, metrics_eq_ref rs2 (aux_domain_perm h hd)]
  exact ref_perm rs1 rs2 h

/-! ### `Close` in between and repeatedly -/

/-- the results added by a sequence of calls, in order -/
def adds : List Op → List Result
  | [] => []
  | .add r :: ops => r :: adds ops
  | .close :: ops => adds ops

theorem aux_close_acc (m : Metrics) : (close m).acc = m.acc := by
  unfold close
  split
  · rfl
  · split <;> rfl

theorem aux_run_acc (ops : List Op) : ∀ m : Metrics, (run m ops).acc = accAll m.acc (adds ops) := by
  induction ops with
  | nil => intro m; rfl
  | cons op ops ih =>
    intro m
    simp only [run, List.foldl_cons] at ih ⊢
    rw [ih]
    cases op with
    | add r => rfl
    | close => simp only [step, aux_close_acc, adds]

theorem aux_run_no_adds (ops : List Op) (h : adds ops = []) : run Metrics.init ops = Metrics.init := by
  induction ops with
  | nil => rfl
  | cons op ops ih =>
    cases op with
    | add r => simp [adds] at h
    | close =>
      simp only [adds] at h
      simp only [run, List.foldl_cons, step] at ih ⊢
      have : close Metrics.init = Metrics.init := rfl
      rw [this]; exact ih h

/-- Reachable states with at least one request have their three instants set: the defensive last
branch of the model's `close` is never taken (the real `Close` has no such branch). -/
theorem instants_set (ops : List Op) (h : (run Metrics.init ops).acc.requests ≠ 0) :
    ∃ e l n, (run Metrics.init ops).acc.earliest = some e ∧ (run Metrics.init ops).acc.latest = some l ∧
      (run Metrics.init ops).acc.end_ = some n := by
  rw [aux_run_acc] at h ⊢
  obtain ⟨e, l, n, _, _, _, h⟩ := aux_instants (adds ops) (by intro he; rw [he] at h; exact h rfl)
  exact ⟨e, l, n, h⟩

/-- **Closing in between additions, any number of times and at any positions, does not change the final
values**: whatever sequence of `Add` and `Close` calls was issued, the final `Close` leaves exactly the
state that adding the same results without any intermediate `Close` and closing once leaves. -/
theorem interleaved_close (ops : List Op) :
    close (run Metrics.init ops) = close (addAll Metrics.init (adds ops)) := by
  by_cases h : adds ops = []
  · rw [aux_run_no_adds ops h, h]; rfl
  · obtain ⟨e, l, n, _, _, _, he, hl, hn⟩ := aux_instants (adds ops) h
    have hreq : (accAll Acc.init (adds ops)).requests ≠ 0 := by
      rw [aux_requests]
      have : (adds ops).length ≠ 0 := fun h0 => h (List.length_eq_zero_iff.mp h0)
      simp only [Acc.init]; omega
    have h1 : run Metrics.init ops = { acc := accAll Acc.init (adds ops), der := (run Metrics.init ops).der } :=
      congrArg (Metrics.mk · (run Metrics.init ops).der) (aux_run_acc ops Metrics.init)
    rw [h1, aux_close_some _ _ e l n hreq he hl hn, aux_addAll]
    exact (aux_close_some _ _ e l n hreq he hl hn).symm

/-- **Periodic reporting shows the reference values**: after any sequence of `Add` and `Close` calls
(in the domain) the closed report equals the reference computation over the results added so far. -/
theorem incremental_report_eq_ref (ops : List Op) (hd : Domain (adds ops)) :
    report (close (run Metrics.init ops)) = ref (adds ops) := by
  rw [interleaved_close, metrics_eq_ref _ hd]

/-- **A report over no results shows zeros** (and `Close` on it changes nothing). -/
theorem empty_report_zero : close Metrics.init = Metrics.init ∧ report (close Metrics.init) = zeroReport :=
  ⟨rfl, rfl⟩

/-- **Closing repeatedly does not change the values**: `Close` is idempotent on every state. -/
theorem close_idempotent (m : Metrics) : close (close m) = close m := by
  unfold close
  split
  · rename_i h; simp
  · rename_i h
    split
    · rename_i e l n he hl hn
      simp [h, he, hl, hn]
    · simp_all

/-! ### the minimum before the fix (DESIGN §8 #8) -/

/-- `LatencyMetrics.Add` as it was before commit "fix: minimum latency is no longer reset…":
`if latency < l.Min || l.Min == 0 { l.Min = latency }` -/
def minStepOld (mn lat : Int) : Int := if lat < mn ∨ mn = 0 then lat else mn

/-- With the old `Min == 0` sentinel the latencies `[0, 5]` reported a minimum of 5 (and `[5, 0]` of 0). -/
theorem min_sentinel_old_counterexample :
    [0, 5].foldl minStepOld 0 = 5 ∧ [5, 0].foldl minStepOld 0 = 0 ∧ minL [0, 5] = some 0 := by decide

/-- The repaired code on the same witness. -/
theorem min_after_zero_latency :
    (report (close (addAll Metrics.init
      [⟨200, 1000, 0, 0, 0, []⟩, ⟨200, 2000, 5, 0, 0, []⟩]))).latMin = 0 := by decide

/-! ### non-vacuity -/

def sample : List Result :=
  [⟨200, 1000000000, 5000000, 10, 20, []⟩, ⟨500, 500000000, 0, 1, 2, [101]⟩, ⟨200, 2500000000, 7000000, 3, 4, [101]⟩]

example : Domain sample :=
  { ts_nonneg := by decide, lat_nonneg := by decide, end_fits := by decide, lat_sum := by decide,
    in_sum := by decide, out_sum := by decide }

example : (ref sample).requests = 3 ∧ (ref sample).statusCodes = [(200, 2), (500, 1)] ∧ (ref sample).latMin = 0 ∧
    (ref sample).duration = 2000000000 ∧ (ref sample).wait = 7000000 ∧ (ref sample).errors = [[101]] := by decide

example : report (close (run Metrics.init [.close, .add ⟨200, 5, 1, 0, 0, []⟩, .close, .close, .add ⟨200, 3, 9, 0, 0, []⟩])) =
    ref [⟨200, 5, 1, 0, 0, []⟩, ⟨200, 3, 9, 0, 0, []⟩] := by decide +kernel

/-! ## The text reporter (lib/reporters.go) and the report command's loop (report.go) -/

/-! ### `round` -/

open Vegeta.Proofs.Nearest

/-- the unit `round` rounds `d` to -/
def roundUnit (d : Int) : Int :=
  if d ≥ 3600000000000 then 60000000000 else if d ≥ 60000000000 then 1000000000 else if d ≥ 1000000000 then 1000000
  else if d ≥ 1000000 then 1000 else 1

theorem aux_roundUnit_pos (d : Int) : 0 < roundUnit d ∧ roundUnit d ≤ 60000000000 := by
  unfold roundUnit; repeat' split
  all_goals omega

/-- Only from one hour on can the nearest multiple lie above `d + 10^9`; there the largest `int64` is itself rounded down. -/
theorem aux_nearest_roundUnit_fits (d : Int) (hd : d ≤ maxInt64) : nearest d (roundUnit d) ≤ maxInt64 := by
  unfold maxInt64 at *
  by_cases h : d ≥ 3600000000000
  · simp only [roundUnit, nearest, h, ↓reduceIte]; split <;> omega
  · have hc := nearest_close d _ (aux_roundUnit_pos d).1
    have : roundUnit d ≤ 1000000000 := by
      unfold roundUnit; rw [if_neg h]; repeat' split
      all_goals omega
    omega

theorem aux_roundUnit_of_lt {d : Int} (h : d < 1000000) : roundUnit d = 1 := by
  unfold roundUnit; repeat' split
  all_goals omega

theorem aux_roundUnit_of_lt_second {d : Int} (h1 : 1000000 ≤ d) (h2 : d < 1000000000) : roundUnit d = 1000 := by
  unfold roundUnit; repeat' split
  all_goals omega

theorem aux_roundUnit_of_lt_minute {d : Int} (h1 : 1000000000 ≤ d) (h2 : d < 60000000000) : roundUnit d = 1000000 := by
  unfold roundUnit; repeat' split
  all_goals omega

theorem aux_roundUnit_of_lt_hour {d : Int} (h1 : 60000000000 ≤ d) (h2 : d < 3600000000000) : roundUnit d = 1000000000 := by
  unfold roundUnit; repeat' split
  all_goals omega

theorem aux_roundUnit_of_ge_hour {d : Int} (h : 3600000000000 ≤ d) : roundUnit d = 60000000000 := by
  unfold roundUnit; repeat' split
  all_goals omega

theorem aux_round_eq_durRound (d : Int) : round d = if d < 1000 then d else durRound d (roundUnit d) := by
  unfold round durations
  simp only [roundFrom]
  by_cases h1 : d ≥ 3600000000000
  · rw [if_pos h1, aux_roundUnit_of_ge_hour h1, if_neg (by omega)]
  by_cases h2 : d ≥ 60000000000
  · rw [if_neg h1, if_pos h2, aux_roundUnit_of_lt_hour h2 (by omega), if_neg (by omega)]
  by_cases h3 : d ≥ 1000000000
  · rw [if_neg h1, if_neg h2, if_pos h3, aux_roundUnit_of_lt_minute h3 (by omega), if_neg (by omega)]
  by_cases h4 : d ≥ 1000000
  · rw [if_neg h1, if_neg h2, if_neg h3, if_pos h4, aux_roundUnit_of_lt_second h4 (by omega), if_neg (by omega)]
  rw [if_neg h1, if_neg h2, if_neg h3, if_neg h4, aux_roundUnit_of_lt (by omega)]
  by_cases h5 : d ≥ 1000
  · rw [if_pos h5, if_neg (by omega)]
  · rw [if_neg h5, if_pos (by omega)]

theorem aux_round_eq_nearest (d : Int) (hd : d ≤ maxInt64) : round d = nearest d (roundUnit d) := by
  rw [aux_round_eq_durRound]
  split
  · rename_i h
    rw [aux_roundUnit_of_lt (by omega), nearest_of_dvd d 1 (by decide) (Int.one_dvd d)]
  · have hu := aux_roundUnit_pos d
    exact durRound_eq_nearest d _ (by omega) hu.1 (by unfold maxInt64; omega) (aux_nearest_roundUnit_fits d hd)

/-- **`round` rounds to the next most precise unit**: the result is a multiple of that unit (minutes from one
hour on, seconds from one minute on, … nothing below one microsecond) and differs from `d` by at most half
of it; it never overflows. -/
theorem round_within_unit (d : Int) (hd : d ≤ maxInt64) :
    round d % roundUnit d = 0 ∧ 2 * (round d - d).natAbs ≤ roundUnit d ∧ round d ≤ maxInt64 ∧ (0 ≤ d → 0 ≤ round d) := by
  have hu := (aux_roundUnit_pos d).1
  rw [aux_round_eq_nearest d hd]
  exact ⟨Int.emod_eq_zero_of_dvd (nearest_dvd d _), nearest_close d _ hu, aux_nearest_roundUnit_fits d hd,
    le_nearest hu (Int.dvd_zero _)⟩

/-- durations below one microsecond, zero and negative ones are shown as they are -/
theorem round_small (d : Int) (h : d < 1000) : round d = d := by
  rw [aux_round_eq_durRound, if_pos h]

/-- A class `lo ≤ e < hi` of `roundUnit`, with unit `u`, is closed under rounding to `u`, except that `hi`, the
first value of the next class, can be reached; it is a multiple of its own unit. -/
theorem aux_roundUnit_nearest_dvd {d u lo hi : Int} (hu : 0 < u) (hlo : u ∣ lo) (hhi : u ∣ hi) (h1 : lo ≤ d) (h2 : d < hi)
    (hclass : ∀ e, lo ≤ e → e < hi → roundUnit e = u) (hnext : roundUnit hi ∣ hi) :
    roundUnit (nearest d u) ∣ nearest d u := by
  have b1 := le_nearest hu hlo h1
  have b2 := nearest_le hu hhi h2
  by_cases h : nearest d u < hi
  · rw [hclass _ b1 h]; exact nearest_dvd d u
  · rw [show nearest d u = hi by omega]; exact hnext

theorem aux_roundUnit_round_dvd (d : Int) : roundUnit (nearest d (roundUnit d)) ∣ nearest d (roundUnit d) := by
  by_cases h1 : d < 1000000
  · rw [aux_roundUnit_of_lt h1, nearest_of_dvd d 1 (by decide) (Int.one_dvd d), aux_roundUnit_of_lt h1]; exact Int.one_dvd d
  by_cases h2 : d < 1000000000
  · rw [aux_roundUnit_of_lt_second (by omega) h2]
    exact aux_roundUnit_nearest_dvd (by decide) ⟨1000, rfl⟩ ⟨1000000, rfl⟩ (by omega) h2 (fun _ => aux_roundUnit_of_lt_second) ⟨1000, rfl⟩
  by_cases h3 : d < 60000000000
  · rw [aux_roundUnit_of_lt_minute (by omega) h3]
    exact aux_roundUnit_nearest_dvd (by decide) ⟨1000, rfl⟩ ⟨60000, rfl⟩ (by omega) h3 (fun _ => aux_roundUnit_of_lt_minute) ⟨60, rfl⟩
  by_cases h4 : d < 3600000000000
  · rw [aux_roundUnit_of_lt_hour (by omega) h4]
    exact aux_roundUnit_nearest_dvd (by decide) ⟨60, rfl⟩ ⟨3600, rfl⟩ (by omega) h4 (fun _ => aux_roundUnit_of_lt_hour) ⟨60, rfl⟩
  · rw [aux_roundUnit_of_ge_hour (d := d) (by omega),
      aux_roundUnit_of_ge_hour (le_nearest (by decide) ⟨60, rfl⟩ (by omega))]
    exact nearest_dvd d _

/-- **Rounding twice changes nothing** (a rounded value that reaches the next coarser class, e.g.
59.9996s → 1m0s, is already a multiple of that class's unit). -/
theorem round_idempotent (d : Int) (hd : d ≤ maxInt64) : round (round d) = round d := by
  rw [aux_round_eq_nearest (round d) (round_within_unit d hd).2.2.1, aux_round_eq_nearest d hd]
  exact nearest_of_dvd _ _ (aux_roundUnit_pos _).1 (aux_roundUnit_round_dvd d)

/-! ### the text report -/

theorem aux_lexLt_iff : ∀ (a b : Bytes), lexLt a b = true ↔ a < b := by
  intro a
  induction a with
  | nil => intro b; cases b <;> simp [lexLt]
  | cons x xs ih =>
    intro b
    cases b with
    | nil => simp [lexLt]
    | cons y ys =>
      simp only [lexLt, List.cons_lt_cons_iff]
      by_cases h1 : x < y
      · simp [h1]
      · by_cases h2 : y < x
        · simp [h1, h2]; omega
        · have : x = y := by omega
          simp [this, ih]

/-- the key `sort.Strings` compares: the decimal text of the status code -/
def codeText (p : Nat × Nat) : Bytes := Duration.fmtNat p.1

/-- non-decreasing in the byte-wise lexicographic order of the code texts -/
def TextSorted (l : List (Nat × Nat)) : Prop := List.Pairwise (fun p q => codeText p ≤ codeText q) l

theorem aux_insertByText_perm (p : Nat × Nat) (l : List (Nat × Nat)) : (insertByText p l).Perm (p :: l) := by
  induction l with
  | nil => exact List.Perm.refl _
  | cons q t ih =>
    simp only [insertByText]
    split
    · exact (List.Perm.cons q ih).trans (List.Perm.swap p q t)
    · exact List.Perm.refl _

theorem aux_insertByText_sorted (p : Nat × Nat) (l : List (Nat × Nat)) (h : TextSorted l) : TextSorted (insertByText p l) := by
  induction l with
  | nil => simp [insertByText, TextSorted]
  | cons q t ih =>
    simp only [insertByText]
    have hq := List.pairwise_cons.mp h
    split
    · rename_i hlt
      have hlt' : codeText q < codeText p := (aux_lexLt_iff _ _).mp hlt
      refine List.pairwise_cons.mpr ⟨?_, ih hq.2⟩
      intro a ha
      rcases List.mem_cons.mp ((aux_insertByText_perm p t).mem_iff.mp ha) with rfl | ha
      · exact List.le_of_lt hlt'
      · exact hq.1 a ha
    · rename_i hlt
      have hle : codeText p ≤ codeText q := List.not_lt.mp (fun hh => hlt ((aux_lexLt_iff _ _).mpr hh))
      refine List.pairwise_cons.mpr ⟨?_, h⟩
      intro a ha
      rcases List.mem_cons.mp ha with rfl | ha
      · exact hle
      · exact List.le_trans hle (hq.1 a ha)

theorem aux_sortByText (l : List (Nat × Nat)) : (sortByText l).Perm l ∧ TextSorted (sortByText l) := by
  induction l with
  | nil => exact ⟨List.Perm.refl _, List.Pairwise.nil⟩
  | cons p t ih =>
    exact ⟨(aux_insertByText_perm p _).trans (List.Perm.cons p ih.1), aux_insertByText_sorted p _ ih.2⟩

/-- **The text report shows the metrics.** For the closed metrics `r` (and the percentiles handed in):
seven rows, in order, each cell the stated rendering of the stated field — request count `%d`, rate and
throughput `%.2f`; total, attack and wait duration through `round` and `Duration.String`; minimum, mean,
the four percentiles and maximum latency likewise; byte totals `%d` and means `%.2f`; success ratio
times 100 `%.2f%%`; then the status codes — each code of the histogram exactly once with its count
(`cs` is a permutation of the histogram), in the byte-wise order of their decimal texts, rendered
`code:count␣␣`; and after "Error Set:" exactly the error set, in order of insertion. -/
theorem text_report_cells (r : Report) (p50 p90 p95 p99 : Int) :
    ∃ cs : List (Nat × Nat), cs.Perm r.statusCodes ∧ TextSorted cs ∧
    (textReport r p50 p90 p95 p99).rows =
      [ (lRequests, hRequests, joinSep [Duration.fmtNat r.requests, fmtFixed2 r.rate, fmtFixed2 r.throughput]),
        (lDuration, hDuration, joinSep [Duration.toString (round (wrapS64 (r.duration + r.wait))),
            Duration.toString (round r.duration), Duration.toString (round r.wait)]),
        (lLatencies, hLatencies, joinSep [Duration.toString (round r.latMin), Duration.toString (round r.latMean),
            Duration.toString (round p50), Duration.toString (round p90), Duration.toString (round p95),
            Duration.toString (round p99), Duration.toString (round r.latMax)]),
        (lBytesIn, hBytes, joinSep [Duration.fmtNat r.bytesInTotal, fmtFixed2 r.bytesInMean]),
        (lBytesOut, hBytes, joinSep [Duration.fmtNat r.bytesOutTotal, fmtFixed2 r.bytesOutMean]),
        (lSuccess, hSuccess, fmtFixed2 (F64.mul r.successRatio (F64.ofNat 100)) ++ [37]),
        (lCodes, hCodes, (cs.map codeCell).flatten) ] ∧
    (textReport r p50 p90 p95 p99).errors = r.errors :=
  ⟨sortByText r.statusCodes, (aux_sortByText _).1, (aux_sortByText _).2, rfl, rfl⟩

/-- **The text report of every (periodic or final) report shows the reference values**: after any sequence
of `Add` and `Close` calls in the domain, the text report of the closed metrics is the text report of the
reference computation over the results added so far. -/
theorem text_report_shows_metrics (ops : List Op) (hd : Domain (adds ops)) (p50 p90 p95 p99 : Int) :
    textReport (report (close (run Metrics.init ops))) p50 p90 p95 p99 = textReport (ref (adds ops)) p50 p90 p95 p99 := by
  rw [incremental_report_eq_ref ops hd]

/-- **The text report does not depend on the order of the results**, up to the order of the error lines
(which are the same set of texts). -/
theorem text_report_order_independent (rs1 rs2 : List Result) (h : rs1.Perm rs2) (p50 p90 p95 p99 : Int) :
    (textReport (ref rs1) p50 p90 p95 p99).rows = (textReport (ref rs2) p50 p90 p95 p99).rows ∧
    (textReport (ref rs1) p50 p90 p95 p99).errors.Perm (textReport (ref rs2) p50 p90 p95 p99).errors := by
  obtain ⟨h1, h2⟩ := ref_perm rs1 rs2 h
  refine ⟨?_, h2⟩
  have e1 : (textReport (ref rs1) p50 p90 p95 p99).rows = (textReport (withoutErrors (ref rs1)) p50 p90 p95 p99).rows := rfl
  have e2 : (textReport (ref rs2) p50 p90 p95 p99).rows = (textReport (withoutErrors (ref rs2)) p50 p90 p95 p99).rows := rfl
  rw [e1, e2, h1]

example : fmtFixed2 (F64.ofDecimal 125 (-3)) = [48, 46, 49, 50] ∧ fmtFixed2 (F64.ofDecimal 2675 (-3)) = [50, 46, 54, 55] ∧
    fmtFixed2 (F64.ofDecimal 5 (-3)) = [48, 46, 48, 49] ∧ fmtFixed2 (F64.neg (F64.ofDecimal 1 (-3))) = [45, 48, 46, 48, 48] := by
  decide +kernel

example : round 59999999999 = 60000000000 ∧ round 1500 = 1500 ∧ round 3629999999999 = 3600000000000 ∧
    round 3630000000000 = 3660000000000 ∧ round (-5) = -5 := by decide +kernel

example : sortByText [(200, 3), (1000, 1), (99, 2)] = [(1000, 1), (200, 3), (99, 2)] := by decide +kernel

/-! ### the report command's loop -/

theorem aux_adds_append (a b : List Op) : adds (a ++ b) = adds a ++ adds b := by
  induction a with
  | nil => rfl
  | cons op t ih => cases op <;> simp [adds, ih]

theorem aux_run_snoc (m : Metrics) (ops : List Op) (op : Op) : run m (ops ++ [op]) = step (run m ops) op := by
  simp [run, List.foldl_append]

theorem aux_domain_prefix (p q : List Result) (hd : Domain (p ++ q)) : Domain p :=
  { ts_nonneg := fun r hr => hd.ts_nonneg r (by simp [hr])
    lat_nonneg := fun r hr => hd.lat_nonneg r (by simp [hr])
    end_fits := fun r hr => hd.end_fits r (by simp [hr])
    lat_sum := by
      have h := hd.lat_sum
      rw [List.map_append, aux_sumInt_append] at h
      have := aux_sumInt_nonneg (q.map (·.latency)) (by
        intro x hx; obtain ⟨r, hr, rfl⟩ := List.mem_map.mp hx; exact hd.lat_nonneg r (by simp [hr]))
      omega
    in_sum := by have h := hd.in_sum; rw [List.map_append, aux_sumNat_append] at h; omega
    out_sum := by have h := hd.out_sum; rw [List.map_append, aux_sumNat_append] at h; omega }

/-- invariant for runs without an interrupt: once the loop is done, all input was read and the last report
written is that of the final `Close` -/
def FinalInv (rs : List Result) (s : Loop) : Prop :=
  ∃ ops, adds ops ++ s.input = rs ∧
    (s.done = false → s.m = run Metrics.init ops) ∧
    (s.done = true → s.input = [] ∧ s.m = close (run Metrics.init ops) ∧ s.out.getLast? = some (report s.m))

theorem aux_loopStep_final (rs : List Result) (s : Loop) (e : Ev) (he : e ≠ .interrupt) (h : FinalInv rs s) :
    FinalInv rs (loopStep s e) := by
  unfold loopStep
  split
  · exact h
  · rename_i hdone
    have hdone' : s.done = false := by simpa using hdone
    obtain ⟨ops, hin, hm, _⟩ := h
    have hm' := hm hdone'
    cases e with
    | interrupt => exact absurd rfl he
    | tick =>
      refine ⟨ops ++ [.close], ?_, ?_, ?_⟩
      · simp only [writeReport, aux_adds_append, adds, List.append_nil]; exact hin
      · intro _; simp only [writeReport, aux_run_snoc, step, hm']
      · intro hd; simp [writeReport, hdone'] at hd
    | decode =>
      simp only []
      split
      · rename_i hinput
        refine ⟨ops, ?_, ?_, ?_⟩
        · simp only [writeReport]; exact hin
        · intro hd; simp at hd
        · intro _; exact ⟨by simp only [writeReport]; exact hinput, by simp only [writeReport, hm'], by simp [writeReport]⟩
      · rename_i r rest hinput
        refine ⟨ops ++ [.add r], ?_, ?_, ?_⟩
        · simp only [aux_adds_append, adds, List.append_assoc, List.singleton_append]; rw [← hinput]; exact hin
        · intro _; simp only [aux_run_snoc, step, hm']
        · intro hd; simp [hdone'] at hd

theorem aux_loopRun_final (rs : List Result) (evs : List Ev) (he : ∀ e ∈ evs, e ≠ .interrupt) :
    ∀ s, FinalInv rs s → FinalInv rs (evs.foldl loopStep s) := by
  induction evs with
  | nil => intro s h; exact h
  | cons e t ih =>
    intro s h
    exact ih (fun e' he' => he e' (by simp [he'])) _ (aux_loopStep_final rs s e (he e (by simp)) h)

/-- **The final report does not depend on the ticks**: for every interleaving of ticks and decodes (no
interrupt) that runs to the end of the input, the last report written is the report of adding all
records and closing once — the same for every tick placement; no domain restriction. -/
theorem final_report_independent_of_ticks (rs : List Result) (evs : List Ev) (he : ∀ e ∈ evs, e ≠ .interrupt)
    (hdone : (loopRun rs evs).done = true) :
    (loopRun rs evs).m = close (addAll Metrics.init rs) ∧
    (loopRun rs evs).out.getLast? = some (report (close (addAll Metrics.init rs))) := by
  unfold loopRun at hdone ⊢
  obtain ⟨ops, hin, _, h⟩ := aux_loopRun_final rs evs he (Loop.start rs)
    ⟨[], by simp [Loop.start, adds], by intro _; rfl, by intro h; simp [Loop.start] at h⟩
  obtain ⟨h1, h2, h3⟩ := h hdone
  have hadds : adds ops = rs := by rw [h1] at hin; simpa using hin
  have hm : (List.foldl loopStep (Loop.start rs) evs).m = close (addAll Metrics.init rs) := by
    rw [h2, interleaved_close, hadds]
  exact ⟨hm, by rw [h3, hm]⟩

/-- … and in the domain it is the reference report of the whole input. -/
theorem final_report_eq_ref (rs : List Result) (hd : Domain rs) (evs : List Ev) (he : ∀ e ∈ evs, e ≠ .interrupt)
    (hdone : (loopRun rs evs).done = true) : (loopRun rs evs).out.getLast? = some (ref rs) := by
  rw [(final_report_independent_of_ticks rs evs he hdone).2, metrics_eq_ref rs hd]

/-- The loop does finish: after the records and one more `Decode` (io.EOF), with any ticks in between. -/
example : (loopRun sample [.tick, .decode, .tick, .tick, .decode, .decode, .tick, .decode]).done = true ∧
    (loopRun sample [.tick, .decode, .tick, .tick, .decode, .decode, .tick, .decode]).out.length = 5 := by decide +kernel

/-- For every report the loop writes, the number of records decoded before it: `k` records read so far,
`rem` records left in the input. -/
def reportPoints : Nat → Nat → List Ev → List Nat
  | _, _, [] => []
  | k, rem, .tick :: es => k :: reportPoints k rem es
  | k, _, .interrupt :: _ => [k]
  | k, 0, .decode :: _ => [k]
  | k, rem+1, .decode :: es => reportPoints (k+1) rem es

theorem aux_done_fixed (evs : List Ev) (s : Loop) (h : s.done = true) : evs.foldl loopStep s = s := by
  induction evs with
  | nil => rfl
  | cons e t ih => simp only [List.foldl_cons, loopStep, h, ↓reduceIte]; exact ih

theorem aux_loop_exact (rs : List Result) (hd : Domain rs) (evs : List Ev) : ∀ (s : Loop) (ops : List Op),
    s.done = false → s.m = run Metrics.init ops → adds ops ++ s.input = rs →
    (evs.foldl loopStep s).out = s.out ++ (reportPoints (adds ops).length s.input.length evs).map (fun k => ref (rs.take k)) := by
  induction evs with
  | nil => intro s ops _ _ _; simp [reportPoints]
  | cons e t ih =>
    intro s ops hdone hm hin
    have hrep : report (close s.m) = ref (rs.take (adds ops).length) := by
      rw [hm, incremental_report_eq_ref ops (aux_domain_prefix _ s.input (by rw [hin]; exact hd))]
      congr 1
      rw [← hin, List.take_left]
    have hw : ∀ d, ({ writeReport s with done := d } : Loop).out = s.out ++ [ref (rs.take (adds ops).length)] := by
      intro d; simp [writeReport, hrep]
    simp only [List.foldl_cons]
    cases e with
    | interrupt =>
      have e1 : loopStep s .interrupt = { writeReport s with done := true } := by simp [loopStep, hdone]
      rw [e1, aux_done_fixed t _ rfl, hw]; simp [reportPoints]
    | tick =>
      have e1 : loopStep s .tick = writeReport s := by simp [loopStep, hdone]
      rw [e1, ih (writeReport s) (ops ++ [.close]) (by simp [writeReport, hdone])
        (by simp only [writeReport, aux_run_snoc, step, hm])
        (by simp only [writeReport, aux_adds_append, adds, List.append_nil]; exact hin)]
      simp only [aux_adds_append, adds, List.append_nil, reportPoints, List.map_cons]
      have : (writeReport s).out = s.out ++ [ref (rs.take (adds ops).length)] := by simp [writeReport, hrep]
      rw [this]; simp [writeReport]
    | decode =>
      cases hinput : s.input with
      | nil =>
        have e1 : loopStep s .decode = { writeReport s with done := true } := by simp [loopStep, hdone, hinput]
        rw [e1, aux_done_fixed t _ rfl, hw]; simp [reportPoints]
      | cons r rest =>
        have e1 : loopStep s .decode = { s with m := add s.m r, input := rest } := by simp [loopStep, hdone, hinput]
        rw [e1, ih { s with m := add s.m r, input := rest } (ops ++ [.add r]) (by simpa using hdone)
          (by simp only [aux_run_snoc, step, hm])
          (by simp only [aux_adds_append, adds, List.append_assoc, List.singleton_append]; rw [← hinput]; exact hin)]
        simp [aux_adds_append, adds, reportPoints]

/-- **The reports the command writes, exactly**: for every interleaving of ticks, decodes and an interrupt,
the list of reports written (periodic ones, then the final one) is the list of reference reports over the
prefixes read so far — the `j`-th report is over exactly the records decoded before it (`reportPoints`),
repeated ticks give repeated identical reports, and nothing is written after the final report. -/
theorem loop_reports_exact (rs : List Result) (hd : Domain rs) (evs : List Ev) :
    (loopRun rs evs).out = (reportPoints 0 rs.length evs).map (fun k => ref (rs.take k)) := by
  have := aux_loop_exact rs hd evs (Loop.start rs) [] rfl rfl (by simp [Loop.start, adds])
  simpa [loopRun, Loop.start, adds] using this

/-- **Periodic reports are prefix reports**: whatever the interleaving of ticks, decoded records and an
interrupt, every report the loop writes — periodic or final — is the reference report over a prefix of
the input (the records read so far). -/
theorem periodic_reports_are_prefix_reports (rs : List Result) (hd : Domain rs) (evs : List Ev) :
    ∀ rep ∈ (loopRun rs evs).out, ∃ k, k ≤ rs.length ∧ rep = ref (rs.take k) := by
  rw [loop_reports_exact rs hd evs]
  intro rep hrep
  obtain ⟨k, _, rfl⟩ := List.mem_map.mp hrep
  exact ⟨min k rs.length, Nat.min_le_right _ _, by rw [← List.take_eq_take_min]⟩

example : Domain sample ∧ reportPoints 0 3 [.tick, .decode, .tick, .tick, .decode, .decode, .tick, .decode, .tick] = [0, 1, 1, 3, 3] :=
  ⟨{ ts_nonneg := by decide, lat_nonneg := by decide, end_fits := by decide, lat_sum := by decide,
     in_sum := by decide, out_sum := by decide }, by decide⟩

/-- **The JSON report has the documented layout**: exactly the documented members, in this order, each
carrying the stated field of the closed metrics; the status-code object lists each code of the histogram
once, in the byte-wise order of the decimal texts (as `encoding/json` sorts map keys); `errors` is the error
set in insertion order. -/
theorem json_report_layout (r : Report) (p50 p90 p95 p99 : Int) :
    ∃ cs : List (Nat × Nat), cs.Perm r.statusCodes ∧ TextSorted cs ∧
    (jsonReport r p50 p90 p95 p99).map (·.1) = jsonKeys ∧
    (jsonReport r p50 p90 p95 p99).map (·.2) =
      [ .int r.latTotal, .int r.latMean, .int p50, .int p90, .int p95, .int p99, .int r.latMax, .int r.latMin,
        .nat r.bytesInTotal, .flt r.bytesInMean, .nat r.bytesOutTotal, .flt r.bytesOutMean,
        .time r.earliest, .time r.latest, .time r.end_, .int r.duration, .int r.wait, .nat r.requests,
        .flt r.rate, .flt r.throughput, .flt r.successRatio, .codes cs, .strs r.errors ] :=
  ⟨sortByText r.statusCodes, (aux_sortByText _).1, (aux_sortByText _).2, rfl, rfl⟩

/-- **The JSON report of every (periodic or final) report shows the reference values**, after any sequence of `Add` and
`Close` calls in the domain (as `text_report_shows_metrics`). -/
theorem json_report_shows_metrics (ops : List Op) (hd : Domain (adds ops)) (p50 p90 p95 p99 : Int) :
    jsonReport (report (close (run Metrics.init ops))) p50 p90 p95 p99 = jsonReport (ref (adds ops)) p50 p90 p95 p99 := by
  rw [incremental_report_eq_ref ops hd]

end Vegeta.Props.C10
