/-
C03 — Requests in flight never exceed max-workers and free capacity is used.
Same transition system as C02; every (initial workers, max workers) configuration, every
interleaving, no depth bound.
-/
import Vegeta.Proofs.AttackInv
import Vegeta.Extracted.Facts
import Vegeta.Proofs.AttackAcceptSound
namespace Vegeta.Props.C03
open Vegeta.Model.Attack Vegeta.Proofs.Attack

variable {w m d : Nat} {s : St}

/-- **At every instant the number of hits that have started and whose result has not yet been
taken by the consumer is at most the configured maximum number of workers**, whatever the
initial worker count, the rate and the response times. -/
theorem inflight_le_max (h : Reachable w m d s) : inFlight s ≤ s.maxW := by
  have c := core_reachable h
  have := c.pop; have := c.maxw
  unfold inFlight; omega

theorem aux_maxW_const (h : Reachable w m d s) : s.maxW = m :=
  h.invariant (P := fun s => s.maxW = m) rfl fun ih hs => by cases step_rule hs <;> exact ih

/-- **In flight ≤ the `MaxWorkers` option**, stated against the configuration value. -/
theorem inflight_le_configured_max (h : Reachable w m d s) : inFlight s ≤ m := by
  rw [← aux_maxW_const h]; exact inflight_le_max h

/-- concurrent entries into the transport are hits in flight -/
def inTransport (s : St) : Nat := s.hits.countP (fun h => h.entered.isSome && h.left.isNone && h.phase == .hitting)

theorem aux_hitting_le_max (h : Reachable w m d s) (p : Hit → Bool) (hp : ∀ a, p a = true → a.phase = .hitting) :
    s.hits.countP p ≤ m := by
  have h1 := inflight_le_configured_max h
  have : s.hits.countP p ≤ busyHits s := List.countP_mono_left fun a _ ha => by simp [hp a ha]
  unfold inFlight at h1; omega

/-- **Concurrent entries into the HTTP transport never exceed max-workers.** -/
theorem transport_concurrency_le_max (h : Reachable w m d s) : inTransport s ≤ m :=
  aux_hitting_le_max h _ fun a ha => by simp at ha; exact ha.2

/-- **The initial worker count is clamped to the maximum.** -/
theorem initial_clamp (workers maxW du : Nat) :
    (init workers maxW du).nworkers = min workers maxW ∧ (init workers maxW du).nworkers ≤ maxW := by
  simp only [init]
  split <;> omega

def isInternal : Lbl → Bool
  | .ready | .spawn | .tick => true
  | _ => false

/-- **Whenever the pacer releases a hit while fewer than the maximum are busy, the hit starts
without waiting for any other request to finish**: from any reachable state in which the main
loop stands at the send (`trySend`/`blockSend`) with fewer than `max` hits in flight and no stop
signalled, the tick is handed to a worker within at most three steps, none of which is a
completion, a consumption or the passing of time — an idle worker takes it, or a starting worker
becomes idle and takes it, or a new worker is spawned on demand, becomes idle and takes it. -/
theorem free_capacity_progress (h : Reachable w m d s) (hpc : s.pc = .trySend ∨ s.pc = .blockSend)
    (hfree : inFlight s < s.maxW) (hns : s.stopClosed = false) :
    ∃ ls s', ls.length ≤ 3 ∧ (∀ l ∈ ls, isInternal l = true) ∧ run s ls = some s' ∧
      s'.count = s.count + 1 ∧ s'.got = s.got + 1 ∧ inFlight s' = inFlight s + 1 := by
  have c := core_reachable h
  have hex : s.exited = 0 := c.exz (c.open_at_send hpc).1
  have hpop := c.pop
  have hfl : ∀ a b c : Nat, a + 1 + b + c = a + b + c + 1 := by omega
  by_cases hidle : 0 < s.idle
  · exact ⟨[.tick], _, by decide, by decide, run_cons (.tick hpc hidle), rfl, rfl, hfl _ _ _⟩
  by_cases hst : 0 < s.starting
  · exact ⟨[.ready, .tick], _, by decide, by decide,
      (run_cons (.ready hst)).trans (run_cons (.tick hpc (Nat.succ_pos _))), rfl, rfl, hfl _ _ _⟩
  -- nobody idle or starting: all workers are busy, fewer than the maximum exist, so the loop may add one
  unfold inFlight at hfree
  have htry : s.pc = .trySend := by
    rcases hpc with h | h
    · exact h
    · rcases c.blk h with h' | h' <;> omega
  exact ⟨[.spawn, .ready, .tick], _, by decide, by decide,
    (run_cons (.spawn htry (by omega) hns)).trans
      ((run_cons (.ready (Nat.succ_pos _))).trans (run_cons (.tick (.inr rfl) (Nat.succ_pos _)))),
    rfl, rfl, hfl _ _ _⟩

/-- **When all are busy the hit starts as soon as one result has been consumed — and not before**:
with `max` hits in flight the tick cannot be handed over and no worker can be added; right after
one result is taken by the consumer the tick is enabled. -/
theorem saturated_waits_for_one_consumption (h : Reachable w m d s) (hpc : s.pc = .trySend ∨ s.pc = .blockSend)
    (hsat : inFlight s = s.maxW) :
    step s .tick = none ∧ step s .spawn = none ∧
    ∀ i s', step s (.deliver i) = some s' → (∃ s'', step s' .tick = some s'') := by
  have c := core_reachable h
  have hex : s.exited = 0 := c.exz (c.open_at_send hpc).1
  have hpop := c.pop
  have hmax := c.maxw
  unfold inFlight at hsat
  have hi0 : s.idle = 0 := by omega
  have hblk : s.pc = .blockSend := by
    rcases hpc with h | h
    · have := c.tryS h; omega
    · exact h
  refine ⟨by simp [step, hi0], by simp [step, hblk], fun i s' hd => ?_⟩
  cases step_rule hd with
  | deliverClosed hi hph hrc => cases (c.open_of_sending hi hph).symm.trans hrc
  | deliver _ _ _ => exact ⟨_, step_iff.mpr (.tick (.inr hblk) (Nat.succ_pos _))⟩

/-- **What the conformance check adds for C03**: in every trace the acceptor accepts, the number of
requests observed inside the transport never exceeds max-workers at any recorded point. -/
theorem accepted_trace_respects_cap (workers maxW : Nat) (o0 : Obs) (tr : List (Cmd × CmdObs × Obs))
    (h : acceptRun workers maxW o0 tr = none) : ∀ x ∈ tr, x.2.2.inTransport.length ≤ maxW := by
  intro x hx
  obtain ⟨s, sc, hr, ho⟩ := (acceptRun_explained workers maxW o0 tr h).2 x hx
  rw [← ho]
  simp only [obsOf, sortNat_length, List.length_map, ← List.countP_eq_length_filter]
  exact aux_hitting_le_max hr _ fun a ha => by simp at ha; exact ha.1.1

/-! non-vacuity -/
example : (run (init 0 1 0) [.paceWait 0, .wake]).map (fun s => (s.pc, inFlight s, s.maxW, s.stopClosed))
    = some (.trySend, 0, 1, false) := by decide

example : (run (init 1 1 0) [.ready, .paceWait 0, .wake, .tick, .paceWait 0, .wake]).map
    (fun s => (s.pc, inFlight s, s.maxW)) = some (.blockSend, 1, 1) := by decide

/-! #### source facts (binding): the clamp and the growth guard -/

/-- Before the first worker starts, `workers` is the configured initial count clamped to max-workers
(`workers := a.workers`; `if workers > a.maxWorkers { workers = a.maxWorkers }`) — `init`'s
`if workers > maxW then maxW else workers` — and nothing else touches it or the WaitGroup there. -/
theorem facts_attack_initial_clamp : Vegeta.Extracted.attackWorkersPrelude =
    [[119, 111, 114, 107, 101, 114, 115, 32, 58, 61, 32, 97, 46, 119, 111, 114, 107, 101, 114, 115],  -- workers := a.workers
     [105, 102, 32, 119, 111, 114, 107, 101, 114, 115, 32, 62, 32, 97, 46, 109, 97, 120, 87, 111, 114, 107, 101, 114, 115, 32, 123, 32, 119, 111, 114, 107, 101, 114, 115, 32, 61, 32, 97, 46, 109, 97, 120, 87, 111, 114, 107, 101, 114, 115, 32, 125]] := rfl  -- if workers > a.maxWorkers { workers = a.maxWorkers }

/-- The pool grows only under `workers < a.maxWorkers` (`workers < maxWorkers`), the guard of the model's
`trySend`/`spawn`. -/
theorem facts_attack_spawn_guard : Vegeta.Extracted.attackSpawnGuard =
    [119, 111, 114, 107, 101, 114, 115, 32, 60, 32, 109, 97, 120, 87, 111, 114, 107, 101, 114, 115] := rfl  -- workers < maxWorkers

end Vegeta.Props.C03
