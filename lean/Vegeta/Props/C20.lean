/-
C20 — Prometheus metrics equal the sums over observed results.

`Observe` folds every result into four label-keyed tables by `upsert`. One lemma (`aux_fold_upsert`) says what such a
fold leaves under a key: the fold of the updates of exactly the steps with that key. Each vector is an instance:
counters are sums, a histogram child is `childAfter` of the observed seconds, whose cumulative buckets count the values
`≤` each bound because `findBucket` and `F64.le` agree on finite increasing bounds. Order independence follows from
these closed forms. Then the attack command's glue (attack.go `processAttack`, an invariant over its events),
independent `Metrics` instances, and `Register`.
-/
import Vegeta.Model.Prom
import Vegeta.Proofs.F64Order
namespace Vegeta.Props.C20
open Vegeta.Go Vegeta.Model Vegeta.Model.Prom

/-! ## The scrape after observing results (lib/prom/prom.go `Observe`) -/

/-! ### a fold of `upsert` steps -/

theorem aux_lookup_upsert_same {κ ν : Type} [DecidableEq κ] (k : κ) (f : ν → ν) (d : ν) (l : List (κ × ν)) :
    lookup k (upsert k f d l) = some (f ((lookup k l).getD d)) := by
  induction l with
  | nil => simp [upsert, lookup]
  | cons p t ih =>
    obtain ⟨k', v⟩ := p
    simp only [upsert, lookup]
    by_cases h : k' = k
    · simp [h, lookup]
    · simp [h, lookup, ih]

theorem aux_lookup_upsert_other {κ ν : Type} [DecidableEq κ] (k k' : κ) (f : ν → ν) (d : ν) (l : List (κ × ν))
    (hne : k ≠ k') : lookup k' (upsert k f d l) = lookup k' l := by
  induction l with
  | nil => simp [upsert, lookup, hne]
  | cons p t ih =>
    obtain ⟨k'', v⟩ := p
    simp only [upsert, lookup]
    by_cases h : k'' = k
    · subst h; simp [lookup, hne]
    · by_cases h2 : k'' = k'
      · subst h2; simp [h, lookup]
      · simp [h, h2, lookup, ih]

/-- After a fold of steps `upsert (key r) (g r) d` (`WithLabelValues(key r)`, then the update), the child of `k`
exists iff some step had key `k`, and its value is the fold of exactly those steps' updates, in order, starting
from the default. -/
theorem aux_fold_upsert {ρ κ ν : Type} [DecidableEq κ] (key : ρ → κ) (g : ρ → ν → ν) (d : ν) (k : κ) (rs : List ρ) :
    ∀ l : List (κ × ν),
    lookup k (rs.foldl (fun l r => upsert (key r) (g r) d l) l) =
      if rs.filter (fun r => key r = k) = [] then lookup k l
      else some ((rs.filter (fun r => key r = k)).foldl (fun v r => g r v) ((lookup k l).getD d)) := by
  induction rs with
  | nil => intro l; simp
  | cons r t ih =>
    intro l
    simp only [List.foldl_cons]
    rw [ih]
    by_cases h : key r = k
    · subst h
      simp only [List.filter_cons, decide_true, ↓reduceIte, aux_lookup_upsert_same, Option.getD_some, List.foldl_cons]
      split
      · rename_i h0; simp [h0]
      · simp
    · simp only [List.filter_cons, h, decide_false, Bool.false_eq_true, ↓reduceIte, aux_lookup_upsert_other _ _ _ _ _ h]

/-! ### the bytes counters -/

theorem aux_observe_field {β : Type} (π : State → β) (g : β → Result → β) (hstep : ∀ s r, π (observe s r) = g (π s) r)
    (rs : List Result) : ∀ s : State, π (observeAll s rs) = rs.foldl g (π s) := by
  induction rs with
  | nil => intro s; rfl
  | cons r t ih => intro s; simp only [observeAll, List.foldl_cons] at ih ⊢; rw [ih, hstep]

/-- the results carrying the label values `k`, in order of observation -/
def matching (k : Labels) (rs : List Result) : List Result := rs.filter (fun r => labelsOf r = k)

theorem aux_matching_append (k : Labels) (a b : List Result) : matching k (a ++ b) = matching k a ++ matching k b := by
  simp [matching]

def sumNat : List Nat → Nat
  | [] => 0
  | x :: xs => x + sumNat xs

theorem aux_sumNat_eq (l : List Nat) : sumNat l = l.sum := by
  induction l with
  | nil => rfl
  | cons x t ih => rw [sumNat, ih, List.sum_cons]

theorem aux_sumNat_perm {l1 l2 : List Nat} (h : l1.Perm l2) : sumNat l1 = sumNat l2 := by
  rw [aux_sumNat_eq, aux_sumNat_eq, h.sum_nat]

theorem aux_sumNat_append (a b : List Nat) : sumNat (a ++ b) = sumNat a + sumNat b := by
  rw [aux_sumNat_eq, aux_sumNat_eq, aux_sumNat_eq, List.sum_append_nat]

theorem aux_foldl_add (f : Result → Nat) (rs : List Result) : ∀ v0 : Nat,
    rs.foldl (fun v r => v + f r) v0 = v0 + sumNat (rs.map f) := by
  induction rs with
  | nil => intro v0; simp [sumNat]
  | cons r t ih => intro v0; simp only [List.foldl_cons, List.map_cons, sumNat, ih]; omega

theorem aux_counter (π : State → List (Labels × Nat)) (f : Result → Nat) (h0 : π State.init = [])
    (hstep : ∀ s r, π (observe s r) = upsert (labelsOf r) (fun v => v + f r) 0 (π s)) (rs : List Result) (k : Labels) :
    lookup k (π (observeAll State.init rs)) =
      if matching k rs = [] then none else some (sumNat ((matching k rs).map f)) := by
  rw [aux_observe_field π (fun l r => upsert (labelsOf r) (fun v => v + f r) 0 l) hstep,
    aux_fold_upsert labelsOf (fun r v => v + f r) 0 k rs]
  simp only [matching, h0, lookup, Option.getD_none, aux_foldl_add, Nat.zero_add]
  rfl

/-- **Bytes counters are sums per label set**: after observing any sequence, the bytes-in / bytes-out
counter of a (method, url, status) label set exists iff a result with these labels was observed, and
its value is the sum of `BytesIn` / `BytesOut` over exactly those results. -/
theorem bytes_counters_are_sums (rs : List Result) (k : Labels) :
    lookup k (observeAll State.init rs).bytesIn =
      (if matching k rs = [] then none else some (sumNat ((matching k rs).map (·.bytesIn)))) ∧
    lookup k (observeAll State.init rs).bytesOut =
      (if matching k rs = [] then none else some (sumNat ((matching k rs).map (·.bytesOut)))) :=
  ⟨aux_counter (·.bytesIn) (·.bytesIn) rfl (fun _ _ => rfl) rs k,
    aux_counter (·.bytesOut) (·.bytesOut) rfl (fun _ _ => rfl) rs k⟩

/-! ### histogram children: count and sum -/

/-- the histogram child after observing the values `vs`, starting from `c` -/
def childAfter (c : HistChild) (vs : List F64) : HistChild := vs.foldl (fun c v => observeChild v c) c

theorem aux_child_count (vs : List F64) : ∀ c, (childAfter c vs).count = c.count + vs.length := by
  induction vs with
  | nil => intro c; rfl
  | cons v t ih => intro c; simp only [childAfter, List.foldl_cons, List.length_cons] at ih ⊢; rw [ih]; simp only [observeChild]; omega

theorem aux_child_sum (vs : List F64) : ∀ c, (childAfter c vs).sum = vs.foldl F64.add c.sum := by
  induction vs with
  | nil => intro c; rfl
  | cons v t ih => intro c; simp only [childAfter, List.foldl_cons] at ih ⊢; rw [ih]; rfl

theorem aux_child_of_results (rs : List Result) : ∀ c,
    rs.foldl (fun v r => observeChild (Metrics.seconds r.latency) v) c =
      childAfter c (rs.map (fun r => Metrics.seconds r.latency)) := by
  induction rs with
  | nil => intro c; rfl
  | cons r t ih => intro c; simp only [List.foldl_cons, List.map_cons, childAfter] at ih ⊢; rw [ih]

/-- the observed values (`Latency.Seconds()`) of the results with labels `k` -/
def secondsOf (k : Labels) (rs : List Result) : List F64 := (matching k rs).map (fun r => Metrics.seconds r.latency)

theorem aux_hist_child (rs : List Result) (k : Labels) :
    lookup k (observeAll State.init rs).hist =
      if matching k rs = [] then none else some (childAfter HistChild.empty (secondsOf k rs)) := by
  rw [aux_observe_field (·.hist) (fun l r => upsert (labelsOf r) (observeChild (Metrics.seconds r.latency)) HistChild.empty l) (fun _ _ => rfl), aux_fold_upsert labelsOf (fun r c => observeChild (Metrics.seconds r.latency) c) HistChild.empty k rs]
  simp only [matching, State.init, lookup, Option.getD_none, aux_child_of_results, secondsOf]
  rfl

/-- **Histogram count and sum per label set**: the latency histogram of a label set exists iff a result with
these labels was observed; its sample count is the number of those results and its sum is the binary64 sum
of their `Latency.Seconds()` values, added in order of observation starting from 0. -/
theorem hist_count_and_sum (rs : List Result) (k : Labels) :
    (matching k rs = [] → lookup k (observeAll State.init rs).hist = none) ∧
    (matching k rs ≠ [] → ∃ c, lookup k (observeAll State.init rs).hist = some c ∧
      c.count = (matching k rs).length ∧ c.sum = (secondsOf k rs).foldl F64.add F64.posZero) := by
  rw [aux_hist_child]
  constructor
  · intro h; simp [h]
  · intro h
    refine ⟨childAfter HistChild.empty (secondsOf k rs), by simp [h], ?_, ?_⟩
    · rw [aux_child_count]; simp [HistChild.empty, secondsOf]
    · rw [aux_child_sum]; rfl

/-! ### cumulative buckets -/

theorem aux_cum_shift (xs : List Nat) : ∀ (a d j : Nat),
    (cumulative (a + d) xs)[j]? = ((cumulative a xs)[j]?).map (· + d) := by
  induction xs with
  | nil => intro a d j; simp [cumulative]
  | cons x t ih =>
    intro a d j
    cases j with
    | zero => simp [cumulative]; omega
    | succ j =>
      simp only [cumulative, List.getElem?_cons_succ]
      have : a + d + x = (a + x) + d := by omega
      rw [this, ih]

theorem aux_cum_bump (xs : List Nat) : ∀ (a i j : Nat),
    (cumulative a (bumpAt xs i))[j]? = ((cumulative a xs)[j]?).map (fun v => if i ≤ j then v + 1 else v) := by
  induction xs with
  | nil => intro a i j; simp [bumpAt, cumulative]
  | cons x t ih =>
    intro a i j
    cases i with
    | zero =>
      cases j with
      | zero => simp [bumpAt, cumulative]; omega
      | succ j =>
        simp only [bumpAt, cumulative, List.getElem?_cons_succ, Nat.zero_le, ↓reduceIte]
        have : a + (x + 1) = (a + x) + 1 := by omega
        rw [this, aux_cum_shift]
    | succ i =>
      cases j with
      | zero => simp [bumpAt, cumulative]
      | succ j =>
        simp only [bumpAt, cumulative, List.getElem?_cons_succ, ih, Nat.add_le_add_iff_right]

theorem aux_cum_replicate (n : Nat) : ∀ (a j : Nat),
    (cumulative a (List.replicate n 0))[j]? = if j < n then some a else none := by
  induction n with
  | zero => intro a j; simp [cumulative]
  | succ n ih =>
    intro a j
    cases j with
    | zero => simp [List.replicate, cumulative]
    | succ j => simp only [List.replicate, cumulative, List.getElem?_cons_succ, Nat.add_zero, ih, Nat.add_lt_add_iff_right]

theorem aux_bumpAt_length (xs : List Nat) (i : Nat) : (bumpAt xs i).length = xs.length := by
  induction xs generalizing i with
  | nil => rfl
  | cons x t ih => cases i <;> simp [bumpAt, ih]

theorem aux_cum_length (xs : List Nat) (a : Nat) : (cumulative a xs).length = xs.length := by
  induction xs generalizing a with
  | nil => rfl
  | cons x t ih => simp [cumulative, ih]

theorem aux_child_buckets_length (vs : List F64) : ∀ c, (childAfter c vs).buckets.length = c.buckets.length := by
  induction vs with
  | nil => intro c; rfl
  | cons v t ih =>
    intro c; simp only [childAfter, List.foldl_cons] at ih ⊢; rw [ih]; simp [observeChild, aux_bumpAt_length]

theorem aux_child_buckets (vs : List F64) : ∀ (c : HistChild) (j : Nat),
    (cumulative 0 (childAfter c vs).buckets)[j]? =
      ((cumulative 0 c.buckets)[j]?).map (· + vs.countP (fun v => findBucket defBuckets v ≤ j)) := by
  induction vs with
  | nil => intro c j; simp [childAfter]
  | cons v t ih =>
    intro c j
    simp only [childAfter, List.foldl_cons] at ih ⊢
    rw [ih (observeChild v c) j]
    simp only [observeChild, aux_cum_bump, Option.map_map, List.countP_cons]
    congr 1
    funext x
    simp only [Function.comp, decide_eq_true_eq]
    split <;> omega

/-- the bounds are finite and increasing -/
def chainB : List F64 → Bool
  | [] => true
  | [b] => b.isFinite
  | a :: b :: t => a.isFinite && F64.le a b && chainB (b :: t)

theorem aux_chain_head (b : F64) (t : List F64) (h : chainB (b :: t) = true) : b.isFinite = true := by
  cases t with
  | nil => simpa [chainB] using h
  | cons b' t' => simp [chainB] at h; exact h.1.1

/-- For finite increasing bounds the bucket index found by the scan is `≤ j` exactly when the value is
`≤` the `j`-th bound: the cumulative bucket `le = bound_j` counts the values `≤ bound_j`. -/
theorem aux_findBucket_le (bs : List F64) (v : F64) : chainB bs = true → ∀ (j : Nat) (b : F64), bs[j]? = some b →
    (findBucket bs v ≤ j ↔ F64.le v b = true) := by
  induction bs with
  | nil => intro _ j b h; simp at h
  | cons b0 t ih =>
    intro hc j b hb
    cases j with
    | zero =>
      simp only [List.getElem?_cons_zero, Option.some.injEq] at hb
      subst hb
      simp only [findBucket]
      split <;> simp [*]
    | succ j =>
      simp only [List.getElem?_cons_succ] at hb
      cases t with
      | nil => simp at hb
      | cons b1 t' =>
        have hc' : b0.isFinite = true ∧ F64.le b0 b1 = true ∧ chainB (b1 :: t') = true := by
          simp [chainB] at hc; exact ⟨hc.1.1, hc.1.2, hc.2⟩
        have hb1 := aux_chain_head b1 t' hc'.2.2
        have ih' := ih hc'.2.2 j b hb
        simp only [findBucket]
        split
        · rename_i h
          have h1 : F64.le v b1 = true := Vegeta.Proofs.F64Order.le_mono_right v b0 b1 hc'.1 hb1 hc'.2.1 h
          have h0 : findBucket (b1 :: t') v = 0 := by simp [findBucket, h1]
          have := ih'.mp (by rw [h0]; omega)
          simp [this]
        · rename_i h
          rw [← ih']
          simp only [findBucket]
          omega

theorem aux_defBuckets_chain : chainB defBuckets = true := by decide +kernel

/-- **Cumulative buckets are consistent with the individual latencies**: for every label set with at least one
observed result, the histogram child has one cumulative bucket per bound of `prometheus.DefBuckets` (`defBuckets`,
eleven bounds), and the cumulative
count of the bucket with upper bound `b` is the number of those results whose `Latency.Seconds()` (binary64)
is `≤ b`; each is at most the sample count. -/
theorem buckets_cumulative_consistent (rs : List Result) (k : Labels) (hne : matching k rs ≠ []) :
    ∃ c, lookup k (observeAll State.init rs).hist = some c ∧
      (cumulative 0 c.buckets).length = defBuckets.length ∧
      ∀ (j : Nat) (b : F64), defBuckets[j]? = some b →
        (cumulative 0 c.buckets)[j]? = some ((secondsOf k rs).countP (fun v => F64.le v b)) ∧
        (secondsOf k rs).countP (fun v => F64.le v b) ≤ c.count := by
  refine ⟨childAfter HistChild.empty (secondsOf k rs), by rw [aux_hist_child]; simp [hne], ?_, ?_⟩
  · rw [aux_cum_length, aux_child_buckets_length]; simp [HistChild.empty]
  · intro j b hb
    obtain ⟨hj, _⟩ := List.getElem?_eq_some_iff.mp hb
    constructor
    · rw [aux_child_buckets]
      simp only [HistChild.empty, aux_cum_replicate, hj, ↓reduceIte, Option.map_some, Nat.zero_add]
      congr 1
      apply List.countP_congr
      intro v _
      simp only [decide_eq_true_eq]
      exact aux_findBucket_le defBuckets v aux_defBuckets_chain j b hb
    · rw [aux_child_count]
      have := List.countP_le_length (p := fun v => F64.le v b) (l := secondsOf k rs)
      simp only [HistChild.empty]; omega

/-! ### the failure counter -/

/-- the failed results (non-empty error) with labels `k` and error text `msg` -/
def failing (k : Labels) (msg : Bytes) (rs : List Result) : List Result :=
  rs.filter (fun r => labelsOf r = k ∧ r.error = msg ∧ r.error ≠ [])

theorem aux_fail_fold (rs : List Result) : ∀ s : State, (observeAll s rs).fail =
    (rs.filter (fun r => r.error ≠ [])).foldl (fun l r => upsert (labelsOf r, r.error) (· + 1) 0 l) s.fail := by
  induction rs with
  | nil => intro s; rfl
  | cons r t ih =>
    intro s
    simp only [observeAll, List.foldl_cons] at ih ⊢
    rw [ih]
    by_cases h : r.error = [] <;> simp [observe, h]

theorem aux_foldl_inc (rs : List Result) (v0 : Nat) : rs.foldl (fun v _ => v + 1) v0 = v0 + rs.length := by
  induction rs generalizing v0 with
  | nil => rfl
  | cons r t ih => simp only [List.foldl_cons, List.length_cons, ih]; omega

theorem aux_failing_filter (rs : List Result) (k : Labels) (msg : Bytes) :
    (rs.filter (fun r => r.error ≠ [])).filter (fun r => (labelsOf r, r.error) = (k, msg)) = failing k msg rs := by
  simp only [failing, List.filter_filter]
  apply List.filter_congr
  intro r _
  simp only [Prod.mk.injEq, ne_eq, decide_not, Bool.decide_and]
  by_cases h1 : labelsOf r = k <;> by_cases h2 : r.error = msg <;> by_cases h3 : r.error = [] <;> simp [h1, h2, h3]

/-- **The failure counter counts the failed results**: the failure counter of a (method, url, status, message)
label set exists iff a result with these labels, this error text and a non-empty error was observed, and its
value is the number of those results. -/
theorem fail_counter_counts_errors (rs : List Result) (k : Labels) (msg : Bytes) :
    lookup (k, msg) (observeAll State.init rs).fail =
      if failing k msg rs = [] then none else some (failing k msg rs).length := by
  rw [aux_fail_fold, aux_fold_upsert (fun r => (labelsOf r, r.error)) (fun _ v => v + 1) 0 (k, msg), aux_failing_filter]
  simp only [State.init, lookup, Option.getD_none, aux_foldl_inc, Nat.zero_add]

/-- No failure counter with an empty message exists: results without an error create none. -/
theorem fail_counter_only_errors (rs : List Result) (k : Labels) :
    lookup (k, []) (observeAll State.init rs).fail = none := by
  rw [fail_counter_counts_errors]
  have : failing k [] rs = [] := by
    simp only [failing, List.filter_eq_nil_iff]
    intro r _; simp only [ne_eq, decide_eq_true_eq]; intro h; exact h.2.2 h.2.1
  simp [this]

/-! #### before the fix (DESIGN §8 #14) -/

/-- the failure-counter step of `Observe` before commit "fix: prometheus failure counter is incremented…":
`pm.requestFailCounter.WithLabelValues(…, res.Error)` — the child is created, nothing is added. -/
def observeFailOld (fail : List ((Labels × Bytes) × Nat)) (r : Result) : List ((Labels × Bytes) × Nat) :=
  if r.error ≠ [] then upsert (labelsOf r, r.error) (fun v => v) 0 fail else fail

/-- One failed result (`GET http://h/` → 500, error "x"): the old code showed 0, the property requires 1 — and
the repaired code shows 1. -/
theorem fail_counter_old_counterexample :
    let r : Result := { method := [71, 69, 84], url := [104, 116, 116, 112, 58, 47, 47, 104, 47], code := 500,
                        bytesIn := 0, bytesOut := 0, latency := 1000000, error := [120] }
    (failing (labelsOf r) r.error [r]).length = 1 ∧
    lookup (labelsOf r, r.error) ([r].foldl observeFailOld []) = some 0 ∧
    lookup (labelsOf r, r.error) (observeAll State.init [r]).fail = some 1 := by
  decide

/-! ### order independence (concurrent observation = some sequential order) -/

theorem aux_perm_nil_iff {α : Type} {l1 l2 : List α} (h : l1.Perm l2) : l1 = [] ↔ l2 = [] := by
  constructor
  · intro e; subst e; exact h.nil_eq.symm
  · intro e; subst e; exact h.eq_nil

/-- what a scrape shows of a histogram child apart from the float sum: sample count and cumulative buckets -/
def countsOf (c : HistChild) : Nat × List Nat := (c.count, cumulative 0 c.buckets)

theorem aux_countsOf_perm {vs1 vs2 : List F64} (h : vs1.Perm vs2) (c : HistChild) :
    countsOf (childAfter c vs1) = countsOf (childAfter c vs2) := by
  simp only [countsOf, aux_child_count, h.length_eq, Prod.mk.injEq, true_and]
  apply List.ext_getElem?
  intro j
  rw [aux_child_buckets, aux_child_buckets, h.countP_eq]

/-- **The scrape does not depend on the order of observation** (so observing from concurrent goroutines,
whose atomic updates take effect in *some* order, shows the same values as any sequential order): for any
permutation of the sequence every bytes counter, every failure counter and every histogram's sample count
and cumulative bucket counts are the same. (The histogram's binary64 sum depends on the order of the
additions in its last bits only; it is compared numerically by the harness.) -/
theorem observe_order_independent (rs1 rs2 : List Result) (h : rs1.Perm rs2) (k : Labels) :
    lookup k (observeAll State.init rs1).bytesIn = lookup k (observeAll State.init rs2).bytesIn ∧
    lookup k (observeAll State.init rs1).bytesOut = lookup k (observeAll State.init rs2).bytesOut ∧
    (∀ msg, lookup (k, msg) (observeAll State.init rs1).fail = lookup (k, msg) (observeAll State.init rs2).fail) ∧
    (lookup k (observeAll State.init rs1).hist).map countsOf = (lookup k (observeAll State.init rs2).hist).map countsOf := by
  have hm : (matching k rs1).Perm (matching k rs2) := h.filter _
  have hnil := aux_perm_nil_iff hm
  refine ⟨?_, ?_, ?_, ?_⟩
  · rw [(bytes_counters_are_sums rs1 k).1, (bytes_counters_are_sums rs2 k).1, aux_sumNat_perm (hm.map _)]
    simp only [hnil]
  · rw [(bytes_counters_are_sums rs1 k).2, (bytes_counters_are_sums rs2 k).2, aux_sumNat_perm (hm.map _)]
    simp only [hnil]
  · intro msg
    have hf : (failing k msg rs1).Perm (failing k msg rs2) := h.filter _
    rw [fail_counter_counts_errors, fail_counter_counts_errors, hf.length_eq]
    simp only [aux_perm_nil_iff hf]
  · rw [aux_hist_child, aux_hist_child]
    simp only [hnil]
    split
    · rfl
    · rw [Option.map_some, aux_countsOf_perm (vs1 := secondsOf k rs1) (vs2 := secondsOf k rs2) (hm.map _)]; rfl

/-! ### non-vacuity -/

def sample : List Result :=
  [⟨[71], [97], 200, 10, 20, 5000000, []⟩, ⟨[71], [97], 500, 1, 2, 5000001, [120]⟩, ⟨[71], [97], 200, 3, 4, 2500000000, []⟩,
   ⟨[71], [97], 500, 0, 0, 0, [120]⟩]

example : matching ⟨[71], [97], 200⟩ sample ≠ [] := by decide

example : lookup ⟨[71], [97], 200⟩ (observeAll State.init sample).bytesIn = some 13 ∧
    (lookup ⟨[71], [97], 200⟩ (observeAll State.init sample).hist).map countsOf = some (2, [1, 1, 1, 1, 1, 1, 1, 1, 2, 2, 2]) ∧
    (failing ⟨[71], [97], 500⟩ [120] sample).length = 2 ∧
    lookup (⟨[71], [97], 500⟩, [120]) (observeAll State.init sample).fail = some 2 := by decide +kernel

/-! ## The attack command's glue (attack.go `processAttack`) -/

theorem aux_observeAll_snoc (s : State) (rs : List Result) (r : Result) :
    observeAll s (rs ++ [r]) = observe (observeAll s rs) r := by
  simp [observeAll, List.foldl_append]

/-- invariant of `processAttack`: the metrics hold exactly the encoded results, plus the one result whose
`Encode` failed (it was observed before the failing `Encode`; the function then returned the error) -/
def PumpInv (st0 : State) (s : Pump) : Prop :=
  ∃ extra : List Result, s.pm = some (observeAll st0 (s.encoded ++ extra)) ∧
    (extra ≠ [] → s.ret = .retErr) ∧ extra.length ≤ 1

theorem aux_pumpStep_inv (st0 : State) (s : Pump) (e : PEv) (h : PumpInv st0 s) : PumpInv st0 (pumpStep s e) := by
  unfold pumpStep
  split
  · exact h
  · rename_i hrun
    have hrun' : s.ret = .running := by simpa using hrun
    obtain ⟨extra, hpm, hext, hlen⟩ := h
    have hnil : extra = [] := Classical.byContradiction fun he => by
      have := hext he; rw [hrun'] at this; cases this
    subst hnil
    simp only [List.append_nil] at hpm
    cases e with
    | signal =>
      simp only []
      split
      · exact ⟨[], by simpa using hpm, by simp, by simp⟩
      · exact ⟨[], by simpa using hpm, by simp, by simp⟩
    | closed => exact ⟨[], by simpa using hpm, by simp, by simp⟩
    | result r encOk =>
      simp only []
      split
      · exact ⟨[], by simp [hpm, aux_observeAll_snoc], by simp, by simp⟩
      · exact ⟨[r], by simp [hpm, aux_observeAll_snoc], by simp, by simp⟩

theorem aux_pumpRun_inv (st0 : State) (evs : List PEv) : ∀ s, PumpInv st0 s → PumpInv st0 (evs.foldl pumpStep s) := by
  induction evs with
  | nil => intro s h; exact h
  | cons e t ih => intro s h; exact ih _ (aux_pumpStep_inv st0 s e h)

/-- **Every result in the encoder's output has been observed** — after every prefix of events of
`processAttack` (signals, results with succeeding or failing `Encode`, the channel closing, in any order and
number), the metrics are exactly the observation of the written results, in order, plus at most the one result
whose `Encode` failed and made the function return that error. Results that arrive after the first signal are
no exception. -/
theorem pump_output_is_observed (st0 : State) (evs : List PEv) :
    ∃ extra : List Result, (pumpRun (some st0) evs).pm = some (observeAll st0 ((pumpRun (some st0) evs).encoded ++ extra)) ∧
      (extra ≠ [] → (pumpRun (some st0) evs).ret = .retErr) ∧ extra.length ≤ 1 :=
  aux_pumpRun_inv st0 evs (Pump.start (some st0)) ⟨[], by simp [Pump.start, observeAll], by simp, by simp⟩

/-- **The scrape equals the sums over the output** whenever no `Encode` has failed — during the attack, after
the first signal while in-flight results drain, and when the attack has ended: with fresh metrics the state is
`observeAll State.init encoded`, so every theorem of this file applies to the written results. -/
theorem pump_scrape_eq_output (evs : List PEv) (h : (pumpRun (some State.init) evs).ret ≠ .retErr) :
    (pumpRun (some State.init) evs).pm = some (observeAll State.init (pumpRun (some State.init) evs).encoded) := by
  obtain ⟨extra, hpm, hext, _⟩ := pump_output_is_observed State.init evs
  have : extra = [] := Classical.byContradiction fun he => h (hext he)
  subst this
  simpa using hpm

/-- **A scrape never falls short of the output file**: at every moment, for every label set with a written
result, the bytes counters are at least the sums over the written results and the histogram has at least as
many samples as there are written results (they exceed them only by the one result of a failed `Encode`). -/
theorem pump_scrape_covers_output (evs : List PEv) (k : Labels)
    (hne : matching k (pumpRun (some State.init) evs).encoded ≠ []) :
    ∃ st, (pumpRun (some State.init) evs).pm = some st ∧
      (∃ v, lookup k st.bytesIn = some v ∧ sumNat ((matching k (pumpRun (some State.init) evs).encoded).map (·.bytesIn)) ≤ v) ∧
      (∃ v, lookup k st.bytesOut = some v ∧ sumNat ((matching k (pumpRun (some State.init) evs).encoded).map (·.bytesOut)) ≤ v) ∧
      (∃ c, lookup k st.hist = some c ∧ (matching k (pumpRun (some State.init) evs).encoded).length ≤ c.count) := by
  obtain ⟨extra, hpm, _, _⟩ := pump_output_is_observed State.init evs
  generalize (pumpRun (some State.init) evs).encoded = enc at hne hpm ⊢
  have hne' : matching k (enc ++ extra) ≠ [] := by
    rw [aux_matching_append]; intro h; exact hne (List.append_eq_nil_iff.mp h).1
  refine ⟨_, hpm, ?_, ?_, ?_⟩
  · refine ⟨sumNat ((matching k (enc ++ extra)).map (·.bytesIn)), by rw [(bytes_counters_are_sums _ k).1]; simp [hne'], ?_⟩
    rw [aux_matching_append, List.map_append, aux_sumNat_append]; omega
  · refine ⟨sumNat ((matching k (enc ++ extra)).map (·.bytesOut)), by rw [(bytes_counters_are_sums _ k).2]; simp [hne'], ?_⟩
    rw [aux_matching_append, List.map_append, aux_sumNat_append]; omega
  · obtain ⟨c, hc, hcount, _⟩ := (hist_count_and_sum (enc ++ extra) k).2 hne'
    refine ⟨c, hc, ?_⟩
    rw [hcount, aux_matching_append, List.length_append]; omega

/-- Without `-prometheus-addr` (`pm == nil`) nothing is observed: the metrics stay `nil`. -/
theorem pump_without_metrics (evs : List PEv) : (pumpRun none evs).pm = none := by
  have : ∀ s : Pump, s.pm = none → (evs.foldl pumpStep s).pm = none := by
    induction evs with
    | nil => intro s h; exact h
    | cons e t ih =>
      intro s h
      apply ih
      unfold pumpStep
      split
      · exact h
      · cases e with
        | signal => simp only []; split <;> exact h
        | closed => exact h
        | result r ok => simp only []; split <;> simp [h]
  exact this _ rfl

example : (pumpRun (some State.init)
    [.result ⟨[71], [97], 200, 1, 2, 5, []⟩ true, .signal, .result ⟨[71], [97], 500, 3, 4, 6, [120]⟩ true, .closed]).encoded.length = 2 ∧
    (pumpRun (some State.init)
    [.result ⟨[71], [97], 200, 1, 2, 5, []⟩ true, .signal, .result ⟨[71], [97], 500, 3, 4, 6, [120]⟩ true, .closed]).ret = .retNil := by
  decide +kernel

/-! ## Independent `Metrics` instances -/

theorem aux_modifyAt_eq {α : Type} (f : α → α) (l : List α) (i : Nat) : modifyAt f l i = l.modify i f := by
  induction l generalizing i with
  | nil => simp [modifyAt]
  | cons x t ih => cases i <;> simp [modifyAt, ih]

/-- **Two `Metrics` instances are independent**: observing into one instance leaves the tables of every
other instance unchanged, and creating a new instance changes none of the existing ones. -/
theorem instances_independent (w : List State) (i j : Nat) (r : Result) (h : i ≠ j) :
    (worldStep w (.observe i r))[j]? = w[j]? ∧ (j < w.length → (worldStep w .new)[j]? = w[j]?) := by
  refine ⟨by rw [worldStep, aux_modifyAt_eq, List.getElem?_modify_ne _ _ h], ?_⟩
  intro hj
  simp only [worldStep]
  rw [List.getElem?_append_left hj]

/-- the results observed into instance `j`, given that `n` instances exist already -/
def directedTo (j : Nat) : Nat → List WOp → List Result
  | _, [] => []
  | n, .new :: ops => directedTo j (n + 1) ops
  | n, .observe i r :: ops => if i = j ∧ j < n then r :: directedTo j n ops else directedTo j n ops

def newCount : List WOp → Nat
  | [] => 0
  | .new :: ops => newCount ops + 1
  | .observe _ _ :: ops => newCount ops

theorem aux_world (j : Nat) (ops : List WOp) : ∀ w : List State,
    (ops.foldl worldStep w)[j]? =
      if j < w.length then (w[j]?).map (fun st => observeAll st (directedTo j w.length ops))
      else if j < w.length + newCount ops then some (observeAll State.init (directedTo j w.length ops)) else none := by
  induction ops with
  | nil =>
    intro w
    simp only [List.foldl_nil, directedTo, observeAll, newCount, Nat.add_zero]
    by_cases h : j < w.length <;> simp [h]
  | cons op t ih =>
    intro w
    simp only [List.foldl_cons]
    rw [ih]
    cases op with
    | new =>
      simp only [worldStep, List.length_append, List.length_singleton, directedTo, newCount]
      by_cases h : j < w.length
      · have h' : j < w.length + 1 := by omega
        simp only [h, h', ↓reduceIte, List.getElem?_append_left h]
      · by_cases h2 : j = w.length
        · subst h2
          have : w.length < w.length + 1 := by omega
          simp only [this, ↓reduceIte, Nat.lt_irrefl]
          have hh : w.length < w.length + (newCount t + 1) := by omega
          simp [hh, observeAll]
        · have h' : ¬ j < w.length + 1 := by omega
          have e : w.length + 1 + newCount t = w.length + (newCount t + 1) := by omega
          simp only [h, h', ↓reduceIte, e]
          by_cases hc : j < w.length + (newCount t + 1) <;> simp [hc]
    | observe i r =>
      simp only [worldStep, aux_modifyAt_eq, List.length_modify, directedTo, newCount]
      by_cases h : j < w.length
      · by_cases hi : i = j
        · subst hi
          simp [h, observeAll]
        · simp [h, hi]
      · simp [h]

/-- **Every instance shows exactly its own observations**: after any sequence of `NewMetrics()` calls and
`Observe` calls on arbitrary instances, instance `j` exists iff it was created, and its tables are those of
observing — into fresh metrics — exactly the results that were observed into instance `j`, in order. -/
theorem instance_shows_own_results (ops : List WOp) (j : Nat) :
    (worldRun ops)[j]? = if j < newCount ops then some (observeAll State.init (directedTo j 0 ops)) else none := by
  have := aux_world j ops []
  simpa [worldRun] using this

example : (worldRun [.new, .new, .observe 0 ⟨[71], [97], 200, 1, 2, 5, []⟩, .observe 1 ⟨[71], [98], 200, 7, 2, 5, []⟩])[1]? =
    some (observeAll State.init [⟨[71], [98], 200, 7, 2, 5, []⟩]) := by decide +kernel

/-! ## `Register` -/

theorem aux_registerFrom_keeps (i : Nat) (cs : List Nat) : ∀ (reg : Registry) (e : Nat × Nat), e ∈ reg → e ∈ (registerFrom i cs reg).1 := by
  induction cs with
  | nil => intro reg e h; exact h
  | cons c t ih =>
    intro reg e h
    simp only [registerFrom]
    split
    · exact h
    · exact ih _ e (by simp [h])

/-- **`Register` never removes anything from a registry**: whatever it returns, every collector that was
registered before the call still is — in particular a rejected registration of a second instance (or of the
same instance again) leaves the first instance's collectors, and so its exported series, in place. -/
theorem register_keeps_registered (i : Nat) (reg : Registry) (e : Nat × Nat) (h : e ∈ reg) : e ∈ (register i reg).1 :=
  aux_registerFrom_keeps i _ reg e h

theorem aux_whole_any (reg : Registry) (hw : Whole reg) (hne : reg ≠ []) : reg.any (fun e => e.2 == 0) = true := by
  rcases hw with h | h
  · exact absurd h hne
  · obtain ⟨j, hj⟩ := h 0 (by omega)
    exact List.any_eq_true.mpr ⟨(j, 0), hj, by simp⟩

/-- **A rejected `Register` changes nothing** on a registry in the state `Register` leaves behind (empty, or
holding all four collectors): the very first collector is refused and the registry is what it was. -/
theorem rejected_register_changes_nothing (i : Nat) (reg : Registry) (hw : Whole reg)
    (hrej : (register i reg).2 = false) : (register i reg).1 = reg := by
  by_cases hne : reg = []
  · subst hne; simp [register, registerFrom] at hrej
  · simp [register, registerFrom, aux_whole_any reg hw hne]

/-- A registration is rejected exactly when the registry already holds collectors (of any instance). -/
theorem register_rejected_iff (i : Nat) (reg : Registry) (hw : Whole reg) : (register i reg).2 = false ↔ reg ≠ [] := by
  by_cases hne : reg = []
  · subst hne; simp [register, registerFrom]
  · simp [register, registerFrom, aux_whole_any reg hw hne, hne]

theorem aux_whole_four (i : Nat) : Whole [(i, 0), (i, 1), (i, 2), (i, 3)] := by
  refine Or.inr fun c hc => ⟨i, ?_⟩
  have : c = 0 ∨ c = 1 ∨ c = 2 ∨ c = 3 := by omega
  rcases this with rfl | rfl | rfl | rfl <;> simp

/-- On a fresh registry `Register` succeeds and registers the four collectors of that instance. -/
theorem register_fresh (i : Nat) : register i [] = ([(i, 0), (i, 1), (i, 2), (i, 3)], true) := by simp [register, registerFrom]

/-- A whole registry (empty, or holding all four collectors) is whole again after one `Register` call, accepted or
rejected. -/
theorem register_whole (i : Nat) (reg : Registry) (hw : Whole reg) : Whole (register i reg).1 := by
  by_cases hnil : reg = []
  · subst hnil
    rw [register_fresh]; exact aux_whole_four i
  · have hrej := (register_rejected_iff i reg hw).mpr hnil
    rw [rejected_register_changes_nothing i reg hw hrej]; exact hw

example : Whole [(0, 0), (0, 1), (0, 2), (0, 3)] ∧ (register 1 [(0, 0), (0, 1), (0, 2), (0, 3)]).2 = false :=
  ⟨aux_whole_four 0, by decide⟩

end Vegeta.Props.C20
