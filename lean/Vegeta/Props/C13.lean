/-
C13 — Reports over several files equal the report over their union.

The theorems are about `Vegeta.Model.RoundRobin` (the loop of `NewRoundRobinDecoder`, the single-decoder shortcut, and
`drain` = what `report`/`encode` do with the combined decoder). Inputs are well-formed streams: `ofInputs inputs`, one
decoder per input that yields the input's records in order and then `io.EOF` for ever; any number `n ≥ 1` of inputs of
arbitrary lengths (empty ones included).
The `rr_*` theorems hold for every start value `seq` of the rotation counter, provided the `uint64` counter does not
wrap during the calls considered (`seq + n·calls < 2^64`); when `n` divides 2^64 the `…_when_length_divides` forms need
no such condition, and three inputs show that it is needed otherwise. The split theorems (`encode_split_multiset`,
`report_split_invariant`, `report_metrics_split_invariant`, `report_cmd_split_invariant_with_ticks`) start the decoder
as the commands do, at `RR.init` (counter 0), with `n·fuel < 2^64`; the two about the metrics report also assume C10's
`Domain` of the result set. The `report_ticks_invisible*` theorems are about the report loop alone.
-/
import Vegeta.Model.RoundRobin
import Vegeta.Extracted.Facts
import Vegeta.Props.C10
import Vegeta.Model.Commands
namespace Vegeta.Props.C13
open Vegeta.Go Vegeta.Model.RoundRobin Vegeta.Model.Commands

/-- all inputs are exhausted -/
def AllEmpty {α} (rem : List (List α)) : Prop := ∀ l ∈ rem, l = []

theorem aux_len {α} (rem : List (List α)) : (ofInputs rem).length = rem.length := by
  simp [ofInputs]

theorem aux_getD {α} (rem : List (List α)) (i : Nat) :
    (ofInputs rem).getD i [] = ofRecords (rem.getD i []) := by
  simp only [ofInputs, List.getD_eq_getElem?_getD, List.getElem?_map]
  cases rem[i]? <;> simp [ofRecords]

theorem aux_set {α} (rem : List (List α)) (i : Nat) (t : List α) :
    (ofInputs rem).set i (ofRecords t) = ofInputs (rem.set i t) := by
  simp [ofInputs, List.map_set]

theorem aux_set_self {α} (rem : List (List α)) (i : Nat) (h : rem.getD i [] = []) :
    rem.set i [] = rem := by
  by_cases hl : i < rem.length
  · have : rem[i] = [] := by simpa [List.getD_eq_getElem?_getD, hl] using h
    rw [← this, List.set_getElem_self]
  · exact List.set_eq_of_length_le (by omega)

theorem aux_set_nil {α} (rem : List (List α)) (i : Nat) (h : rem.getD i [] = []) :
    (ofInputs rem).set i [] = ofInputs rem := by
  have := aux_set rem i []
  simp only [ofRecords, List.map_nil] at this
  rw [this, aux_set_self rem _ h]

theorem aux_incSeq (seq : Nat) (h : seq + 1 < two64) : incSeq seq = seq + 1 := by
  unfold incSeq; exact Nat.mod_eq_of_lt h

/-- in `n` consecutive values of the counter every residue modulo `n` occurs -/
theorem aux_cover (n seq i : Nat) (hi : i < n) : ∃ m, m < n ∧ (seq + m) % n = i := by
  have hr : seq % n < n := Nat.mod_lt _ (by omega)
  refine ⟨(i + n - seq % n) % n, Nat.mod_lt _ (by omega), ?_⟩
  rw [Nat.add_mod_mod, ← Nat.mod_add_mod seq n, show seq % n + (i + n - seq % n) = i + n by omega,
    Nat.add_mod_right, Nat.mod_eq_of_lt hi]

/-- result of a loop that tried `fuel` decoders in vain -/
def endOf {α} (fuel : Nat) (last : Option Nat) : Step α :=
  match (if fuel = 0 then last else some eEOF) with
  | some e => .err e
  | none => .nothing

/-- The loop on well-formed inputs: it returns the head of the first non-empty input in rotation
order (and pops it), or — all `fuel` tried inputs being empty — the last error, leaving the inputs
as they were. -/
theorem aux_loop {α} (rem : List (List α)) :
    ∀ (fuel seq : Nat) (last : Option Nat), seq + fuel < two64 →
      (∃ m a t, m < fuel ∧ rem.getD ((seq + m) % rem.length) [] = a :: t ∧
        rrLoop fuel (ofInputs rem) seq last =
          (.got ((seq + m) % rem.length) a, ofInputs (rem.set ((seq + m) % rem.length) t), seq + m + 1))
      ∨ ((∀ m, m < fuel → rem.getD ((seq + m) % rem.length) [] = []) ∧
        rrLoop fuel (ofInputs rem) seq last = (endOf fuel last, ofInputs rem, seq + fuel)) := by
  intro fuel
  induction fuel with
  | zero =>
    intro seq last _
    right
    refine ⟨by intro m hm; omega, ?_⟩
    simp only [rrLoop, endOf]
    cases last <;> rfl
  | succ fuel ih =>
    intro seq last hw
    have hinc : incSeq seq = seq + 1 := aux_incSeq seq (by omega)
    cases hx : rem.getD (seq % rem.length) [] with
    | nil =>
      rcases ih (seq + 1) (some eEOF) (by omega) with ⟨m, a, t, hm, hget, hres⟩ | ⟨hall, hres⟩
      · left
        have e : seq + 1 + m = seq + (m + 1) := by omega
        refine ⟨m + 1, a, t, by omega, by rw [← e]; exact hget, ?_⟩
        simp only [rrLoop, aux_len, aux_getD, hx, ofRecords, List.map_nil, pop, hinc]
        rw [aux_set_nil rem _ hx, hres, ← e]
      · right
        refine ⟨?_, ?_⟩
        · intro m hm
          cases m with
          | zero => simpa using hx
          | succ m =>
            have e : seq + 1 + m = seq + (m + 1) := by omega
            rw [← e]; exact hall m (by omega)
        · simp only [rrLoop, aux_len, aux_getD, hx, ofRecords, List.map_nil, pop, hinc]
          rw [aux_set_nil rem _ hx, hres]
          have e : seq + 1 + fuel = seq + (fuel + 1) := by omega
          rw [e]
          congr 1
          unfold endOf
          cases fuel <;> simp
    | cons a t =>
      left
      refine ⟨0, a, t, by omega, by simpa using hx, ?_⟩
      simp only [rrLoop, aux_len, aux_getD, hx, ofRecords, List.map_cons, pop, hinc, Nat.add_zero]
      have := aux_set rem (seq % rem.length) t
      simp only [ofRecords] at this
      rw [this]

theorem aux_getD_lt {α} (rem : List (List α)) (j : Nat) (a : α) (t : List α)
    (h : rem.getD j [] = a :: t) : j < rem.length := by
  refine Nat.not_le.mp fun hl => ?_
  simp [List.getD_eq_getElem?_getD, List.getElem?_eq_none hl] at h

/-- what one call of the combined decoder does on well-formed inputs, the counter going from `seq` to some `seq'`
with `ok seq'`: the head record of a non-empty input `j` is returned and popped, or all inputs are empty and `io.EOF`
is returned -/
def DecodeStep {α} (ok : Nat → Prop) (rem : List (List α)) (seq : Nat) : Prop :=
  (∃ j a t seq', rem.getD j [] = a :: t ∧ j < rem.length ∧ ok seq' ∧
      rrDecode ⟨ofInputs rem, seq⟩ = (.got j a, ⟨ofInputs (rem.set j t), seq'⟩))
  ∨ (AllEmpty rem ∧ ∃ seq', ok seq' ∧ rrDecode ⟨ofInputs rem, seq⟩ = (.err eEOF, ⟨ofInputs rem, seq'⟩))

theorem aux_decode_spec {α} (rem : List (List α)) (seq : Nat) (hn : 0 < rem.length)
    (hw : seq + rem.length < two64) :
    DecodeStep (· ≤ seq + rem.length) rem seq := by
  unfold DecodeStep
  cases rem with
  | nil => simp at hn
  | cons l1 rest =>
  cases rest with
  | nil =>
    cases l1 with
    | nil =>
      right
      refine ⟨by intro l hl; simpa using hl, seq, by omega, ?_⟩
      simp [rrDecode, ofInputs, ofRecords, pop]
    | cons a t =>
      left
      refine ⟨0, a, t, seq, by simp, by simp, by omega, ?_⟩
      simp [rrDecode, ofInputs, ofRecords, pop]
  | cons l2 rest =>
    have hdec : rrDecode ⟨ofInputs (l1 :: l2 :: rest), seq⟩ =
        (let r := rrLoop (ofInputs (l1 :: l2 :: rest)).length (ofInputs (l1 :: l2 :: rest)) seq none
         (r.1, ⟨r.2.1, r.2.2⟩)) := by
      simp [rrDecode, ofInputs]
    rw [hdec, aux_len]
    rcases aux_loop (l1 :: l2 :: rest) (l1 :: l2 :: rest).length seq none hw with
      ⟨m, a, t, hm, hget, hres⟩ | ⟨hall, hres⟩
    · left
      refine ⟨_, a, t, seq + m + 1, hget, aux_getD_lt _ _ _ _ hget, by omega, ?_⟩
      rw [hres]
    · right
      refine ⟨?_, seq + (l1 :: l2 :: rest).length, by omega, ?_⟩
      · intro l hl
        obtain ⟨i, hi, hli⟩ := List.getElem_of_mem hl
        obtain ⟨m, hm, hmi⟩ := aux_cover (l1 :: l2 :: rest).length seq i hi
        have := hall m hm
        rw [hmi] at this
        simp only [List.getD_eq_getElem?_getD, List.getElem?_eq_getElem hi, Option.getD_some] at this
        rw [← hli]; exact this
      · rw [hres]
        simp [endOf]

theorem aux_allEmpty_getD {α} (rem : List (List α)) (h : AllEmpty rem) (j : Nat) : rem.getD j [] = [] := by
  rcases Nat.lt_or_ge j rem.length with hl | hl
  · simp only [List.getD_eq_getElem?_getD, List.getElem?_eq_getElem hl, Option.getD_some]
    exact h _ (List.getElem_mem hl)
  · simp [List.getD_eq_getElem?_getD, List.getElem?_eq_none hl]

theorem aux_flatten_set {α} : ∀ (rem : List (List α)) (j : Nat) (a : α) (t : List α),
    rem.getD j [] = a :: t → rem.flatten.Perm (a :: (rem.set j t).flatten) := by
  intro rem
  induction rem with
  | nil => intro j a t h; simp at h
  | cons r rs ih =>
    intro j a t h
    cases j with
    | zero =>
      simp at h; subst h; simp
    | succ j =>
      have h' : rs.getD j [] = a :: t := by simpa using h
      have := ih j a t h'
      simp only [List.flatten_cons, List.set_cons_succ]
      exact (List.Perm.append_left r this).trans List.perm_middle

/-- the records of input `i` inside a tagged output -/
def fromInput {α} (out : List (Nat × α)) (i : Nat) : List α :=
  (out.filter (fun x => x.1 == i)).map (·.2)

/-- Draining well-formed inputs, given that every call behaves as `DecodeStep` while the counter satisfies a condition
`ok fuel seq` that the calls maintain: the loop ends with `io.EOF` after exactly the records of all inputs; the part of
the output that came from input `i` is input `i`, in order. -/
theorem aux_drain_of {α} (n : Nat) (ok : Nat → Nat → Prop)
    (hstep : ∀ (rem : List (List α)) (fuel seq : Nat), rem.length = n → ok (fuel + 1) seq → DecodeStep (ok fuel) rem seq) :
    ∀ (fuel : Nat) (rem : List (List α)) (seq : Nat), rem.length = n → rem.flatten.length < fuel → ok fuel seq →
    ∃ out rem' seq' f, drain fuel ⟨ofInputs rem, seq⟩ = (out, ⟨ofInputs rem', seq'⟩, some eEOF) ∧
      AllEmpty rem' ∧ rem'.length = n ∧ ok f seq' ∧
      (out.map (·.2)).Perm rem.flatten ∧
      (∀ i, fromInput out i = rem.getD i []) ∧
      (∀ x ∈ out, x.1 < n) := by
  intro fuel
  induction fuel with
  | zero => intro rem seq _ h; omega
  | succ fuel ih =>
    intro rem seq hn htot hok
    rcases hstep rem fuel seq hn hok with ⟨j, a, t, seq1, hget, hj, hok1, hdec⟩ | ⟨hall, seq1, hok1, hdec⟩
    · have hperm := aux_flatten_set rem j a t hget
      have hfl : (rem.set j t).flatten.length + 1 = rem.flatten.length := by
        have := hperm.length_eq; simp only [List.length_cons] at this; omega
      obtain ⟨out, rem', seq', f, hdr, hemp, hl', hs', hp, hf, htag⟩ :=
        ih (rem.set j t) seq1 (by simpa using hn) (by omega) hok1
      refine ⟨(j, a) :: out, rem', seq', f, ?_, hemp, hl', hs', ?_, ?_, ?_⟩
      · simp only [drain, hdec, hdr]
      · simp only [List.map_cons]
        exact (List.Perm.cons a hp).trans hperm.symm
      · intro i
        have hi := hf i
        simp only [fromInput] at hi
        by_cases hji : j = i
        · subst hji
          simp only [fromInput, List.filter_cons, beq_self_eq_true, ↓reduceIte, List.map_cons]
          rw [hi, hget]
          simp [List.getD_eq_getElem?_getD, List.getElem?_set_self hj]
        · have hne : ((j, a).1 == i) = false := by simpa using hji
          simp only [fromInput, List.filter_cons, hne, Bool.false_eq_true, ↓reduceIte]
          rw [hi]
          simp [List.getD_eq_getElem?_getD, List.getElem?_set_ne hji]
      · intro x hx
        rcases List.mem_cons.mp hx with h | h
        · subst h; omega
        · exact htag x h
    · refine ⟨[], rem, seq1, fuel, ?_, hall, hn, hok1, ?_, ?_, ?_⟩
      · simp only [drain, hdec]
      · simp [List.flatten_eq_nil_iff.mpr hall]
      · intro i
        have := aux_allEmpty_getD rem hall i
        simpa [fromInput] using this.symm
      · intro x hx; cases hx

/-- Draining when the counter does not wrap. -/
theorem aux_drain {α} : ∀ (fuel : Nat) (rem : List (List α)) (seq : Nat), 0 < rem.length →
    rem.flatten.length < fuel → seq + rem.length * fuel < two64 →
    ∃ out rem' seq', drain fuel ⟨ofInputs rem, seq⟩ = (out, ⟨ofInputs rem', seq'⟩, some eEOF) ∧
      AllEmpty rem' ∧ rem'.length = rem.length ∧ seq' ≤ seq + rem.length * fuel ∧
      (out.map (·.2)).Perm rem.flatten ∧
      (∀ i, fromInput out i = rem.getD i []) ∧
      (∀ x ∈ out, x.1 < rem.length) := by
  intro fuel rem seq hn htot hw
  obtain ⟨out, rem', seq', f, h⟩ := aux_drain_of rem.length
    (fun f s => s + rem.length * f ≤ seq + rem.length * fuel) (by
      intro rem1 f s hl hok
      rw [Nat.mul_succ] at hok
      rcases aux_decode_spec rem1 s (by omega) (by omega) with ⟨j, a, t, s1, h1, h2, h3, h4⟩ | ⟨h1, s1, h3, h4⟩
      · exact Or.inl ⟨j, a, t, s1, h1, h2, by omega, h4⟩
      · exact Or.inr ⟨h1, s1, by omega, h4⟩)
    fuel rem seq rfl htot (Nat.le_refl _)
  exact ⟨out, rem', seq', h.1, h.2.1, h.2.2.1, by have := h.2.2.2.1; omega, h.2.2.2.2⟩

/-- **"Reading results from several inputs at once yields every record of every input exactly
once … and signals the end only when all inputs are exhausted."**  For every `n ≥ 1` inputs of any
lengths: calling the combined decoder until it reports an error ends with `io.EOF`, and the records
returned up to then are a permutation of the concatenation of all inputs. -/
theorem rr_output_perm_concat {α} (inputs : List (List α)) (seq fuel : Nat) (hn : 0 < inputs.length)
    (hfuel : inputs.flatten.length < fuel) (hw : seq + inputs.length * fuel < two64) :
    ∃ out s', drain fuel ⟨ofInputs inputs, seq⟩ = (out, s', some eEOF) ∧
      (out.map (·.2)).Perm inputs.flatten := by
  obtain ⟨out, rem', seq', h, _, _, _, hp, _, _⟩ := aux_drain fuel inputs seq hn hfuel hw
  exact ⟨out, _, h, hp⟩

/-- **"… keeps each input's own order."**  The records of the output that came from input `i`
(ghost source tag) are exactly input `i`, in its own order — neither lost, duplicated nor reordered. -/
theorem rr_each_input_exact {α} (inputs : List (List α)) (seq fuel : Nat) (hn : 0 < inputs.length)
    (hfuel : inputs.flatten.length < fuel) (hw : seq + inputs.length * fuel < two64) :
    ∃ out s', drain fuel ⟨ofInputs inputs, seq⟩ = (out, s', some eEOF) ∧
      (∀ i, i < inputs.length → fromInput out i = inputs.getD i []) ∧
      (∀ x ∈ out, x.1 < inputs.length) := by
  obtain ⟨out, rem', seq', h, _, _, _, _, hf, ht⟩ := aux_drain fuel inputs seq hn hfuel hw
  exact ⟨out, _, h, fun i _ => hf i, ht⟩

/-- Each input is a subsequence of the (untagged) output. -/
theorem rr_each_input_sublist {α} (inputs : List (List α)) (seq fuel : Nat) (hn : 0 < inputs.length)
    (hfuel : inputs.flatten.length < fuel) (hw : seq + inputs.length * fuel < two64) :
    ∃ out s', drain fuel ⟨ofInputs inputs, seq⟩ = (out, s', some eEOF) ∧
      ∀ l ∈ inputs, l.Sublist (out.map (·.2)) := by
  obtain ⟨out, rem', seq', h, _, _, _, _, hf, _⟩ := aux_drain fuel inputs seq hn hfuel hw
  refine ⟨out, _, h, ?_⟩
  intro l hl
  obtain ⟨i, hi, hli⟩ := List.getElem_of_mem hl
  have := hf i
  simp only [List.getD_eq_getElem?_getD, List.getElem?_eq_getElem hi, Option.getD_some, hli] at this
  rw [← this]
  exact List.Sublist.map _ List.filter_sublist

/-- **"… signals the end only when all inputs are exhausted."**  On well-formed inputs a call of
the combined decoder returns an error exactly when every input is exhausted; the error is then
`io.EOF`, and otherwise a record is returned (never `nil` without a record). -/
theorem rr_eof_iff_all_exhausted {α} (rem : List (List α)) (seq : Nat) (hn : 0 < rem.length)
    (hw : seq + rem.length < two64) :
    ((∃ e s', rrDecode ⟨ofInputs rem, seq⟩ = (.err e, s')) ↔ AllEmpty rem) ∧
    (AllEmpty rem → ∃ s', rrDecode ⟨ofInputs rem, seq⟩ = (.err eEOF, s')) ∧
    (¬ AllEmpty rem → ∃ j a s', rrDecode ⟨ofInputs rem, seq⟩ = (.got j a, s')) := by
  rcases aux_decode_spec rem seq hn hw with ⟨j, a, t, seq1, hget, hj, _, hdec⟩ | ⟨hall, seq1, _, hdec⟩
  · have hne : ¬ AllEmpty rem := by
      intro h
      have := aux_allEmpty_getD rem h j
      rw [hget] at this; cases this
    refine ⟨⟨?_, fun h => absurd h hne⟩, fun h => absurd h hne, fun _ => ⟨j, a, _, hdec⟩⟩
    rintro ⟨e, s', h⟩
    rw [hdec] at h; cases h
  · exact ⟨⟨fun _ => hall, fun _ => ⟨eEOF, _, hdec⟩⟩, fun _ => ⟨_, hdec⟩, fun h => absurd hall h⟩

/-- **End of input is stable**: once the combined decoder has reported an error on well-formed
inputs, every further call reports `io.EOF` again (for any number `k` of further calls). -/
theorem rr_eof_stable {α} (rem : List (List α)) (seq : Nat) (hn : 0 < rem.length) (e : Nat) (s' : RR α)
    (hw : seq + rem.length < two64) (h : rrDecode ⟨ofInputs rem, seq⟩ = (.err e, s')) :
    ∀ k, s'.seq + rem.length * k < two64 → (calls k s').1 = List.replicate k (.err eEOF) := by
  rcases aux_decode_spec rem seq hn hw with ⟨j, a, t, seq1, _, _, _, hdec⟩ | ⟨hall, seq1, _, hdec⟩
  · rw [hdec] at h; cases h
  · rw [hdec] at h
    have hs : s' = ⟨ofInputs rem, seq1⟩ := by cases h; rfl
    subst hs
    intro k
    generalize seq1 = sq
    induction k generalizing sq with
    | zero => intro _; rfl
    | succ k ih =>
      intro hk
      have hmul : rem.length * (k + 1) = rem.length * k + rem.length := Nat.mul_succ _ _
      simp only [] at hk
      rcases aux_decode_spec rem sq hn (by omega) with ⟨j, a, t, seq2, hget, _, _, _⟩ | ⟨_, seq2, hseq2, hdec2⟩
      · have := aux_allEmpty_getD rem hall j
        rw [hget] at this; cases this
      · have := ih seq2 (by simp only []; omega)
        simp only [calls, hdec2, List.replicate_succ, this]

/-- **"Consequently the … encode command produce[s] … the same multiset of records for a result
set no matter how it is split across files."**  Two splits of the same result set (their
concatenations are permutations of each other — in particular any split against the unsplit file
`[all]`) drain to outputs that are permutations of each other. -/
theorem encode_split_multiset {α} (inputs₁ inputs₂ : List (List α)) (fuel₁ fuel₂ : Nat)
    (hsame : inputs₁.flatten.Perm inputs₂.flatten)
    (hn₁ : 0 < inputs₁.length) (hn₂ : 0 < inputs₂.length)
    (hf₁ : inputs₁.flatten.length < fuel₁) (hf₂ : inputs₂.flatten.length < fuel₂)
    (hw₁ : inputs₁.length * fuel₁ < two64) (hw₂ : inputs₂.length * fuel₂ < two64) :
    ∃ out₁ s₁ out₂ s₂,
      drain fuel₁ (RR.init (ofInputs inputs₁)) = (out₁, s₁, some eEOF) ∧
      drain fuel₂ (RR.init (ofInputs inputs₂)) = (out₂, s₂, some eEOF) ∧
      (out₁.map (·.2)).Perm (out₂.map (·.2)) := by
  obtain ⟨o1, s1, h1, p1⟩ := rr_output_perm_concat inputs₁ 0 fuel₁ hn₁ hf₁ (by omega)
  obtain ⟨o2, s2, h2, p2⟩ := rr_output_perm_concat inputs₂ 0 fuel₂ hn₂ hf₂ (by omega)
  exact ⟨o1, s1, o2, s2, h1, h2, (p1.trans hsame).trans p2.symm⟩

/-- **"… the report … command produce[s] the same exact metrics … no matter how it is split."**
Every report that is a permutation-invariant function of the records it was fed (the exact metrics
are: sums, extrema, counts, sets) has the same value for any two splits of the same result set. -/
theorem report_split_invariant {α β} (metric : List α → β)
    (hinv : ∀ l₁ l₂ : List α, l₁.Perm l₂ → metric l₁ = metric l₂)
    (inputs₁ inputs₂ : List (List α)) (fuel₁ fuel₂ : Nat)
    (hsame : inputs₁.flatten.Perm inputs₂.flatten)
    (hn₁ : 0 < inputs₁.length) (hn₂ : 0 < inputs₂.length)
    (hf₁ : inputs₁.flatten.length < fuel₁) (hf₂ : inputs₂.flatten.length < fuel₂)
    (hw₁ : inputs₁.length * fuel₁ < two64) (hw₂ : inputs₂.length * fuel₂ < two64) :
    metric ((drain fuel₁ (RR.init (ofInputs inputs₁))).1.map (·.2)) =
      metric ((drain fuel₂ (RR.init (ofInputs inputs₂))).1.map (·.2)) := by
  obtain ⟨o1, s1, o2, s2, h1, h2, p⟩ :=
    encode_split_multiset inputs₁ inputs₂ fuel₁ fuel₂ hsame hn₁ hn₂ hf₁ hf₂ hw₁ hw₂
  rw [h1, h2]; exact hinv _ _ p

/-! ### the report command: composition with C10 (no abstract metric left) -/

section Report
open Vegeta.Model.Metrics Vegeta.Spec.Metrics Vegeta.Props.C10

/-- the closed metrics report computed by the `report` command's loop from the records it was fed:
`Metrics.Add` for each record in arrival order, then `Close` (model of lib/metrics.go, C10) -/
def closedReport (fed : List Result) : Report := report (close (addAll Metrics.init fed))

/-- **"Consequently the report … command[s] produce the same exact metrics … for a result set no
matter how it is split across files."**  For any two splits of the same result multiset into
`n ≥ 1` inputs each (of any lengths; in particular any split against the unsplit file `[all]`),
in C10's domain (timestamps ≥ 1970, latencies ≥ 0, ends and totals inside their Go types):
draining the round-robin decoder over either split and folding `Metrics.Add`/`Close` over the
records in the order they come out gives the same closed report — every field equal, the error
texts the same set (equal up to permutation: their order is the order of first arrival) — and
this report is the reference report `ref` of the union of the files. -/
theorem report_metrics_split_invariant (inputs₁ inputs₂ : List (List Result)) (fuel₁ fuel₂ : Nat)
    (hsame : inputs₁.flatten.Perm inputs₂.flatten) (hd : Domain inputs₁.flatten)
    (hn₁ : 0 < inputs₁.length) (hn₂ : 0 < inputs₂.length)
    (hf₁ : inputs₁.flatten.length < fuel₁) (hf₂ : inputs₂.flatten.length < fuel₂)
    (hw₁ : inputs₁.length * fuel₁ < two64) (hw₂ : inputs₂.length * fuel₂ < two64) :
    ∃ out₁ s₁ out₂ s₂,
      drain fuel₁ (RR.init (ofInputs inputs₁)) = (out₁, s₁, some eEOF) ∧
      drain fuel₂ (RR.init (ofInputs inputs₂)) = (out₂, s₂, some eEOF) ∧
      withoutErrors (closedReport (out₁.map (·.2))) = withoutErrors (closedReport (out₂.map (·.2))) ∧
      (closedReport (out₁.map (·.2))).errors.Perm (closedReport (out₂.map (·.2))).errors ∧
      withoutErrors (closedReport (out₁.map (·.2))) = withoutErrors (ref inputs₁.flatten) ∧
      (closedReport (out₁.map (·.2))).errors.Perm (ref inputs₁.flatten).errors := by
  obtain ⟨o1, s1, h1, p1⟩ := rr_output_perm_concat inputs₁ 0 fuel₁ hn₁ hf₁ (by omega)
  obtain ⟨o2, s2, h2, p2⟩ := rr_output_perm_concat inputs₂ 0 fuel₂ hn₂ hf₂ (by omega)
  have hd1 : Domain (o1.map (·.2)) := aux_domain_perm p1.symm hd
  have p12 : (o1.map (·.2)).Perm (o2.map (·.2)) := (p1.trans hsame).trans p2.symm
  obtain ⟨a, b⟩ := metrics_order_independent _ _ hd1 p12
  have hr1 : closedReport (o1.map (·.2)) = ref (o1.map (·.2)) := metrics_eq_ref _ hd1
  obtain ⟨c, d⟩ := ref_perm _ _ p1
  exact ⟨o1, s1, o2, s2, h1, h2, a, b, by rw [hr1]; exact c, by rw [hr1]; exact d⟩

/-- non-vacuity: a concrete result set (C10's sample), its unsplit file and a split into three files
of unequal lengths (one of them empty) satisfy the hypotheses -/
example : ∃ out₁ s₁ out₂ s₂,
    drain 10 (RR.init (ofInputs [sample])) = (out₁, s₁, some eEOF) ∧
    drain 10 (RR.init (ofInputs [sample.drop 2, [], sample.take 2])) = (out₂, s₂, some eEOF) ∧
    withoutErrors (closedReport (out₁.map (·.2))) = withoutErrors (closedReport (out₂.map (·.2))) := by
  have hp : ([sample] : List (List Result)).flatten.Perm [sample.drop 2, [], sample.take 2].flatten := by decide
  have hdom : Domain ([sample] : List (List Result)).flatten :=
    { ts_nonneg := by decide, lat_nonneg := by decide, end_fits := by decide, lat_sum := by decide,
      in_sum := by decide, out_sum := by decide }
  obtain ⟨o1, s1, o2, s2, h1, h2, h3, _⟩ := report_metrics_split_invariant _ _ 10 10 hp hdom
    (by decide) (by decide) (by decide) (by decide) (by decide) (by decide)
  exact ⟨o1, s1, o2, s2, h1, h2, h3⟩

end Report

/-! ### the rotation counter at its wrap (exactly what holds) -/

theorem aux_incSeq_mod (n seq : Nat) (hd : n ∣ two64) : incSeq seq % n = (seq + 1) % n := by
  unfold incSeq; exact Nat.mod_mod_of_dvd _ hd

/-- if the number of decoders divides 2^64, the loop depends on the counter only through its residue -/
theorem aux_loop_congr {α} (n : Nat) (hd : n ∣ two64) : ∀ (fuel : Nat) (decs : List (Dec α)) (s1 s2 : Nat)
    (last : Option Nat), decs.length = n → s1 % n = s2 % n →
    (rrLoop fuel decs s1 last).1 = (rrLoop fuel decs s2 last).1 ∧
    (rrLoop fuel decs s1 last).2.1 = (rrLoop fuel decs s2 last).2.1 ∧
    (rrLoop fuel decs s1 last).2.2 % n = (rrLoop fuel decs s2 last).2.2 % n := by
  intro fuel
  induction fuel with
  | zero => intro decs s1 s2 last _ h; exact ⟨rfl, rfl, h⟩
  | succ fuel ih =>
    intro decs s1 s2 last hl h
    have hinc : incSeq s1 % n = incSeq s2 % n := by
      rw [aux_incSeq_mod n s1 hd, aux_incSeq_mod n s2 hd, Nat.add_mod, h, ← Nat.add_mod]
    simp only [rrLoop, hl, h]
    cases hp : pop (decs.getD (s2 % n) []) with
    | mk res d' =>
      cases res with
      | ok a => exact ⟨rfl, rfl, hinc⟩
      | error e => exact ih _ _ _ _ (by simp [hl]) hinc

theorem aux_decode_congr {α} (decs : List (Dec α)) (hd : decs.length ∣ two64) (s1 s2 : Nat)
    (h : s1 % decs.length = s2 % decs.length) :
    (rrDecode ⟨decs, s1⟩).1 = (rrDecode ⟨decs, s2⟩).1 ∧
    (rrDecode ⟨decs, s1⟩).2.decs = (rrDecode ⟨decs, s2⟩).2.decs ∧
    (rrDecode ⟨decs, s1⟩).2.seq % decs.length = (rrDecode ⟨decs, s2⟩).2.seq % decs.length := by
  match decs, hd, h with
  | [d], _, h =>
    simp only [rrDecode]
    cases pop d with
    | mk res d' => cases res <;> exact ⟨rfl, rfl, h⟩
  | [], hd, _ => exact absurd (show two64 = 0 by simpa using hd) (by decide)
  | d1 :: d2 :: ds, hd, h =>
    have := aux_loop_congr _ hd (d1 :: d2 :: ds).length (d1 :: d2 :: ds) s1 s2 none rfl h
    simpa [rrDecode] using this

/-- a proper divisor of 2^64 is at most half of it -/
theorem aux_half (n : Nat) (hd : n ∣ two64) (hlt : n < two64) : n + n ≤ two64 := by
  obtain ⟨k, hk⟩ := hd
  have hk2 : 2 ≤ k := by
    rcases k with _ | _ | k
    · simp [two64] at hk
    · omega
    · omega
  calc n + n = n * 2 := by omega
    _ ≤ n * k := Nat.mul_le_mul_left n hk2
    _ = two64 := hk.symm

/-- one call, any counter value, when the number of inputs divides 2^64: as `aux_decode_spec`, without
the no-wrap condition -/
theorem aux_decode_spec_dvd {α} (rem : List (List α)) (seq : Nat) (hn : 0 < rem.length)
    (hd : rem.length ∣ two64) (hlt : rem.length < two64) :
    DecodeStep (fun _ => True) rem seq := by
  have hmod : seq % rem.length < rem.length := Nat.mod_lt _ hn
  have hhalf := aux_half _ hd hlt
  have hc := aux_decode_congr (ofInputs rem) (by rw [aux_len]; exact hd) seq (seq % rem.length)
    (by rw [aux_len, Nat.mod_mod])
  obtain ⟨c1, c2, _⟩ := hc
  have heta : rrDecode ⟨ofInputs rem, seq⟩ =
      ((rrDecode ⟨ofInputs rem, seq⟩).1, ⟨(rrDecode ⟨ofInputs rem, seq⟩).2.decs, (rrDecode ⟨ofInputs rem, seq⟩).2.seq⟩) := rfl
  rcases aux_decode_spec rem (seq % rem.length) hn (by omega) with
    ⟨j, a, t, seq1, hget, hj, _, hdec⟩ | ⟨hall, seq1, _, hdec⟩
  · left
    refine ⟨j, a, t, (rrDecode ⟨ofInputs rem, seq⟩).2.seq, hget, hj, trivial, ?_⟩
    rw [heta, c1, c2, hdec]
  · right
    refine ⟨hall, (rrDecode ⟨ofInputs rem, seq⟩).2.seq, trivial, ?_⟩
    rw [heta, c1, c2, hdec]

/-- **The wrap of the `uint64` rotation counter is harmless when the number of inputs divides 2^64**
(1, 2, 4, 8, … inputs): `seq % n` then continues across the wrap, and for EVERY counter value and any
number of calls draining yields every record exactly once, each input in its own order, and ends with
`io.EOF` only when all inputs are exhausted — no no-wrap hypothesis. -/
theorem rr_wrap_harmless_when_length_divides {α} (inputs : List (List α)) (seq fuel : Nat)
    (hn : 0 < inputs.length) (hd : inputs.length ∣ two64) (hlt : inputs.length < two64)
    (hfuel : inputs.flatten.length < fuel) :
    ∃ out s', drain fuel ⟨ofInputs inputs, seq⟩ = (out, s', some eEOF) ∧
      (out.map (·.2)).Perm inputs.flatten ∧ (∀ i, fromInput out i = inputs.getD i []) ∧
      (∀ x ∈ out, x.1 < inputs.length) := by
  obtain ⟨out, rem', seq', _, h, _, _, _, hp, hf, ht⟩ := aux_drain_of inputs.length (fun _ _ => True)
    (fun rem _ seq hl _ => aux_decode_spec_dvd rem seq (by omega) (hl ▸ hd) (by omega))
    fuel inputs seq rfl hfuel trivial
  exact ⟨out, _, h, hp, hf, ht⟩

/-- … and a call returns an error exactly when all inputs are exhausted, at every counter value. -/
theorem rr_eof_iff_all_exhausted_when_length_divides {α} (rem : List (List α)) (seq : Nat)
    (hn : 0 < rem.length) (hd : rem.length ∣ two64) (hlt : rem.length < two64) :
    (∃ e s', rrDecode ⟨ofInputs rem, seq⟩ = (.err e, s')) ↔ AllEmpty rem := by
  rcases aux_decode_spec_dvd rem seq hn hd hlt with ⟨j, a, t, seq1, hget, hj, _, hdec⟩ | ⟨hall, seq1, _, hdec⟩
  · constructor
    · rintro ⟨e, s', h⟩; rw [hdec] at h; cases h
    · intro h
      have := aux_allEmpty_getD rem h j
      rw [hget] at this; cases this
  · exact ⟨fun _ => hall, fun _ => ⟨_, _, hdec⟩⟩

/-- **For other numbers of inputs the wrap is not harmless**: with three inputs and the counter two
below 2^64, the three attempts of one call have the residues 2, 0, 0 (2^64 ≡ 1 mod 3): input 1 is
never asked, and the call reports `io.EOF` although input 1 still holds a record.  (Reaching this
state takes 2^64 − 2 decode attempts; it is the reason for the no-wrap hypothesis of the theorems
for arbitrary `n`.) -/
theorem rr_wrap_counterexample_three_inputs :
    (rrDecode ⟨ofInputs [[], [7], []], 18446744073709551614⟩).1 = (Step.err eEOF : Step Nat) ∧
    ¬ AllEmpty ([[], [7], []] : List (List Nat)) := by
  refine ⟨by decide, ?_⟩
  intro h; have := h [7] (by simp); cases this

example : (4 : Nat) ∣ two64 ∧ (4 : Nat) < two64 := by decide

/-! ### the report loop with intermediate reports (ticks) -/

def tickPrefixes {α} : List α → List (Ev α) → List (List α)
  | _, [] => []
  | acc, .got a :: es => tickPrefixes (acc ++ [a]) es
  | acc, .tick :: es => acc :: tickPrefixes acc es

theorem aux_reportRun {α ρ β} (R : Report α ρ β)
    (hcl : ∀ s a, R.close (R.add (R.close s) a) = R.close (R.add s a))
    (hcc : ∀ s, R.close (R.close s) = R.close s) (init : ρ) :
    ∀ (evs : List (Ev α)) (s : ρ) (acc : List α), R.close s = R.close (acc.foldl R.add init) →
      R.close (reportRun R s evs).2 = R.close ((acc ++ recordsOf evs).foldl R.add init) ∧
      (reportRun R s evs).1 = (tickPrefixes acc evs).map (fun rs => R.render (R.close (rs.foldl R.add init))) := by
  intro evs
  induction evs with
  | nil => intro s acc h; simpa [reportRun, recordsOf, tickPrefixes] using h
  | cons e es ih =>
    intro s acc h
    cases e with
    | got a =>
      have h' : R.close (R.add s a) = R.close ((acc ++ [a]).foldl R.add init) := by
        rw [List.foldl_append, List.foldl_cons, List.foldl_nil, ← hcl s a, h, hcl]
      have := ih (R.add s a) (acc ++ [a]) h'
      simpa [reportRun, recordsOf, tickPrefixes, List.append_assoc] using this
    | tick =>
      have h' : R.close (R.close s) = R.close (acc.foldl R.add init) := by rw [hcc, h]
      have := ih (R.close s) acc h'
      simp only [reportRun, recordsOf, tickPrefixes, List.map_cons]
      exact ⟨this.1, by rw [this.2, h]⟩

/-- **Intermediate reports do not change the final report** (generic form): for a report whose `Close`
is idempotent and transparent to a following `Add`, and for ANY placement of ticks between the
records, the final report is the report over the records without ticks, and the report written at a
tick is the report over the records read so far. -/
theorem report_ticks_invisible {α ρ β} (R : Report α ρ β)
    (hcl : ∀ s a, R.close (R.add (R.close s) a) = R.close (R.add s a))
    (hcc : ∀ s, R.close (R.close s) = R.close s) (init : ρ) (evs : List (Ev α)) :
    (reportCmd R init evs).2 = R.render (R.close ((recordsOf evs).foldl R.add init)) ∧
    (reportCmd R init evs).1 = (tickPrefixes [] evs).map (fun rs => R.render (R.close (rs.foldl R.add init))) := by
  have := aux_reportRun R hcl hcc init evs init [] rfl
  simp only [List.nil_append] at this
  exact ⟨by simp only [reportCmd]; rw [this.1], this.2⟩

/-- reports that are no `Closer` (the histogram report): both laws hold trivially -/
theorem report_ticks_invisible_no_closer {α ρ β} (add : ρ → α → ρ) (render : ρ → β) (init : ρ) (evs : List (Ev α)) :
    (reportCmd ⟨add, id, render⟩ init evs).2 = render ((recordsOf evs).foldl add init) :=
  (report_ticks_invisible ⟨add, id, render⟩ (fun _ _ => rfl) (fun _ => rfl) init evs).1

section MetricsTicks
open Vegeta.Model.Metrics Vegeta.Spec.Metrics Vegeta.Props.C10

/-- the metrics report of lib/metrics.go as the `report` command uses it (types text, json, hdrplot) -/
def metricsReport : Report Result Metrics Vegeta.Model.Metrics.Report := ⟨Vegeta.Model.Metrics.add, Vegeta.Model.Metrics.close, report⟩

def opsOf : List (Ev Result) → List Op
  | [] => []
  | .got r :: es => .add r :: opsOf es
  | .tick :: es => .close :: opsOf es

theorem aux_adds_opsOf (evs : List (Ev Result)) : adds (opsOf evs) = recordsOf evs := by
  induction evs with
  | nil => rfl
  | cons e es ih => cases e <;> simp [opsOf, adds, recordsOf, ih]

theorem aux_metricsRun : ∀ (evs : List (Ev Result)) (ops0 : List Op),
    (reportRun metricsReport (run Metrics.init ops0) evs).2 = run Metrics.init (ops0 ++ opsOf evs) ∧
    (reportRun metricsReport (run Metrics.init ops0) evs).1 =
      (tickPrefixes (adds ops0) evs).map closedReport := by
  intro evs
  induction evs with
  | nil => intro ops0; simp [reportRun, opsOf, tickPrefixes]
  | cons e es ih =>
    intro ops0
    cases e with
    | got r =>
      have hs := aux_run_snoc Metrics.init ops0 (.add r)
      have := ih (ops0 ++ [.add r])
      simp only [reportRun, metricsReport, opsOf, tickPrefixes] at this ⊢
      rw [show Vegeta.Model.Metrics.add (run Metrics.init ops0) r = _ from hs.symm]
      refine ⟨by rw [this.1, List.append_assoc]; rfl, ?_⟩
      rw [this.2, aux_adds_append]; rfl
    | tick =>
      have hs := aux_run_snoc Metrics.init ops0 .close
      have := ih (ops0 ++ [.close])
      simp only [reportRun, metricsReport, opsOf, tickPrefixes, List.map_cons] at this ⊢
      rw [show Vegeta.Model.Metrics.close (run Metrics.init ops0) = _ from hs.symm]
      refine ⟨by rw [this.1, List.append_assoc]; rfl, ?_⟩
      rw [this.2, aux_adds_append, hs]
      simp only [adds, List.append_nil, List.cons.injEq, and_true]
      -- the report written at the tick
      exact congrArg report (interleaved_close ops0)

/-- **Intermediate reports do not change the final metrics report**: for ANY placement of ticks between
the records the `report` command reads, the final report is the closed report over the records
without ticks, and each intermediate report is the closed report over the records read so far. -/
theorem report_ticks_invisible_metrics (evs : List (Ev Result)) :
    (reportCmd metricsReport Metrics.init evs).2 = closedReport (recordsOf evs) ∧
    (reportCmd metricsReport Metrics.init evs).1 = (tickPrefixes [] evs).map closedReport := by
  have := aux_metricsRun evs []
  simp only [List.nil_append, run, List.foldl_nil] at this
  refine ⟨?_, by simpa [reportCmd, adds] using this.2⟩
  simp only [reportCmd, metricsReport]
  have h1 : (reportRun metricsReport Metrics.init evs).2 = run Metrics.init (opsOf evs) := this.1
  simp only [metricsReport] at h1
  rw [h1, interleaved_close, aux_adds_opsOf]; rfl

/-- **The `report` command over split files with periodic reporting**: for any two splits of the same
result multiset and ANY placements of ticks in either run, the final reports agree in every field
(error texts as a set), and equal the reference report of the union but for the error texts (for those:
`report_metrics_split_invariant`). -/
theorem report_cmd_split_invariant_with_ticks (inputs₁ inputs₂ : List (List Result)) (fuel₁ fuel₂ : Nat)
    (evs₁ evs₂ : List (Ev Result))
    (hsame : inputs₁.flatten.Perm inputs₂.flatten) (hd : Domain inputs₁.flatten)
    (hn₁ : 0 < inputs₁.length) (hn₂ : 0 < inputs₂.length)
    (hf₁ : inputs₁.flatten.length < fuel₁) (hf₂ : inputs₂.flatten.length < fuel₂)
    (hw₁ : inputs₁.length * fuel₁ < two64) (hw₂ : inputs₂.length * fuel₂ < two64)
    (he₁ : recordsOf evs₁ = (drain fuel₁ (RR.init (ofInputs inputs₁))).1.map (·.2))
    (he₂ : recordsOf evs₂ = (drain fuel₂ (RR.init (ofInputs inputs₂))).1.map (·.2)) :
    withoutErrors (reportCmd metricsReport Metrics.init evs₁).2 = withoutErrors (reportCmd metricsReport Metrics.init evs₂).2 ∧
    (reportCmd metricsReport Metrics.init evs₁).2.errors.Perm (reportCmd metricsReport Metrics.init evs₂).2.errors ∧
    withoutErrors (reportCmd metricsReport Metrics.init evs₁).2 = withoutErrors (ref inputs₁.flatten) := by
  obtain ⟨o1, s1, o2, s2, h1, h2, a, b, c, _⟩ :=
    report_metrics_split_invariant inputs₁ inputs₂ fuel₁ fuel₂ hsame hd hn₁ hn₂ hf₁ hf₂ hw₁ hw₂
  rw [(report_ticks_invisible_metrics evs₁).1, (report_ticks_invisible_metrics evs₂).1, he₁, he₂, h1, h2]
  exact ⟨a, b, c⟩

example : (reportCmd metricsReport Metrics.init [.got sample[0], .tick, .tick, .got sample[1], .got sample[2], .tick]).2 =
    closedReport sample := (report_ticks_invisible_metrics _).1

end MetricsTicks

/-! ### source fact (regenerated from /repo by every check run) -/

/-- the whole body of `NewRoundRobinDecoder`, canonically printed, is the text the model was written from:
`{ if len(dec) == 1 { return dec[0] } var seq uint64 return func(r *Result) (err error) { for range dec { robin := seq % uint64(len(dec)) seq++ if err = dec[robin].Decode(r); err != nil { continue } return nil } return err } }` -/
theorem facts_roundRobin_body : Vegeta.Extracted.c13RoundRobinBody =
    [123, 32, 105, 102, 32, 108, 101, 110, 40, 100, 101, 99, 41, 32, 61, 61, 32, 49, 32, 123, 32,
    114, 101, 116, 117, 114, 110, 32, 100, 101, 99, 91, 48, 93, 32, 125, 32, 118, 97, 114, 32, 115,
    101, 113, 32, 117, 105, 110, 116, 54, 52, 32, 114, 101, 116, 117, 114, 110, 32, 102, 117, 110,
    99, 40, 114, 32, 42, 82, 101, 115, 117, 108, 116, 41, 32, 40, 101, 114, 114, 32, 101, 114, 114,
    111, 114, 41, 32, 123, 32, 102, 111, 114, 32, 114, 97, 110, 103, 101, 32, 100, 101, 99, 32, 123,
    32, 114, 111, 98, 105, 110, 32, 58, 61, 32, 115, 101, 113, 32, 37, 32, 117, 105, 110, 116, 54,
    52, 40, 108, 101, 110, 40, 100, 101, 99, 41, 41, 32, 115, 101, 113, 43, 43, 32, 105, 102, 32,
    101, 114, 114, 32, 61, 32, 100, 101, 99, 91, 114, 111, 98, 105, 110, 93, 46, 68, 101, 99, 111,
    100, 101, 40, 114, 41, 59, 32, 101, 114, 114, 32, 33, 61, 32, 110, 105, 108, 32, 123, 32, 99,
    111, 110, 116, 105, 110, 117, 101, 32, 125, 32, 114, 101, 116, 117, 114, 110, 32, 110, 105, 108,
    32, 125, 32, 114, 101, 116, 117, 114, 110, 32, 101, 114, 114, 32, 125, 32, 125] := rfl

/-! ### outside the quantifier (recorded, not part of the claim) -/

/-- With zero decoders every call returns `nil` without writing a record: `report`/`encode`
would never see an end. -/
theorem rr_zero_decoders_endless {α} (k seq : Nat) :
    (calls k (⟨[], seq⟩ : RR α)).1 = List.replicate k .nothing := by
  induction k with
  | zero => rfl
  | succ k ih => simp only [calls, rrDecode, rrLoop, List.length_nil, List.replicate_succ, ih]

/-- A failing call of one input is skipped silently when another input still has a record. -/
example : (calls 3 (RR.init [[Item.bad 7, Item.ok 1], [Item.ok 2]])).1 =
    [Step.got 1 2, Step.got 0 1, Step.err 0] := by decide

/-! ### non-vacuity -/

example : drain 10 (RR.init (ofInputs [[1, 2, 3], [], [4], [5, 6]])) =
    ([(0, 1), (2, 4), (3, 5), (0, 2), (3, 6), (0, 3)], ⟨ofInputs [[], [], [], []], 13⟩, some eEOF) := by decide

example : (0 : Nat) < ([[1, 2, 3], [], [4], [5, 6]] : List (List Nat)).length ∧
    ([[1, 2, 3], [], [4], [5, 6]] : List (List Nat)).flatten.length < 10 ∧
    0 + ([[1, 2, 3], [], [4], [5, 6]] : List (List Nat)).length * 10 < two64 := by decide

example : ([[1, 2, 3], [], [4], [5, 6]] : List (List Nat)).flatten.Perm [[1, 2, 3, 4, 5, 6]].flatten := by decide

end Vegeta.Props.C13
