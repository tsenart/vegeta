/-
C04 — The attack loop obeys its pacer and its duration.
Every reachable state of the attack transition system, read for its main loop; the clock is abstract
and monotone (`advance d` may fire at any moment, `wake` only once the requested wait has elapsed).
-/
import Vegeta.Proofs.AttackInv
import Vegeta.Extracted.Facts
namespace Vegeta.Props.C04
open Vegeta.Model.Attack Vegeta.Proofs.Attack

variable {w m d : Nat} {s : St}

theorem aux_log_order : ∀ (l : List (Nat × Nat × Option Int)), LogOK l →
    l.reverse.map (·.2.1) = List.range l.length ∧ (l.reverse.map (·.1)).Pairwise (· ≤ ·)
  | [], _ => ⟨rfl, .nil⟩
  | (e, c, w) :: rest, ⟨hc, he, hr⟩ => by
    obtain ⟨ih1, ih2⟩ := aux_log_order rest hr
    simp only [List.reverse_cons, List.map_append, List.map_cons, List.map_nil, List.length_cons]
    refine ⟨by rw [ih1, List.range_succ, hc], List.pairwise_append.mpr ⟨ih2, List.pairwise_singleton _ _, ?_⟩⟩
    intro a ha b hb
    obtain ⟨y, hy, rfl⟩ := List.mem_map.mp ha
    cases List.mem_singleton.mp hb
    exact he y (List.mem_reverse.mp hy)

/-- **Before each hit the pacer is consulted with the true number of hits released so far
(0, 1, 2, …)**: the `hits` arguments of the consultations, oldest first, are `0, 1, …, k-1`. -/
theorem pace_called_with_true_count (h : Reachable w m d s) :
    s.paceLog.reverse.map (·.2.1) = List.range s.paceLog.length :=
  (aux_log_order _ (pace_reachable h).log).1

/-- **… exactly once per hit**: the number of consultations is the number of released hits, plus
one while a consultation is outstanding (or was abandoned by a stop). -/
theorem one_consult_per_release (h : Reachable w m d s) :
    s.releases.length = s.count ∧ s.count ≤ s.paceLog.length ∧ s.paceLog.length ≤ s.count + 1 :=
  ⟨(pace_reachable h).rel, (pace_reachable h).lenle⟩

/-- **… and a non-decreasing elapsed time measured from the attack's start.** -/
theorem elapsed_monotone (h : Reachable w m d s) : (s.paceLog.reverse.map (·.1)).Pairwise (· ≤ ·) :=
  (aux_log_order _ (pace_reachable h).log).2

/-- **The elapsed time handed to the pacer is the true one**: a consultation happens at the
current clock value, which is never earlier than any hit released before it (so time the loop
spent blocked handing over the previous hit is included). -/
theorem consult_not_before_previous_releases (h : Reachable w m d s) (s' : St) (wt : Int)
    (hp : step s (.paceWait wt) = some s') :
    ∃ rest, s'.paceLog = (s.now, s.count, some wt) :: rest ∧ ∀ r ∈ s.releases, r ≤ s.now := by
  cases step_rule hp with
  | paceWait _ _ _ => exact ⟨s.paceLog, rfl, (pace_reachable h).relnow⟩

/-- **No hit starts earlier than the wait the pacer returned for it**: whenever a tick is handed
to a worker, the latest consultation was made with the current count, returned a wait `w`
(not stop), and at least `w` has elapsed since it. -/
theorem no_early_start (h : Reachable w m d s) (s' : St) (ht : step s .tick = some s') :
    ∃ e wt rest, s.paceLog = (e, s.count, some wt) :: rest ∧ e + wt.toNat ≤ s.now := by
  cases step_rule ht with
  | tick hpc _ =>
    obtain ⟨e, wt, rest, h1, _, h3⟩ := (pace_reachable h).pend (.inr hpc)
    exact ⟨e, wt, rest, h1, h3 (by rcases hpc with h | h <;> rw [h] <;> nofun)⟩

/-- **At no moment have more hits started than the pacer has released.** -/
theorem started_le_released (h : Reachable w m d s) : s.seq ≤ s.count ∧ s.hits.length ≤ s.releases.length := by
  have c := core_reachable h
  have h1 : s.seq ≤ s.count := by rw [c.cnt]; exact Nat.le_add_left _ _
  exact ⟨h1, by rw [(pace_reachable h).rel, ← c.seqlen]; exact h1⟩

/-- **When a duration is set, the pacer is never consulted once more than that duration has
elapsed.** -/
theorem no_consult_after_deadline (h : Reachable w m d s) (hd : s.du > 0) : ∀ x ∈ s.paceLog, x.1 ≤ s.du :=
  (pace_reachable h).dead hd

/-- **… so at most the one hit whose wait had already been requested is released after the
deadline.** -/
theorem at_most_one_late_release (h : Reachable w m d s) (hd : s.du > 0) :
    (s.releases.filter (fun r => decide (r > s.du))).length ≤ 1 :=
  (pace_reachable h).late1 hd

/-- **When the pacer says stop no further hit is released**: once the latest consultation
answered stop, no tick can be handed over any more, and the loop is in its closing sequence. -/
theorem pacer_stop_is_final (h : Reachable w m d s) (hs : ∃ e c rest, s.paceLog = (e, c, none) :: rest) :
    step s .tick = none ∧ (s.pc = .closeTicks ∨ afterCloseTicks s.pc = true) := by
  have hc := (pace_reachable h).stopFin hs
  refine ⟨?_, hc⟩
  cases ht : step s .tick with
  | none => rfl
  | some s' =>
    cases step_rule ht with
    | tick hpc _ => rcases hpc with h | h <;> rw [h] at hc <;> rcases hc with h | h <;> cases h

/-- **After the deadline the loop enters its closing sequence**: at `pace` the pacer is not consulted
and `deadline` goes to `closeTicks`.  Pacer stop: `pacer_stop_is_final`; the end: `C02.closing_terminates`. -/
theorem deadline_enters_closing (s' : St) (hpc : s.pc = .pace) (hpast : pastDeadline s = true) :
    (∀ wt, step s (.paceWait wt) = none) ∧ step s .paceStop = none ∧
    (step s .deadline = some s' → s'.pc = .closeTicks) := by
  refine ⟨by intro wt; simp [step, hpast], by simp [step, hpast], ?_⟩
  intro h; simp [step, hpc, hpast] at h; subst h; rfl

/-- **Every hit the pacer released is carried out — none is parked and forgotten**: at every
moment the hits released are exactly those that hold a tick, are in the critical section, or have
been given a sequence number; and once the attack has ended (`done`) every released hit has started,
so the number of hits equals the number of releases (a buffered hand-off channel could strand one:
`facts_handoff_unbuffered`). -/
theorem released_hits_all_carried_out (h : Reachable w m d s) :
    s.count = s.got + csN s + s.seq ∧
    (s.pc = .done → s.hits.length = s.count ∧ s.releases.length = s.hits.length ∧ busyHits s = 0) := by
  have c := core_reachable h
  refine ⟨c.cnt, fun hd => ?_⟩
  obtain ⟨_, _, hgot, hcs, hb⟩ := c.quiet (hd ▸ rfl)
  have hcnt : s.count = s.hits.length := by have := c.cnt; have := c.seqlen; omega
  exact ⟨hcnt.symm, (pace_reachable h).rel.trans hcnt, hb⟩

/-- The hand-off channel `ticks` (and `results`) is unbuffered: a released hit is in a worker's hands the moment
the loop moves on (the model's `tick`), so "released" and "handed to a worker" coincide and nothing can be parked
between the loop and the workers.  (Same fact as `C02.facts_attack_channels`, listed per property.) -/
theorem facts_handoff_unbuffered : Vegeta.Extracted.attackChans =
    [[114, 101, 115, 117, 108, 116, 115, 32, 117, 110, 98, 117, 102, 102, 101, 114, 101, 100],  -- results unbuffered
     [116, 105, 99, 107, 115, 32, 117, 110, 98, 117, 102, 102, 101, 114, 101, 100]] := rfl  -- ticks unbuffered

/-! non-vacuity -/
example : (run (init 1 1 10) [.ready, .paceWait 4, .advance 4, .wake, .tick, .advance 7, .deadline]).map
    (fun s => (s.pc, s.paceLog.map (fun x => (x.1, x.2.1, x.2.2 == some 4)), s.releases, s.count))
    = some (.closeTicks, [(0, 0, true)], [4], 1) := by decide
example : (run (init 1 1 0) [.ready, .paceWait 0, .wake, .tick, .csEnter, .csLeave, .paceStop, .finish 0, .deliver 0,
    .closeTicks, .exit, .wgDone, .closeResults, .finalStop]).map
    (fun s => (s.pc, s.hits.length, s.count, s.releases.length)) = some (.done, 1, 1, 1) := by decide

end Vegeta.Props.C04
