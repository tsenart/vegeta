/-
C01 — Pacers keep the hit count on their declared schedule in closed loop.

Constant pacer (repaired code, /repo a5c2a38): every clause at full strength over ALL integer
parameter values of the Go types, all elapsed times, all hit counts, all stall histories of
unbounded length (`const_upper`, `const_lower`, `const_positive_wait_on_schedule`, `const_no_wrap`;
`schedule = Rate()·t` is in the exact part).  The three defects of the code before the repair stay
machine-checked on `constPaceOld` (`*_old_counterexample`).
Sine / linear pacers, in three layers: the decision structure of the code for ANY float operations
(`section floats`); the same code over exact arithmetic in a linearly ordered field (`exactOps`),
where the closed-loop upper bounds hold with the rounding of binary64 idealised away; over ℝ, the sine
schedule as an antiderivative of the sine rate at whole-nanosecond instants.  For a falling linear
rate the upper clause is REFUTED (`linear_negative_slope_counterexample`, F05) and proved up to the
last hit before the schedule tops out.  The old sine defect is kept on `sinePaceXOld`
(`sine_unconverged_old_witness`).  The lower clause is proved for the constant pacer only.
-/
import Vegeta.Model.Pacer
import Vegeta.Proofs.PacerArith
import Mathlib.Tactic.Linarith
import Mathlib.Tactic.Ring
import Mathlib.Tactic.FieldSimp
import Mathlib.Algebra.Order.Field.Basic
import Mathlib.Algebra.Order.Floor.Ring
import Mathlib.Data.Rat.Floor
import Mathlib.Analysis.SpecialFunctions.Trigonometric.Deriv
namespace Vegeta.Props.C01
open Vegeta.Go Vegeta.Model.Pacer

/-- The exact deadline of hit number `hits+1`: `⌈(hits+1)·Per/Freq⌉` nanoseconds after the start. -/
def constDue (freq per : Int) (hits : Nat) : Int := (((hits : Int) + 1) * per + freq - 1) / freq

/-- Parameters and hit count lie in the ranges of their Go types
(`Freq int`, `Per time.Duration`, `hits uint64`); `elapsed` is any integer. -/
structure InRange (freq per : Int) (hits : Nat) : Prop where
  freq : inS64 freq
  per : inS64 per
  hits : (hits : Int) < (two64 : Int)

/-- `Proofs.Guards.ite_ne` with the test available to each branch. -/
theorem aux_ite_ne_panic {c : Prop} [Decidable c] {a b : PaceOut} (ha : c → a ≠ .panic)
    (hb : ¬ c → b ≠ .panic) : (if c then a else b) ≠ .panic := by
  split
  · exact ha ‹_›
  · exact hb ‹_›

theorem aux_div64_eq_some {hi lo y : Int} (hy : y ≠ 0) (h : ¬ y ≤ hi) :
    div64 hi lo y = some ((hi * (two64 : Int) + lo).tdiv y) := by
  unfold div64; rw [if_neg (by omega)]

/-- `bits.Add64` of `y` to the low word of `x`, the carry added to the high word, leaves the two
words of `x + y` when that is a 128-bit value. -/
theorem aux_add128 {x y : Int} (h0 : 0 ≤ x + y) (h1 : (x + y) / (two64 : Int) < (two64 : Int)) :
    wrapU64 (x / (two64 : Int) + (x % (two64 : Int) + y) / (two64 : Int)) = (x + y) / (two64 : Int) ∧
    (x % (two64 : Int) + y) % (two64 : Int) = (x + y) % (two64 : Int) := by
  unfold wrapU64 two64 at *; omega

/-- Normal form of the repaired `constPace` for positive in-range parameters: the 128-bit
`Mul64/Add64/Div64` sequence computes `constDue` exactly and never overflows. -/
theorem aux_constPace_pos {freq per elapsed : Int} {hits : Nat}
    (hf : 0 < freq) (hp : 0 < per) (hf' : freq ≤ maxInt64) (hp' : per ≤ maxInt64)
    (hh : (hits : Int) < (two64 : Int)) :
    constPace freq per elapsed hits =
      if (hits : Int) = (two64 : Int) - 1 ∨ maxInt64 < constDue freq per hits then .stop
      else if constDue freq per hits ≤ elapsed then .wait 0
      else .wait (constDue freq per hits - max elapsed 0) := by
  have hM : maxInt64 < (two64 : Int) := by decide
  unfold constPace constDue
  rw [if_neg (by omega), if_neg (by omega), Int.add_sub_assoc]
  by_cases hmax : (hits : Int) = (two64 : Int) - 1
  · rw [if_pos hmax, if_pos (Or.inl hmax)]
  rw [if_neg hmax]
  simp only [wrapU64_id (x := (hits : Int) + 1) ⟨by omega, by omega⟩,
    wrapU64_id (x := per) ⟨by omega, by omega⟩, wrapU64_id (x := freq) ⟨by omega, by omega⟩,
    wrapU64_id (x := freq - 1) ⟨by omega, by omega⟩]
  -- the total `T = (hits+1)·Per + (Freq−1)` is a non-negative 128-bit value
  have hT0 : 0 ≤ ((hits : Int) + 1) * per + (freq - 1) :=
    Int.add_nonneg (Int.mul_nonneg (by omega) (Int.le_of_lt hp)) (by omega)
  have hT1 : (((hits : Int) + 1) * per + (freq - 1)) / (two64 : Int) < (two64 : Int) := by
    have : ((hits : Int) + 1) * per ≤ (two64 : Int) * maxInt64 :=
      Int.mul_le_mul (by omega) hp' (Int.le_of_lt hp) (by omega)
    unfold two64 at this ⊢; unfold maxInt64 at this hf'; omega
  obtain ⟨hhi, hlo⟩ := aux_add128 hT0 hT1
  rw [hhi, hlo]
  generalize ((hits : Int) + 1) * per + (freq - 1) = T at *
  by_cases hbig : freq ≤ T / (two64 : Int)
  · -- the quotient would not fit 64 bits: it is at least 2^64
    have h1 : (two64 : Int) ≤ T / freq := (Int.le_ediv_iff_mul_le hf).2
      (Int.mul_comm _ _ ▸ (Int.le_ediv_iff_mul_le (by omega)).1 hbig)
    rw [if_pos hbig, if_pos (Or.inr (by omega))]
  rw [if_neg hbig, aux_div64_eq_some (by omega) hbig, Int.ediv_mul_add_emod,
    Int.tdiv_eq_ediv_of_nonneg hT0]
  have hD0 : 0 ≤ T / freq := Int.ediv_nonneg hT0 (Int.le_of_lt hf)
  generalize T / freq = D at *
  simp only []
  by_cases hov : maxInt64 < D
  · rw [if_pos hov, if_pos (Or.inr hov)]
  rw [if_neg hov, if_neg (not_or.2 ⟨hmax, hov⟩), wrapS64_id ⟨by unfold minInt64; omega, by omega⟩]
  by_cases hle : D ≤ elapsed
  · rw [if_pos hle, if_pos hle]
  rw [if_neg hle, if_neg hle, wrapS64_id ⟨by unfold minInt64; omega, by omega⟩]
  congr 1
  omega

theorem aux_constDue_nonneg {freq per : Int} (hf : 0 < freq) (hp : 0 < per) (hits : Nat) :
    0 ≤ constDue freq per hits := by
  unfold constDue
  have : 0 ≤ ((hits : Int) + 1) * per := Int.mul_nonneg (by omega) (Int.le_of_lt hp)
  exact Int.ediv_nonneg (by omega) (Int.le_of_lt hf)

/-- "negative frequency/unit stops the attack" — for all elapsed times and hit counts
(a zero field takes precedence, see `const_zero_unlimited`). -/
theorem const_neg_stops (freq per elapsed : Int) (hits : Nat)
    (hf : freq ≠ 0) (hp : per ≠ 0) (hneg : freq < 0 ∨ per < 0) :
    constPace freq per elapsed hits = .stop := by
  unfold constPace
  rw [if_neg (by omega), if_pos (by omega)]

example : constPace (-1) 1000000000 1000000000 0 = .stop := by decide

/-- "a zero one means unlimited rate": the pacer never asks to wait and never stops. -/
theorem const_zero_unlimited (freq per elapsed : Int) (hits : Nat) (hz : freq = 0 ∨ per = 0) :
    constPace freq per elapsed hits = .wait 0 := by
  unfold constPace
  rw [if_pos (by omega)]

example : constPace 0 (-5) 17 3 = .wait 0 := by decide

/-- "No parameter values make a pacer panic": for every frequency of type `int`, every time
unit, every elapsed time and every hit count (`bits.Div64` is reached only with
`0 < y` and `hi < y`). -/
theorem const_never_panics (freq per elapsed : Int) (hits : Nat) (hf : inS64 freq) :
    constPace freq per elapsed hits ≠ .panic := by
  unfold constPace
  refine aux_ite_ne_panic (fun _ => nofun) fun h1 => aux_ite_ne_panic (fun _ => nofun) fun h2 =>
    aux_ite_ne_panic (fun _ => nofun) fun _ => ?_
  have w3 : wrapU64 freq = freq :=
    wrapU64_id (by unfold inU64 two64; unfold inS64 maxInt64 at hf; omega)
  simp only [w3]
  refine aux_ite_ne_panic (fun _ => nofun) fun hlt => ?_
  rw [aux_div64_eq_some (by omega) hlt]
  exact aux_ite_ne_panic (fun _ => nofun) fun _ => aux_ite_ne_panic (fun _ => nofun) fun _ => nofun

/-- Before the repair: `ConstantPacer{Freq: 2, Per: 1ns}.Pace(0, 0)` divided by zero. -/
theorem const_never_panics_old_counterexample : constPaceOld 2 1 0 0 = .panic := by decide

example : constPace 2 1 0 0 = .wait 1 := by decide

/-- "arithmetic overflow stops the attack instead of wrapping": for all parameters of the Go
types, all elapsed times and hit counts — the attack is stopped exactly when the deadline
`⌈(hits+1)·Per/Freq⌉` does not fit `int64` or the hit counter is at `MaxUint64`; otherwise the
wait is exactly `deadline − max(elapsed, 0)` (0 once the deadline has passed), a value of `int64`
with no wrap-around anywhere. -/
theorem const_no_wrap (freq per elapsed : Int) (hits : Nat) (hr : InRange freq per hits)
    (hf : 0 < freq) (hp : 0 < per) :
    (constPace freq per elapsed hits = .stop ↔
        (hits : Int) = (two64 : Int) - 1 ∨ maxInt64 < constDue freq per hits) ∧
    (∀ d, constPace freq per elapsed hits = .wait d →
        d = max 0 (constDue freq per hits - max elapsed 0) ∧ 0 ≤ d ∧ d ≤ maxInt64 ∧
        constDue freq per hits ≤ maxInt64) := by
  obtain ⟨hfr, hpr, hh⟩ := hr
  rw [aux_constPace_pos hf hp hfr.2 hpr.2 hh]
  have hdue0 := aux_constDue_nonneg hf hp hits
  refine ⟨⟨fun h => ?_, fun h => if_pos h⟩, fun d h => ?_⟩
  · split at h
    · assumption
    · split at h <;> exact absurd h PaceOut.noConfusion
  · split at h
    · exact absurd h PaceOut.noConfusion
    · split at h <;> (injection h with h; omega)

/-- Before the repair: `{1, MaxInt64/10}.Pace(0, 10)` returned a wrapped negative wait although
`(hits+1)·interval > MaxInt64` (guard off by one). -/
theorem const_no_wrap_old_counterexample :
    ∃ d, constPaceOld 1 922337203685477580 0 10 = .wait d ∧ d < 0 ∧
      maxInt64 < ((10 : Nat) + 1 : Int) * (922337203685477580 / 1) :=
  ⟨-8301034833169298236, by decide⟩

example : constPace 1 922337203685477580 0 10 = .stop := by decide
example : constPace 1 1000000000 1000000000 2 = .wait 2000000000 := by decide
example : constPace 1 3600000000000 9223372036854775807 2562048 = .stop := by decide
example : InRange 2 1000000000 9 := by refine ⟨?_, ?_, ?_⟩ <;> decide

theorem aux_positive_wait (freq per elapsed : Int) (hits : Nat) (d : Int)
    (hr : InRange freq per hits)
    (h : constPace freq per elapsed hits = .wait d) (hd : 0 < d) :
    0 < freq ∧ 0 < per ∧ elapsed < constDue freq per hits ∧
      max elapsed 0 + d = constDue freq per hits := by
  by_cases hz : freq = 0 ∨ per = 0
  · rw [const_zero_unlimited _ _ _ _ hz] at h; injection h with h; omega
  by_cases hn : freq < 0 ∨ per < 0
  · rw [const_neg_stops _ _ _ _ (by omega) (by omega) hn] at h; exact absurd h PaceOut.noConfusion
  have hf : 0 < freq := by omega
  have hp : 0 < per := by omega
  obtain ⟨hd', _⟩ := (const_no_wrap freq per elapsed hits hr hf hp).2 d h
  exact ⟨hf, hp, by omega, by omega⟩

/-- The deadline is the CEILING of `(hits+1)·Per/Freq`: it is the least whole nanosecond at which
the schedule has reached the next count. -/
theorem const_due_iff (freq per : Int) (hits : Nat) (hf : 0 < freq) (τ : Int) :
    constDue freq per hits ≤ τ ↔ ((hits : Int) + 1) * per ≤ freq * τ := by
  unfold constDue
  rw [← Int.lt_add_one_iff, Int.ediv_lt_iff_lt_mul hf, Int.add_mul τ, Int.one_mul, Int.mul_comm τ]
  omega

/-- "the pacer asks for a positive wait only when the count is already on or ahead of that
schedule": a positive wait implies `hits + 1 > S(elapsed)` for the exact rational schedule
`S(t) = Freq·t/Per`, i.e. `hits ≥ ⌊S(elapsed)⌋` — all parameter values, elapsed times, hit counts. -/
theorem const_positive_wait_on_schedule (freq per elapsed : Int) (hits : Nat) (d : Int)
    (hr : InRange freq per hits)
    (h : constPace freq per elapsed hits = .wait d) (hd : 0 < d) :
    freq * elapsed < ((hits : Int) + 1) * per := by
  obtain ⟨hf, _, hlt, _⟩ := aux_positive_wait freq per elapsed hits d hr h hd
  exact not_le.1 (mt (const_due_iff freq per hits hf elapsed).2 (not_le.2 hlt))

/-- Every wait of the constant pacer — positive or the catch-up 0 — releases the next hit exactly
at the ceiling deadline: at `max(elapsed,0) + d` the schedule has reached `hits+1`
(`(hits+1)·Per ≤ Freq·(elapsed+d)`, so the count never runs ahead of the schedule, not even by a
fraction of a hit and also above one hit per nanosecond), and at no earlier instant of the wait
has it (`d` is the least such wait).  A deadline rounded to the NEAREST nanosecond would break the
first half. -/
theorem const_deadline_is_ceiling (freq per elapsed : Int) (hits : Nat) (d : Int)
    (hr : InRange freq per hits) (hf : 0 < freq) (hp : 0 < per)
    (h : constPace freq per elapsed hits = .wait d) :
    ((hits : Int) + 1) * per ≤ freq * (max elapsed 0 + d) ∧
    (∀ τ : Int, τ < max elapsed 0 + d → 0 < d → freq * τ < ((hits : Int) + 1) * per) := by
  obtain ⟨hd, _⟩ := (const_no_wrap freq per elapsed hits hr hf hp).2 d h
  exact ⟨(const_due_iff freq per hits hf _).1 (by omega),
    fun τ hτ hd0 => not_le.1 ((const_due_iff freq per hits hf τ).not.1 (by omega))⟩

example : constPace 3 10 0 0 = .wait 4 := by decide
example : ¬ (((0 : Nat) : Int) + 1) * 10 ≤ 3 * 3 := by decide   -- the nearest nanosecond (3) is too early

/-- Contrapositive of `const_positive_wait_on_schedule`, as the statement puts it: "an attacker that fell behind is told to catch up
without waiting". -/
theorem const_behind_no_wait (freq per elapsed : Int) (hits : Nat) (d : Int)
    (hr : InRange freq per hits)
    (hbehind : ((hits : Int) + 1) * per ≤ freq * elapsed)
    (h : constPace freq per elapsed hits = .wait d) : d ≤ 0 :=
  not_lt.1 fun hd => not_le.2 (const_positive_wait_on_schedule freq per elapsed hits d hr h hd) hbehind

/-- "the count never falls more than one hit (plus one nanosecond of quantisation per hit
interval) behind the schedule at the instants hits are released": at the release instant the pacer
prescribes, `tr = max(elapsed,0) + d`, the schedule has reached the new count and has passed it by
less than the one nanosecond of rounding: `hits+1 ≤ S(tr) < hits+1 + Freq/Per`. -/
theorem const_lower (freq per elapsed : Int) (hits : Nat) (d : Int)
    (hr : InRange freq per hits)
    (h : constPace freq per elapsed hits = .wait d) (hd : 0 < d) :
    ((hits : Int) + 1) * per ≤ freq * (max elapsed 0 + d) ∧
    freq * (max elapsed 0 + d) < ((hits : Int) + 1) * per + freq := by
  obtain ⟨hf, _, _, heq⟩ := aux_positive_wait freq per elapsed hits d hr h hd
  rw [heq]
  have h1 := (const_due_iff freq per hits hf _).1 (le_refl _)
  have h2 := (const_due_iff freq per hits hf (constDue freq per hits - 1)).not.1 (by omega)
  rw [Int.mul_sub, Int.mul_one] at h2
  exact ⟨h1, by omega⟩

example : constPace 2 1000000000 4900000000 9 = .wait 100000000 := by decide
example : constPace 3 10 (-5) 0 = .wait 4 := by decide

/-- Invariants of the pacer's answers lift to every state of every closed-loop run, for any
pacer, any stall history, any length. -/
theorem closedLoop_invariant (p : Int → Nat → PaceOut) (Inv : Int → Nat → Prop)
    (hstep : ∀ (t : Int) (n : Nat) (d : Int) (s : Nat), Inv t n → p t n = .wait d →
      t + max d 0 + (s : Int) ≤ maxInt64 → Inv (t + max d 0 + (s : Int)) (n + 1)) :
    ∀ (stalls : List Nat) (t : Int) (n : Nat), Inv t n →
      ∀ x ∈ closedLoop p stalls t n, Inv x.1 x.2 := by
  intro stalls
  induction stalls with
  | nil => intro t n _ x hx; simp [closedLoop] at hx
  | cons s rest ih =>
    intro t n hinv x hx
    unfold closedLoop at hx
    split at hx
    · rename_i d hw
      simp only [] at hx
      split at hx
      · rename_i hle
        have hnext := hstep t n d s hinv hw hle
        rcases List.mem_cons.1 hx with rfl | h
        · exact hnext
        · exact ih _ _ hnext x h
      · simp at hx
    all_goals simp at hx

/-- Generic form of the upper clause: if every answer of a pacer releases the next hit no earlier
than a monotone schedule `S` reaches it (`n + 1 ≤ S (t + max d 0) + 1`), the count never exceeds the
schedule by more than one hit along any closed loop with any stall history. -/
theorem closedLoop_upper_of_contract (p : Int → Nat → PaceOut) (S : Int → Int)
    (hmono : ∀ a b : Int, a ≤ b → S a ≤ S b)
    (hcontract : ∀ (t : Int) (n : Nat) (d : Int), (n : Int) ≤ S t + 1 → p t n = .wait d →
      ((n + 1 : Nat) : Int) ≤ S (t + max d 0) + 1)
    (stalls : List Nat) (t0 : Int) (n0 : Nat) (h0 : (n0 : Int) ≤ S t0 + 1) :
    ∀ x ∈ closedLoop p stalls t0 n0, (x.2 : Int) ≤ S x.1 + 1 := by
  apply closedLoop_invariant p (fun t n => (n : Int) ≤ S t + 1) _ stalls t0 n0 h0
  intro t n d s hinv hw _
  have h1 := hcontract t n d hinv hw
  have h2 := hmono (t + max d 0) (t + max d 0 + (s : Int)) (by omega)
  omega

/-- "the number of hits issued by any elapsed time t never exceeds the pacer's declared cumulative
schedule by more than one hit": along EVERY closed loop — every positive frequency and unit of the
Go types (also more than one hit per nanosecond, also `Freq ∤ Per`), every stall history, every
length — the count never exceeds the exact schedule at all: `n_k ≤ S(t_k) = Freq·t_k/Per`. -/
theorem const_upper (freq per : Int) (hf : 0 < freq) (hp : 0 < per)
    (hf' : freq ≤ maxInt64) (hp' : per ≤ maxInt64) (stalls : List Nat) :
    ∀ x ∈ closedLoop (constPace freq per) stalls 0 0, (x.2 : Int) * per ≤ freq * x.1 := by
  have key := closedLoop_invariant (constPace freq per)
    (fun t n => 0 ≤ t ∧ (n : Int) < (two64 : Int) ∧ (n : Int) * per ≤ freq * t) ?_ stalls 0 0
    ⟨by omega, by unfold two64; omega, by simp⟩
  · intro x hx; exact (key x hx).2.2
  · intro t n d s ⟨ht0, hn, _⟩ hw _
    have hr : InRange freq per n :=
      ⟨⟨by unfold minInt64; omega, hf'⟩, ⟨by unfold minInt64; omega, hp'⟩, hn⟩
    -- at `MaxUint64` hits the pacer would have stopped
    have hmax : (n : Int) ≠ (two64 : Int) - 1 := fun hm => by
      rw [(const_no_wrap freq per t n hr hf hp).1.2 (Or.inl hm)] at hw
      exact PaceOut.noConfusion hw
    -- the hit is released at or after its deadline, and the schedule only grows during a stall
    have hdl := (const_deadline_is_ceiling freq per t n d hr hf hp hw).1
    rw [Int.max_eq_left ht0] at hdl
    have hmono : freq * (t + d) ≤ freq * (t + max d 0 + (s : Int)) :=
      Int.mul_le_mul_of_nonneg_left (by omega) (Int.le_of_lt hf)
    rw [Nat.cast_succ]
    exact ⟨by omega, by omega, by omega⟩

/-- The statement's form of the bound, `n_k ≤ S(t_k) + 1` (in units of `Rate()`: `const_upper_rate_form`). -/
theorem const_upper_plus_one (freq per : Int) (hf : 0 < freq) (hp : 0 < per)
    (hf' : freq ≤ maxInt64) (hp' : per ≤ maxInt64) (stalls : List Nat) :
    ∀ x ∈ closedLoop (constPace freq per) stalls 0 0, (x.2 : Int) * per ≤ freq * x.1 + per := by
  intro x hx
  have := const_upper freq per hf hp hf' hp' stalls x hx
  omega

/-- Before the repair: 3 hits per 10ns, no stalls: 11 hits at t = 33ns, S(33) = 9.9 (the truncated
interval ⌊Per/Freq⌋ ran ahead without bound whenever `Freq ∤ Per`). -/
theorem const_upper_old_counterexample :
    ∃ stalls, ∃ x ∈ closedLoop (constPaceOld 3 10) stalls 0 0,
      ¬ ((x.2 : Int) * 10 ≤ 3 * x.1 + 10) :=
  ⟨List.replicate 11 0, (33, 11), by decide, by decide⟩

example : ∃ x ∈ closedLoop (constPace 3 10) (List.replicate 11 0) 0 0, x = ((37 : Int), (11 : Nat)) := by
  decide
example : ∃ x ∈ closedLoop (constPace 2 10) [0, 7, 0] 0 0, x = ((17 : Int), (3 : Nat)) := by decide

/-- Along every closed loop no call panics (end reason 2 = panic), for all parameters. -/
theorem const_loop_never_panics (freq per : Int) (hf : inS64 freq) (stalls : List Nat) :
    ∀ (t : Int) (n : Nat), closedLoopEnd (constPace freq per) stalls t n ≠ 2 := by
  induction stalls with
  | nil => intro t n; simp [closedLoopEnd]
  | cons s rest ih =>
    intro t n
    unfold closedLoopEnd
    have hnp := const_never_panics freq per t n hf
    split
    · simp only []
      split
      · exact ih _ _
      · omega
    · omega
    · rename_i hpanic; exact absurd hpanic hnp

/-! ## Sine and linear pacers: decision structure, for ANY float operations -/

section floats
variable {F : Type} (o : FloatOps F)

/-- An invalid configuration (`Period ≤ 0`, mean rate `≤ 0`, amplitude `≥` mean) stops the attack. -/
theorem sine_invalid_stops (p : SineP F) (t : Int) (n : Nat) (h : sineInvalid o p = true) :
    sinePace o p t n = .stop := by
  unfold sinePace sinePaceX
  rw [if_pos h]

/-- "arithmetic overflow stops the attack": at `hits = MaxUint64` the sine pacer of a valid
configuration stops (commit 4a0988c), whatever the float operations do. -/
theorem sine_maxhits_stops (p : SineP F) (t : Int) (n : Nat) (hv : sineInvalid o p = false)
    (hn : (n : Int) = (two64 : Int) - 1) : sinePace o p t n = .stop := by
  unfold sinePace sinePaceX
  rw [if_neg (by simp [hv]), if_pos hn]

theorem aux_sineIter_converged (p : SineP F) (t : Int) (n : Nat) :
    ∀ (k : Nat) (g : Int), (sineIter o p t n k g).2 = true →
      o.lt (o.abs (sineErr o p t n (sineIter o p t n k g).1)) o.em3 = true := by
  intro k
  induction k with
  | zero => intro g h; simp [sineIter] at h
  | succ k ih =>
    intro g h
    unfold sineIter at h ⊢
    simp only [] at h ⊢
    split
    · rename_i hc; unfold sineErr; simpa using hc
    · rename_i hc
      rw [if_neg hc] at h
      exact ih _ h

theorem aux_sineIter_range (p : SineP F) (t : Int) (n : Nat) (hconv : ∀ x, inS64 (o.toInt64 x)) :
    ∀ (k : Nat) (g : Int), inS64 g → inS64 (sineIter o p t n k g).1 := by
  intro k
  induction k with
  | zero => intro g hg; simpa [sineIter] using hg
  | succ k ih =>
    intro g hg
    unfold sineIter
    simp only []
    split
    · exact hg
    · exact ih _ (hconv _)

/-- What a wait `w` with exit `e` answered by `SinePacer.Pace` is: 0 for an attacker behind the
schedule; otherwise a guess of the fixed-point loop that passed the 1e-3 test, or — when `hi` passed
the guard — the answer of the bisection of `[0, time.Duration(hi)]`. -/
def aux_SineWait (p : SineP F) (t : Int) (n : Nat) (w : Int) (e : SineExit) : Prop :=
  sineInvalid o p = false ∧
  (((n : Int) < o.toUInt64 (sineHits o p t) ∧ w = 0 ∧ e = .behind) ∨
   (¬ (n : Int) < o.toUInt64 (sineHits o p t) ∧
     ((w = (sineIter o p t n 5 (sineFirstGuess o p t n)).1 ∧
        o.lt (o.abs (sineErr o p t n w)) o.em3 = true ∧ e = .converged) ∨
      ((o.le o.zero (sineHi o p t n) &&
          o.lt (sineHi o p t n) (o.ofInt64 (wrapS64 (maxInt64 - t)))) = true ∧
        w = (sineBisect o p t n 64 0 (o.toInt64 (sineHi o p t n))).1 ∧
        e = (sineBisect o p t n 64 0 (o.toInt64 (sineHi o p t n))).2))))

theorem aux_sinePaceX_cases (p : SineP F) (t : Int) (n : Nat) :
    ((sinePaceX o p t n).1 = .stop ∧ (sinePaceX o p t n).2 ≠ .unconverged) ∨
    ∃ w e, sinePaceX o p t n = (.wait w, e) ∧ aux_SineWait o p t n w e := by
  unfold sinePaceX
  by_cases hv : sineInvalid o p = true
  · rw [if_pos hv]; exact Or.inl ⟨rfl, nofun⟩
  rw [if_neg hv]
  by_cases hmx : (n : Int) = (two64 : Int) - 1
  · rw [if_pos hmx]; exact Or.inl ⟨rfl, nofun⟩
  rw [if_neg hmx]
  have hv' : sineInvalid o p = false := by simpa using hv
  by_cases hb : (n : Int) < o.toUInt64 (sineHits o p t)
  · rw [if_pos hb]; exact Or.inr ⟨_, _, rfl, hv', Or.inl ⟨hb, rfl, rfl⟩⟩
  rw [if_neg hb]
  simp only []
  by_cases hc : (sineIter o p t n 5 (sineFirstGuess o p t n)).2 = true
  · rw [if_pos hc]
    exact Or.inr ⟨_, _, rfl, hv', Or.inr ⟨hb, Or.inl ⟨rfl, aux_sineIter_converged o p t n 5 _ hc, rfl⟩⟩⟩
  rw [if_neg hc]
  split
  · exact Or.inl ⟨rfl, nofun⟩
  · rename_i hg
    exact Or.inr ⟨_, _, rfl, hv', Or.inr ⟨hb, Or.inr ⟨by simpa using hg, rfl, rfl⟩⟩⟩

theorem aux_sinePaceX_wait (p : SineP F) (t : Int) (n : Nat) (w : Int) (e : SineExit)
    (h : sinePaceX o p t n = (.wait w, e)) : aux_SineWait o p t n w e := by
  rcases aux_sinePaceX_cases o p t n with ⟨hs, _⟩ | ⟨w', e', heq, hw⟩
  · rw [h] at hs; cases hs
  · rw [h] at heq; cases heq; exact hw

/-- The model of `SinePacer.Pace` answers `.panic` on no path, whatever the float operations do
(that float division, `math.Ceil` and the conversions are total is the model's decision, `FloatOps`). -/
theorem sine_never_panics (p : SineP F) (t : Int) (n : Nat) : sinePace o p t n ≠ .panic := by
  unfold sinePace
  rcases aux_sinePaceX_cases o p t n with ⟨hs, _⟩ | ⟨w, e, heq, _⟩
  · rw [hs]; exact PaceOut.noConfusion
  · rw [heq]; exact PaceOut.noConfusion

/-- A positive wait is returned only when the count has reached the schedule as computed:
`hits ≥ uint64(H(t))`, and the configuration is valid. -/
theorem sine_positive_wait_on_schedule (p : SineP F) (t : Int) (n : Nat) (d : Int)
    (h : sinePace o p t n = .wait d) (hd : 0 < d) :
    sineInvalid o p = false ∧ o.toUInt64 (sineHits o p t) ≤ (n : Int) := by
  obtain ⟨hv, ⟨_, hd0, _⟩ | ⟨hnb, _⟩⟩ := aux_sinePaceX_wait o p t n d _ (Prod.ext h rfl)
  · omega
  · exact ⟨hv, by omega⟩

/-- The bracket invariant of the bisection, as computed: the error at the lower end is positive
(`H(t+lo) < hits+1`), the error at the upper end is not (`hits+1 ≤ H(t+up)`, unless NaN). -/
def Bracket (p : SineP F) (t : Int) (n : Nat) (lo up : Int) : Prop :=
  o.lt o.zero (sineErr o p t n lo) = true ∧ o.lt o.zero (sineErr o p t n up) = false

/-- The three exits of the bisection and what each returns, by the branch conditions alone — NO
assumption on the float operations: a guess that passed the 1e-3 test; the upper end of a bracket
at most 1ns wide, provided the bisection started from a bracket; or fuel ran out. -/
theorem aux_sineBisect_exits (p : SineP F) (t : Int) (n : Nat) :
    ∀ (k : Nat) (lo up : Int),
      ((sineBisect o p t n k lo up).2 = .bisected ∧
        o.lt (o.abs (sineErr o p t n (sineBisect o p t n k lo up).1)) o.em3 = true) ∨
      ((sineBisect o p t n k lo up).2 = .bracket ∧ (Bracket o p t n lo up →
        ∃ lo', Bracket o p t n lo' (sineBisect o p t n k lo up).1 ∧
          ¬ 1 < wrapS64 ((sineBisect o p t n k lo up).1 - lo'))) ∨
      (sineBisect o p t n k lo up).2 = .unconverged := by
  intro k
  induction k with
  | zero => intro lo up; exact Or.inr (Or.inr rfl)
  | succ k ih =>
    intro lo up
    unfold sineBisect
    split
    · simp only []
      split
      · rename_i hc; exact Or.inl ⟨rfl, hc⟩
      · split
        · rename_i hpos
          exact (ih _ _).imp id (Or.imp (And.imp_right fun f hinv => f ⟨hpos, hinv.2⟩) id)
        · rename_i hpos
          exact (ih _ _).imp id
            (Or.imp (And.imp_right fun f hinv => f ⟨hinv.1, by simpa using hpos⟩) id)
    · rename_i hw; exact Or.inr (Or.inl ⟨rfl, fun hinv => ⟨lo, hinv, hw⟩⟩)

/-- One iteration of the bisection of a bracket within `[0, MaxInt64]`: neither the width nor the
midpoint wraps. -/
theorem aux_sineBisect_succ (p : SineP F) (t : Int) (n : Nat) (k : Nat) (lo up : Int)
    (h0 : 0 ≤ lo) (h1 : lo ≤ up) (h2 : up ≤ maxInt64) :
    sineBisect o p t n (k + 1) lo up =
      if 1 < up - lo then
        if o.lt (o.abs (sineErr o p t n (lo + (up - lo) / 2))) o.em3 then
          (lo + (up - lo) / 2, .bisected)
        else if o.lt o.zero (sineErr o p t n (lo + (up - lo) / 2)) then
          sineBisect o p t n k (lo + (up - lo) / 2) up
        else sineBisect o p t n k lo (lo + (up - lo) / 2)
      else (up, .bracket) := by
  have hw : wrapS64 (up - lo) = up - lo :=
    wrapS64_id (by unfold inS64 minInt64; omega)
  have hhalf : (up - lo).tdiv 2 = (up - lo) / 2 := Int.tdiv_eq_ediv_of_nonneg (by omega)
  have hmid : wrapS64 (lo + (up - lo) / 2) = lo + (up - lo) / 2 :=
    wrapS64_id (by unfold inS64 minInt64; omega)
  rw [sineBisect, hw, hhalf, hmid]

theorem aux_sineBisect_inrange (p : SineP F) (t : Int) (n : Nat) :
    ∀ (j : Nat) (lo up : Int), 0 ≤ lo → lo ≤ up → up ≤ maxInt64 →
      lo ≤ (sineBisect o p t n j lo up).1 ∧ (sineBisect o p t n j lo up).1 ≤ up ∧
      ∀ k, j = k + 1 → up - lo ≤ 2 ^ k → (sineBisect o p t n j lo up).2 ≠ .unconverged := by
  intro j
  induction j with
  | zero => intro lo up _ h _; exact ⟨h, le_refl _, fun k hk => by omega⟩
  | succ j ih =>
    intro lo up h0 h1 h2
    -- either half `[lo', up']` of a bracket wider than 1 is a bracket of at most half the width
    have key : ∀ lo' up', lo ≤ lo' → lo' ≤ up' → up' ≤ up → 1 < up - lo →
        2 * (up' - lo') ≤ up - lo + 1 →
        lo ≤ (sineBisect o p t n j lo' up').1 ∧ (sineBisect o p t n j lo' up').1 ≤ up ∧
        ∀ k, j + 1 = k + 1 → up - lo ≤ 2 ^ k → (sineBisect o p t n j lo' up').2 ≠ .unconverged := by
      intro lo' up' hl hlu hu hw hhalf
      obtain ⟨r1, r2, r3⟩ := ih lo' up' (by omega) hlu (by omega)
      refine ⟨by omega, by omega, fun k hk hle => ?_⟩
      cases k with
      | zero => omega
      | succ k =>
        have hpow : (2 : Int) ^ (k + 1) = 2 ^ k * 2 := Int.pow_succ 2 k
        exact r3 k (by omega) (by omega)
    rw [aux_sineBisect_succ o p t n j lo up h0 h1 h2]
    split
    · rename_i hw
      split
      · exact ⟨by omega, by omega, fun _ _ _ => by simp⟩
      · split
        · exact key _ _ (by omega) (by omega) (le_refl _) hw (by omega)
        · exact key _ _ (le_refl _) (by omega) (by omega) hw (by omega)
    · exact ⟨h1, le_refl _, fun _ _ _ => by simp⟩

/-- With `0 ≤ lo ≤ up ≤ MaxInt64` and `up − lo ≤ 2^k`, `k+1` units of fuel are never used up:
the Go loop `for up-lo > 1` ends within 64 iterations, the model's fuel 64 is not a restriction. -/
theorem sine_bisect_fuel (p : SineP F) (t : Int) (n : Nat) :
    ∀ (k : Nat) (lo up : Int), 0 ≤ lo → lo ≤ up → up ≤ maxInt64 → up - lo ≤ 2 ^ k →
      (sineBisect o p t n (k + 1) lo up).2 ≠ .unconverged :=
  fun k lo up h0 h1 h2 h3 => (aux_sineBisect_inrange o p t n (k + 1) lo up h0 h1 h2).2.2 k rfl h3

/-- A return from inside the fixed-point loop is a converged one: the schedule at the prescribed
release instant is within 1e-3 hits of the new count, `|hits + 1 − H(t + wait)| < 1e-3`
(as computed). -/
theorem sine_converged_exit (p : SineP F) (t : Int) (n : Nat) (w : Int)
    (h : sinePaceX o p t n = (.wait w, .converged)) :
    o.lt (o.abs (sineErr o p t n w)) o.em3 = true := by
  obtain ⟨_, ⟨_, _, he⟩ | ⟨_, ⟨_, hcl, _⟩ | ⟨_, _, he⟩⟩⟩ := aux_sinePaceX_wait o p t n w _ h
  · cases he
  · exact hcl
  · -- the bisection has no `.converged` exit
    rcases aux_sineBisect_exits o p t n 64 0 (o.toInt64 (sineHi o p t n)) with
      ⟨hb, _⟩ | ⟨hb, _⟩ | hb <;> (rw [hb] at he; cases he)

/-- The two exits of the fallback.  For ANY float operations:
(1) a return from inside the bisection has `|hits+1 − H(t+w)| < 1e-3` as computed;
(2) a return at the end of the bisection gives the upper end `w` of a bracket `[lo, w]` at most 1ns
wide that satisfies the bracket invariant `err(lo) > 0 ∧ ¬ err(w) > 0` as computed, i.e.
`H(t+lo) < hits+1 ≤ H(t+w)` — PROVIDED the initial bracket `[0, hi]` satisfies it.
Hypotheses about the float operations: only that proviso (it holds when `hits+1 > H(t)`, which the
catch-up test has established, and `H` grows by at least `Mean−|Amp|` per ns); reading the computed
comparisons as statements about the real schedule needs `sub`/`lt`/`abs` to be sound, which is a
hypothesis of `sine_upper_partial`, not of this theorem. -/
theorem sine_bisect_exit (p : SineP F) (t : Int) (n : Nat) (w : Int) (e : SineExit)
    (h : sinePaceX o p t n = (.wait w, e)) :
    (e = .bisected → o.lt (o.abs (sineErr o p t n w)) o.em3 = true) ∧
    (e = .bracket → Bracket o p t n 0 (o.toInt64 (sineHi o p t n)) →
      ∃ lo, Bracket o p t n lo w ∧ ¬ 1 < wrapS64 (w - lo)) := by
  obtain ⟨_, ⟨_, _, rfl⟩ | ⟨_, ⟨_, _, rfl⟩ | ⟨_, rfl, rfl⟩⟩⟩ := aux_sinePaceX_wait o p t n w e h
  · exact ⟨nofun, nofun⟩
  · exact ⟨nofun, nofun⟩
  · rcases aux_sineBisect_exits o p t n 64 0 (o.toInt64 (sineHi o p t n)) with
      ⟨hb, hcl⟩ | ⟨hb, hbr⟩ | hb
    · exact ⟨fun _ => hcl, fun he => (by rw [hb] at he; cases he)⟩
    · exact ⟨fun he => (by rw [hb] at he; cases he), fun _ => hbr⟩
    · exact ⟨fun he => (by rw [hb] at he; cases he), fun he => (by rw [hb] at he; cases he)⟩

/-- The repaired code has no un-converged exit: whenever the bracket end `time.Duration(hi)` lies
in `[0, MaxInt64]` (which the guard `hi >= 0 && hi < float64(MaxInt64-elapsed)` is there to ensure),
every answer is one of: stop (invalid / no bracket), catch-up, converged, bisected, bracket. -/
theorem sine_no_unconverged_exit (p : SineP F) (t : Int) (n : Nat)
    (hrange : 0 ≤ o.toInt64 (sineHi o p t n) ∧ o.toInt64 (sineHi o p t n) ≤ maxInt64) :
    (sinePaceX o p t n).2 ≠ .unconverged := by
  rcases aux_sinePaceX_cases o p t n with ⟨_, hs⟩ | ⟨w, e, heq, _, hc⟩
  · exact hs
  · rw [heq]
    rcases hc with ⟨_, _, rfl⟩ | ⟨_, ⟨_, _, rfl⟩ | ⟨_, _, rfl⟩⟩
    · nofun
    · nofun
    · exact sine_bisect_fuel o p t n 63 0 _ (le_refl _) hrange.1 hrange.2
        (by have := hrange.2; unfold maxInt64 at this; omega)

theorem aux_sineBisect_answer (p : SineP F) (t : Int) (n : Nat) (up : Int) (h0 : 0 ≤ up)
    (h1 : up ≤ maxInt64) (hinit : Bracket o p t n 0 up) :
    0 ≤ (sineBisect o p t n 64 0 up).1 ∧ (sineBisect o p t n 64 0 up).1 ≤ up ∧
    (o.lt (o.abs (sineErr o p t n (sineBisect o p t n 64 0 up).1)) o.em3 = true ∨
      o.lt o.zero (sineErr o p t n (sineBisect o p t n 64 0 up).1) = false) := by
  obtain ⟨hr0, hr1, hfuel⟩ := aux_sineBisect_inrange o p t n 64 0 up (le_refl _) h0 h1
  refine ⟨hr0, hr1, ?_⟩
  rcases aux_sineBisect_exits o p t n 64 0 up with ⟨_, hcl⟩ | ⟨_, hbr⟩ | hb
  · exact Or.inl hcl
  · obtain ⟨lo, hbr, _⟩ := hbr hinit
    exact Or.inr hbr.2
  · exact absurd hb (hfuel 63 rfl (by unfold maxInt64 at h1; omega))

/-- "the number of hits issued by any elapsed time t never exceeds the pacer's declared cumulative
schedule by more than one hit", sine pacer.  For the cos-formula `H` itself that is a statement about
`sin`/`cos` and real analysis and is not proved; what is proved is the closed-loop bound for ANY
monotone schedule `S` (in hits) for which the float computation is sound at the points the pacer
returns.  Hypotheses about the float operations, all of them and nothing else:
  hbehind   the catch-up test is sound:   hits < uint64(H(t))            ⇒ hits+1 ≤ S(t)+1
  hclose    the 1e-3 test is sound:       |hits+1 − H(t+w)| < 1e-3       ⇒ hits+1 ≤ S(t+w)+1
  hnonpos   the sign test is sound:       ¬ (hits+1 − H(t+w) > 0)        ⇒ hits+1 ≤ S(t+w)+1
  hinit     `[0, hi]` is a bracket whenever the fallback is reached (H grows ≥ Mean−|Amp| per ns)
  hrange    `time.Duration(hi)` lies in [0, MaxInt64]
No hypothesis excludes an un-converged exit: the repaired code has none within this range
(`sine_bisect_fuel`). -/
theorem sine_upper_partial (p : SineP F) (S : Int → Int)
    (hmono : ∀ a b : Int, a ≤ b → S a ≤ S b)
    (hbehind : ∀ (t : Int) (n : Nat), (n : Int) < o.toUInt64 (sineHits o p t) →
      ((n : Int) + 1) ≤ S t + 1)
    (hclose : ∀ (t : Int) (n : Nat) (w : Int),
      o.lt (o.abs (sineErr o p t n w)) o.em3 = true → ((n : Int) + 1) ≤ S (t + max w 0) + 1)
    (hnonpos : ∀ (t : Int) (n : Nat) (w : Int),
      o.lt o.zero (sineErr o p t n w) = false → ((n : Int) + 1) ≤ S (t + max w 0) + 1)
    (hinit : ∀ (t : Int) (n : Nat), ¬ (n : Int) < o.toUInt64 (sineHits o p t) →
      Bracket o p t n 0 (o.toInt64 (sineHi o p t n)))
    (hrange : ∀ (t : Int) (n : Nat),
      0 ≤ o.toInt64 (sineHi o p t n) ∧ o.toInt64 (sineHi o p t n) ≤ maxInt64)
    (stalls : List Nat) (h0 : 0 ≤ S 0 + 1) :
    ∀ x ∈ closedLoop (sinePace o p) stalls 0 0, (x.2 : Int) ≤ S x.1 + 1 := by
  apply closedLoop_upper_of_contract (sinePace o p) S hmono _ stalls 0 0 (by simpa using h0)
  intro t n d _ hw
  rw [Nat.cast_succ]
  obtain ⟨_, ⟨hb, hd, _⟩ | ⟨hnb, ⟨_, hcl, _⟩ | ⟨_, hd, _⟩⟩⟩ :=
    aux_sinePaceX_wait o p t n d _ (Prod.ext hw rfl)
  · rw [hd]; simpa using hbehind t n hb
  · exact hclose t n d hcl
  · obtain ⟨_, _, hans⟩ := aux_sineBisect_answer o p t n _ (hrange t n).1 (hrange t n).2 (hinit t n hnb)
    rw [← hd] at hans
    exact hans.elim (hclose t n d) (hnonpos t n d)

/-- Zero `StartAt` frequency/unit: unlimited rate. -/
theorem linear_zero_unlimited (p : LinearP F) (t : Int) (n : Nat) (hz : p.per = 0 ∨ p.freq = 0) :
    linearPace o p t n = .wait 0 := by
  unfold linearPace
  rw [if_pos hz]

/-- Negative `StartAt` frequency/unit stops the attack. -/
theorem linear_invalid_stops (p : LinearP F) (t : Int) (n : Nat)
    (hz : p.per ≠ 0 ∧ p.freq ≠ 0) (hneg : p.per < 0 ∨ p.freq < 0) :
    linearPace o p t n = .stop := by
  unfold linearPace
  rw [if_neg (by omega), if_pos hneg]

/-- The product `interval · delta` of `LinearPacer.Pace` as computed. -/
def aux_linearWaitF (p : LinearP F) (t : Int) (n : Nat) : F :=
  o.mul (o.round (o.div o.e9 (linearRate o p t)))
    (o.sub (o.ofUInt64 (wrapU64 ((n : Int) + 1))) (linearHits o p t))

/-- `LinearPacer.Pace` for a positive `StartAt`, as a chain of its tests: catch-up; the guard
`n != 0 && math.MaxInt64/n < hits` on `n = uint64(interval)` (the division happens only behind
`n != 0`, so nothing panics); the integer limits of commit 4a0988c; the first-order wait. -/
theorem aux_linearPace_pos (p : LinearP F) (t : Int) (n : Nat) (hf : 0 < p.freq) (hp : 0 < p.per) :
    linearPace o p t n =
      if n = 0 ∨ (n : Int) < o.toUInt64 (linearHits o p t) then .wait 0
      else if o.toUInt64 (o.round (o.div o.e9 (linearRate o p t))) ≠ 0 ∧
          maxInt64.tdiv (o.toUInt64 (o.round (o.div o.e9 (linearRate o p t)))) < (n : Int) then .stop
      else if (n : Int) = (two64 : Int) - 1 ∨
          o.le (o.ofInt64 maxInt64) (aux_linearWaitF o p t n) = true then .stop
      else .wait (o.toInt64 (aux_linearWaitF o p t n)) := by
  unfold linearPace udiv aux_linearWaitF
  rw [if_neg (by omega), if_neg (by omega)]
  simp only []
  by_cases hb : n = 0 ∨ (n : Int) < o.toUInt64 (linearHits o p t)
  · rw [if_pos hb, if_pos hb]
  · rw [if_neg hb, if_neg hb]
    generalize o.toUInt64 (o.round (o.div o.e9 (linearRate o p t))) = N
    by_cases hN : N = 0
    · rw [if_neg (not_not.2 hN), if_neg (fun h : N ≠ 0 ∧ maxInt64.tdiv N < (n : Int) => h.1 hN)]
    · rw [if_pos hN, if_neg hN]
      by_cases hq : maxInt64.tdiv N < (n : Int)
      · rw [if_pos (And.intro hN hq)]; simp [hq]
      · rw [if_neg (fun h : N ≠ 0 ∧ maxInt64.tdiv N < (n : Int) => hq h.2)]; simp [hq]

/-- `LinearPacer.Pace` never panics: its only partial operation, `math.MaxInt64/n`, is guarded
by `n != 0`. -/
theorem linear_never_panics (p : LinearP F) (t : Int) (n : Nat) : linearPace o p t n ≠ .panic := by
  by_cases hz : p.per = 0 ∨ p.freq = 0
  · rw [linear_zero_unlimited o p t n hz]; exact PaceOut.noConfusion
  by_cases hneg : p.per < 0 ∨ p.freq < 0
  · rw [linear_invalid_stops o p t n (by omega) hneg]; exact PaceOut.noConfusion
  rw [aux_linearPace_pos o p t n (by omega) (by omega)]
  exact aux_ite_ne_panic (fun _ => nofun) fun _ => aux_ite_ne_panic (fun _ => nofun) fun _ =>
    aux_ite_ne_panic (fun _ => nofun) fun _ => nofun

theorem aux_linearPace_wait (p : LinearP F) (t : Int) (n : Nat) (d : Int)
    (hf : 0 < p.freq) (hp : 0 < p.per) (h : linearPace o p t n = .wait d) :
    ((n = 0 ∨ (n : Int) < o.toUInt64 (linearHits o p t)) ∧ d = 0) ∨
    (¬ (n = 0 ∨ (n : Int) < o.toUInt64 (linearHits o p t)) ∧ (n : Int) ≠ (two64 : Int) - 1 ∧
      o.le (o.ofInt64 maxInt64) (aux_linearWaitF o p t n) = false ∧
      d = o.toInt64 (aux_linearWaitF o p t n)) := by
  rw [aux_linearPace_pos o p t n hf hp] at h
  split at h
  · rename_i hb; exact Or.inl ⟨hb, (PaceOut.wait.inj h).symm⟩
  · rename_i hb
    split at h
    · exact absurd h PaceOut.noConfusion
    · split at h
      · exact absurd h PaceOut.noConfusion
      · rename_i hns
        exact Or.inr ⟨hb, fun hm => hns (Or.inl hm), Bool.eq_false_iff.2 (fun hc => hns (Or.inr hc)),
          (PaceOut.wait.inj h).symm⟩

/-- A positive wait is returned only when the count has reached the schedule as computed:
`hits ≥ uint64(H(t))` (and at least one hit was sent). -/
theorem linear_positive_wait_on_schedule (p : LinearP F) (t : Int) (n : Nat) (d : Int)
    (h : linearPace o p t n = .wait d) (hd : 0 < d) :
    n ≠ 0 ∧ o.toUInt64 (linearHits o p t) ≤ (n : Int) := by
  by_cases hz : p.per = 0 ∨ p.freq = 0
  · rw [linear_zero_unlimited o p t n hz] at h
    have := PaceOut.wait.inj h
    omega
  by_cases hneg : p.per < 0 ∨ p.freq < 0
  · rw [linear_invalid_stops o p t n (by omega) hneg] at h; exact absurd h PaceOut.noConfusion
  rcases aux_linearPace_wait o p t n d (by omega) (by omega) h with ⟨_, hd0⟩ | ⟨hnb, _⟩
  · omega
  · exact ⟨fun h0 => hnb (Or.inl h0), not_lt.1 (fun hlt => hnb (Or.inr hlt))⟩

/-- "arithmetic overflow stops the attack", linear pacer (sine: `sine_maxhits_stops`): at
`hits = MaxUint64` the only wait it answers is the catch-up 0. -/
theorem linear_maxhits_no_wait (p : LinearP F) (t : Int) (n : Nat) (d : Int)
    (hf : 0 < p.freq) (hp : 0 < p.per) (hn : (n : Int) = (two64 : Int) - 1)
    (h : linearPace o p t n = .wait d) :
    (n : Int) < o.toUInt64 (linearHits o p t) ∧ d = 0 := by
  rcases aux_linearPace_wait o p t n d hf hp h with ⟨hb, hd⟩ | ⟨_, hne, _⟩
  · rcases hb with h0 | hlt
    · rw [h0] at hn; unfold two64 at hn; omega
    · exact ⟨hlt, hd⟩
  · exact absurd hn hne

end floats

/-! Non-vacuity of the float theorems: a concrete instance (SoftF64 arithmetic, `sin = cos = 0`),
on which each exit of the sine pacer and a positive linear wait occur. -/
def nvOps : FloatOps F64 where
  ofInt64 := F64.ofInt
  ofUInt64 := F64.ofInt
  add := F64.add
  sub := F64.sub
  mul := F64.mul
  div := F64.div
  lt := F64.lt
  le := F64.le
  abs := F64.abs
  round := F64.round
  ceil := fun x => if x.isFinite then F64.ofInt (-(F64.floorInt (F64.neg x))) else x
  sin := fun _ => F64.posZero
  cos := fun _ => F64.posZero
  sq := fun x => F64.mul x x
  toInt64 := F64.toInt64
  toUInt64 := F64.toUInt64
  zero := F64.posZero
  one := F64.ofNat 1
  two := F64.ofNat 2
  pi := F64.ofDecimal 3141592653589793 (-15)
  twoPi := F64.ofDecimal 6283185307179586 (-15)
  e9 := F64.ofDecimal 1 9
  em3 := F64.ofDecimal 1 (-3)

def nvSine : SineP F64 :=
  { period := 1000000000, meanFreq := 100, meanPer := 1000000000, ampFreq := 50,
    ampPer := 1000000000, startAt := F64.posZero }

example : sinePaceX nvOps nvSine 0 0 = (.wait 10000000, .converged) := by decide +kernel
example : sinePaceX nvOps nvSine 1000000000 3 = (.wait 0, .behind) := by decide +kernel
example : sineInvalid nvOps { nvSine with ampFreq := 100 } = true := by decide +kernel

/-- 3 hits per 10ns, zero amplitude (a straight schedule, 0.3 hits/ns): whole-nanosecond guesses
cannot reach the 1e-3 target. -/
def nvSineFast : SineP F64 :=
  { period := 1000000000, meanFreq := 3, meanPer := 10, ampFreq := 0, ampPer := 10,
    startAt := F64.posZero }

/-- Before commit 7529829 the last guess was returned although it had not converged: 3ns, where
the schedule is at 0.9 < 1 hits — one hit released early, and so on for every hit. -/
theorem sine_unconverged_old_witness :
    sinePaceXOld nvOps nvSineFast 0 0 = (.wait 3, .unconverged) := by decide +kernel
/-- The repaired code bisects `[0, 4]` and returns the upper end of the 1ns bracket `[3, 4]`. -/
example : sinePaceX nvOps nvSineFast 0 0 = (.wait 4, .bracket) := by decide +kernel
example : Bracket nvOps nvSineFast 0 0 0 (nvOps.toInt64 (sineHi nvOps nvSineFast 0 0)) := by
  unfold Bracket; decide +kernel
example : linearPace nvOps { freq := 10, per := 1000000000, slope := F64.ofNat 1 } 1000000000 11
    = .wait 136363636 := by decide +kernel

/-! ## Exact arithmetic: the same code over a linearly ordered field

`exactOps` instantiates the float operations of the model with EXACT arithmetic over any linearly
ordered field `K` with a floor function (ℚ, ℝ): `+ − × ÷` are the field operations, `math.Round` is
the identity (no rounding of the interval), `math.Pow(x, 2) = x·x`, `math.Ceil` is the ceiling, the
float→integer conversions truncate toward zero with Go's out-of-range result (`MinInt64`), and
`sin`, `cos`, `π` are parameters.  Theorems about `linearPace (exactOps …)` and
`sinePaceX (exactOps …)` are theorems about the very same decision code, with the rounding errors of
binary64 idealised away (what remains: the truncation of waits to whole nanoseconds). -/

section exact
set_option linter.unusedSectionVars false
variable {K : Type} [Field K] [LinearOrder K] [IsStrictOrderedRing K] [FloorRing K]

/-- Field-valued form of `closedLoop_upper_of_contract` with additive slack `c` and a time horizon
`T ≤ MaxInt64`: the contract may use that virtual time is non-negative and has not passed `T`, the
schedule need be monotone up to `T` only; the bound is obtained for every state up to `T` (every
state has `t ≤ MaxInt64`). -/
theorem closedLoop_upper_of_contract_field (p : Int → Nat → PaceOut) (S : Int → K) (c : K) (T : Int)
    (_hT : T ≤ maxInt64)
    (hmono : ∀ a b : Int, 0 ≤ a → a ≤ b → b ≤ T → S a ≤ S b)
    (hcontract : ∀ (t : Int) (n : Nat) (d : Int), 0 ≤ t → t + max d 0 ≤ T →
      (n : K) ≤ S t + c → p t n = .wait d → (n : K) + 1 ≤ S (t + max d 0) + c)
    (stalls : List Nat) (h0 : 0 ≤ S 0 + c) :
    ∀ x ∈ closedLoop p stalls 0 0, x.1 ≤ maxInt64 ∧ (x.1 ≤ T → (x.2 : K) ≤ S x.1 + c) := by
  have key := closedLoop_invariant p
    (fun t n => 0 ≤ t ∧ t ≤ maxInt64 ∧ (t ≤ T → (n : K) ≤ S t + c)) ?_ stalls 0 0
    ⟨le_refl _, by unfold maxInt64; omega, fun _ => by simpa using h0⟩
  · intro x hx; exact (key x hx).2
  · intro t n d s ⟨ht, _, hinv⟩ hw hle
    have hs : (0 : Int) ≤ (s : Int) := Int.natCast_nonneg _
    have hm : (0 : Int) ≤ max d 0 := le_max_right _ _
    refine ⟨by omega, hle, ?_⟩
    intro hTle
    have h1 := hcontract t n d ht (by omega) (hinv (by omega)) hw
    have h2 := hmono (t + max d 0) (t + max d 0 + (s : Int)) (by omega) (by omega) hTle
    rw [Nat.cast_succ]
    exact le_trans h1 (add_le_add h2 (le_refl _))

/-- truncation toward zero -/
def truncK (x : K) : Int := if 0 ≤ x then ⌊x⌋ else ⌈x⌉

/-- Go/amd64 `int64(f)`: truncation, `MinInt64` when out of range. -/
def toI64K (x : K) : Int :=
  if minInt64 ≤ truncK x ∧ truncK x ≤ maxInt64 then truncK x else minInt64

theorem aux_toI64K_floor (x : K) (h0 : 0 ≤ x) (h1 : x < ((two63 : Nat) : K)) :
    toI64K x = ⌊x⌋ := by
  have hfl0 : (0 : Int) ≤ ⌊x⌋ := Int.floor_nonneg.2 h0
  have hfl1 : ⌊x⌋ < ((two63 : Nat) : Int) := Int.floor_lt.2 (by rwa [Int.cast_natCast])
  unfold toI64K truncK
  rw [if_pos h0, if_pos ⟨by unfold minInt64; omega, by unfold two63 at hfl1; unfold maxInt64; omega⟩]

theorem aux_toI64K_nonneg (y : K) (h0 : 0 ≤ y) (h : ¬ toI64K y < 0) : toI64K y = ⌊y⌋ := by
  unfold toI64K truncK at h ⊢
  rw [if_pos h0] at h ⊢
  split
  · rfl
  · rename_i hr; rw [if_neg hr] at h; unfold minInt64 at h; omega

theorem aux_toI64K_range (x : K) : inS64 (toI64K x) := by
  unfold toI64K inS64
  split
  · assumption
  · unfold minInt64 maxInt64; omega

theorem aux_toI64K_intCast (z : Int) (hz : inS64 z) : toI64K ((z : Int) : K) = z := by
  unfold inS64 at hz
  unfold toI64K truncK
  split <;> simp [hz.1, hz.2]

/-- Go/amd64 `uint64(f)`: below 2^63 the signed conversion reinterpreted, otherwise
`int64(f − 2^63) | 1<<63`. -/
def toU64K (x : K) : Int :=
  if x < ((two63 : Nat) : K) then wrapU64 (toI64K x)
  else if toI64K (x - ((two63 : Nat) : K)) < 0 then (two63 : Int)
  else toI64K (x - ((two63 : Nat) : K)) + (two63 : Int)

theorem aux_toU64K_floor (x : K) (h0 : 0 ≤ x) (h1 : x < ((two63 : Nat) : K)) :
    toU64K x = ⌊x⌋ := by
  have hr : inS64 ⌊x⌋ := aux_toI64K_floor x h0 h1 ▸ aux_toI64K_range x
  unfold toU64K
  rw [if_pos h1, aux_toI64K_floor x h0 h1]
  exact wrapU64_id ⟨Int.floor_nonneg.2 h0, by unfold inS64 maxInt64 at hr; unfold two64; omega⟩

theorem aux_toU64K_floor64 (x : K) (h0 : 0 ≤ x) (h1 : x < ((two64 : Nat) : K)) :
    toU64K x = ⌊x⌋ := by
  by_cases h63 : x < ((two63 : Nat) : K)
  · exact aux_toU64K_floor x h0 h63
  -- from 2^63 on: `int64(x − 2^63)` is a floor, and the high bit is added back
  have hy0 : 0 ≤ x - ((two63 : Nat) : K) := sub_nonneg.2 (not_lt.1 h63)
  have hy1 : x - ((two63 : Nat) : K) < ((two63 : Nat) : K) := by
    have h64 : ((two64 : Nat) : K) = ((two63 : Nat) : K) + ((two63 : Nat) : K) := by
      unfold two64 two63; norm_num
    exact sub_lt_iff_lt_add.2 (h64 ▸ h1)
  have hnn : (0 : Int) ≤ ⌊x - ((two63 : Nat) : K)⌋ := Int.floor_nonneg.2 hy0
  unfold toU64K
  rw [if_neg h63, aux_toI64K_floor _ hy0 hy1, if_neg (by omega), Int.floor_sub_natCast]
  ring

theorem aux_toU64K_le (x : K) (h0 : 0 ≤ x) : ((toU64K x : Int) : K) ≤ x := by
  by_cases hlt : x < ((two63 : Nat) : K)
  · rw [aux_toU64K_floor x h0 hlt]; exact Int.floor_le x
  · have hy : 0 ≤ x - ((two63 : Nat) : K) := sub_nonneg.2 (not_lt.1 hlt)
    unfold toU64K
    rw [if_neg hlt]
    split
    · have : ((two63 : Int) : K) = ((two63 : Nat) : K) := by norm_cast
      rw [this]; exact not_lt.1 hlt
    · rename_i hneg
      rw [aux_toI64K_nonneg _ hy hneg]
      push_cast
      exact le_sub_iff_add_le.1 (Int.floor_le (x - ((two63 : Nat) : K)))

theorem aux_toU64K_neg (x : K) (h : x ≤ -1) : (two63 : Int) ≤ toU64K x ∧ toU64K x < (two64 : Int) := by
  have hx0 : x < 0 := lt_of_le_of_lt h (by norm_num)
  have hI : toI64K x ≤ -1 := by
    unfold toI64K truncK
    rw [if_neg (not_le.2 hx0)]
    split
    · exact Int.ceil_le.2 (by push_cast; exact h)
    · unfold minInt64; omega
  have hR := (aux_toI64K_range x).1
  unfold toU64K
  rw [if_pos (lt_of_lt_of_le hx0 (Nat.cast_nonneg _))]
  unfold minInt64 at hR
  unfold wrapU64 two64 two63
  omega

/-- The catch-up test `hits < uint64(H)` of both float pacers, read over exact arithmetic. -/
theorem aux_behind (x : K) (n : Nat) (h0 : 0 ≤ x) (h : (n : Int) < toU64K x) : (n : K) + 1 ≤ x := by
  have h1 : (((n : Int) + 1 : Int) : K) ≤ ((toU64K x : Int) : K) := Int.cast_le.2 h
  push_cast at h1
  exact le_trans h1 (aux_toU64K_le x h0)

theorem aux_not_behind (x : K) (n : Nat) (h0 : 0 ≤ x) (h1 : x < ((two64 : Nat) : K))
    (h : ¬ (n : Int) < toU64K x) : x < (n : K) + 1 := by
  rw [aux_toU64K_floor64 x h0 h1] at h
  have h2 : x < (((n : Int) + 1 : Int) : K) := Int.floor_lt.1 (by omega)
  push_cast at h2
  exact h2

def exactOps (sin cos : K → K) (pi : K) : FloatOps K where
  ofInt64 := fun i => (i : K)
  ofUInt64 := fun i => (i : K)
  add := (· + ·)
  sub := (· - ·)
  mul := (· * ·)
  div := (· / ·)
  lt := fun a b => decide (a < b)
  le := fun a b => decide (a ≤ b)
  abs := fun x => |x|
  round := id
  ceil := fun x => ((⌈x⌉ : Int) : K)
  sin := sin
  cos := cos
  sq := fun x => x * x
  toInt64 := toI64K
  toUInt64 := toU64K
  zero := 0
  one := 1
  two := 2
  pi := pi
  twoPi := 2 * pi
  e9 := 1000000000
  em3 := 1 / 1000

variable (sin cos : K → K) (pi : K)

theorem aux_exact_lt (a b : K) : (exactOps sin cos pi).lt a b = true ↔ a < b := decide_eq_true_iff

theorem aux_seconds_exact (t : Int) :
    seconds (exactOps sin cos pi) t = (t : K) / 1000000000 := by
  have h := congrArg (Int.cast (R := K)) (Int.mul_tdiv_add_tmod t 1000000000)
  push_cast at h
  rw [← h]
  simp only [seconds, exactOps]
  field_simp

/-- Constant pacer: the schedule of the statement, `S(t) = Freq·t/Per` (t in ns), is exactly
`Rate() · t` with `Rate()` in hits per second and `t` in seconds — the integral of the constant rate. -/
theorem const_schedule_is_rate_integral (freq per t : Int) (hp : per ≠ 0) :
    constRateOn (exactOps sin cos pi) freq per * seconds (exactOps sin cos pi) t
      = (freq : K) * (t : K) / (per : K) := by
  rw [aux_seconds_exact]
  unfold constRateOn hitsPerNs exactOps
  simp only []
  have : (per : K) ≠ 0 := by exact_mod_cast hp
  field_simp

/-- … so `const_upper` reads `n_k ≤ Rate()·t_k` in these units. -/
theorem const_upper_rate_form (freq per : Int) (hf : 0 < freq) (hp : 0 < per)
    (hf' : freq ≤ maxInt64) (hp' : per ≤ maxInt64) (stalls : List Nat) :
    ∀ x ∈ closedLoop (constPace freq per) stalls 0 0,
      (x.2 : K) ≤ constRateOn (exactOps sin cos pi) freq per * seconds (exactOps sin cos pi) x.1 := by
  intro x hx
  have h := const_upper freq per hf hp hf' hp' stalls x hx
  rw [const_schedule_is_rate_integral sin cos pi freq per x.1 (by omega)]
  have hpK : (0 : K) < (per : K) := by exact_mod_cast hp
  rw [le_div_iff₀ hpK]
  exact_mod_cast h

theorem aux_linear_closed_forms (p : LinearP K) (t : Int) :
    linearRate (exactOps sin cos pi) p t
      = p.slope * ((t : K) / 1000000000) + (p.freq : K) / (p.per : K) * 1000000000 ∧
    (0 ≤ t → linearHits (exactOps sin cos pi) p t
      = p.slope * ((t : K) / 1000000000) ^ 2 / 2
        + (p.freq : K) / (p.per : K) * 1000000000 * ((t : K) / 1000000000)) := by
  constructor
  · unfold linearRate linearB hitsPerNs
    rw [aux_seconds_exact]
    simp only [exactOps]
  · intro ht
    unfold linearHits linearB hitsPerNs
    rw [if_neg (by omega), aux_seconds_exact]
    simp only [exactOps]
    ring

/-- Linear pacer: the schedule the code computes is the integral of the rate the code computes —
`H(t₂) − H(t₁) = (x₂ − x₁)·(rate(t₁) + rate(t₂))/2` (trapezoid rule, exact for a linear rate) and
`H(0) = 0`. -/
theorem linear_schedule_is_rate_integral (p : LinearP K) (t1 t2 : Int) (h1 : 0 ≤ t1) (h2 : 0 ≤ t2) :
    linearHits (exactOps sin cos pi) p 0 = 0 ∧
    linearHits (exactOps sin cos pi) p t2 - linearHits (exactOps sin cos pi) p t1
      = (seconds (exactOps sin cos pi) t2 - seconds (exactOps sin cos pi) t1)
        * (linearRate (exactOps sin cos pi) p t1 + linearRate (exactOps sin cos pi) p t2) / 2 := by
  constructor
  · rw [(aux_linear_closed_forms sin cos pi p 0).2 (by omega)]; simp
  · rw [(aux_linear_closed_forms sin cos pi p t1).2 h1, (aux_linear_closed_forms sin cos pi p t2).2 h2,
      (aux_linear_closed_forms sin cos pi p t1).1, (aux_linear_closed_forms sin cos pi p t2).1,
      aux_seconds_exact, aux_seconds_exact]
    ring

theorem aux_linearPace_exact_wait (p : LinearP K) (hf : 0 < p.freq) (hp : 0 < p.per)
    (t : Int) (n : Nat) (d : Int) (hn : (n : Int) < (two64 : Int))
    (hrate : 0 < linearRate (exactOps sin cos pi) p t)
    (hH0 : 0 ≤ linearHits (exactOps sin cos pi) p t)
    (hH1 : linearHits (exactOps sin cos pi) p t < ((two64 : Nat) : K))
    (h : linearPace (exactOps sin cos pi) p t n = .wait d) :
    (d = 0 ∧ (n = 0 ∨ (n : K) + 1 ≤ linearHits (exactOps sin cos pi) p t)) ∨
    (0 < (n : K) + 1 - linearHits (exactOps sin cos pi) p t ∧
      d = ⌊1000000000 / linearRate (exactOps sin cos pi) p t
            * ((n : K) + 1 - linearHits (exactOps sin cos pi) p t)⌋ ∧ 0 ≤ d ∧ d < maxInt64) := by
  rcases aux_linearPace_wait (exactOps sin cos pi) p t n d hf hp h with ⟨hb, hd⟩ | ⟨hnb, _, hnov, hd⟩
  · exact Or.inl ⟨hd, hb.imp id (aux_behind _ n hH0)⟩
  · right
    have hδ := aux_not_behind _ n hH0 hH1 (fun hlt => hnb (Or.inr hlt))
    have hwrap : wrapU64 ((n : Int) + 1) = (n : Int) + 1 :=
      wrapU64_id (by unfold inU64; unfold two64 at *; omega)
    obtain ⟨H, hHdef⟩ : ∃ H, H = linearHits (exactOps sin cos pi) p t := ⟨_, rfl⟩
    obtain ⟨r, hrdef⟩ : ∃ r, r = linearRate (exactOps sin cos pi) p t := ⟨_, rfl⟩
    have hWF : aux_linearWaitF (exactOps sin cos pi) p t n = 1000000000 / r * ((n : K) + 1 - H) := by
      unfold aux_linearWaitF
      rw [hwrap, ← hrdef, ← hHdef]
      simp only [exactOps, id]
      push_cast
      rfl
    rw [← hHdef] at hδ ⊢
    rw [← hrdef] at hrate ⊢
    rw [hWF] at hd hnov
    have hW0 : 0 < 1000000000 / r * ((n : K) + 1 - H) :=
      mul_pos (div_pos (by norm_num) hrate) (sub_pos.2 hδ)
    -- the code stops when the product reaches `float64(MaxInt64)`; it answered with a wait
    have hWM : 1000000000 / r * ((n : K) + 1 - H) < ((maxInt64 : Int) : K) := by
      simpa [exactOps] using hnov
    have hdfl : d = ⌊1000000000 / r * ((n : K) + 1 - H)⌋ := by
      rw [hd]
      exact aux_toI64K_floor _ (le_of_lt hW0) (lt_trans hWM (by unfold maxInt64 two63; norm_num))
    refine ⟨sub_pos.2 hδ, hdfl, ?_, ?_⟩
    · rw [hdfl]; exact Int.floor_nonneg.2 (le_of_lt hW0)
    · rw [hdfl]; exact Int.floor_lt.2 hWM

theorem aux_linearRate_zero (p : LinearP K) :
    linearRate (exactOps sin cos pi) p 0 = (p.freq : K) / (p.per : K) * 1000000000 := by
  rw [(aux_linear_closed_forms sin cos pi p 0).1]; simp

theorem aux_linearRate_zero_pos (p : LinearP K) (hf : 0 < p.freq) (hp : 0 < p.per) :
    0 < linearRate (exactOps sin cos pi) p 0 := by
  rw [aux_linearRate_zero]
  exact mul_pos (div_pos (Int.cast_pos.2 hf) (Int.cast_pos.2 hp)) (by norm_num)

theorem aux_linearRate_mono (p : LinearP K) (t1 t2 : Int) (h : t1 ≤ t2) :
    (0 ≤ p.slope →
      linearRate (exactOps sin cos pi) p t1 ≤ linearRate (exactOps sin cos pi) p t2) ∧
    (p.slope ≤ 0 →
      linearRate (exactOps sin cos pi) p t2 ≤ linearRate (exactOps sin cos pi) p t1) := by
  rw [(aux_linear_closed_forms sin cos pi p t1).1, (aux_linear_closed_forms sin cos pi p t2).1]
  have hx : (t1 : K) / 1000000000 ≤ (t2 : K) / 1000000000 :=
    div_le_div_of_nonneg_right (Int.cast_le.2 h) (by norm_num)
  exact ⟨fun ha => add_le_add (mul_le_mul_of_nonneg_left hx ha) (le_refl _),
    fun ha => add_le_add (mul_le_mul_of_nonpos_left hx ha) (le_refl _)⟩

theorem aux_linearHits_bounds (p : LinearP K) (t : Int) (ht : 0 ≤ t)
    (h0 : 0 ≤ linearRate (exactOps sin cos pi) p 0 ∧ linearRate (exactOps sin cos pi) p 0 ≤ 1000000000)
    (h1 : 0 ≤ linearRate (exactOps sin cos pi) p t ∧ linearRate (exactOps sin cos pi) p t ≤ 1000000000) :
    0 ≤ linearHits (exactOps sin cos pi) p t ∧ linearHits (exactOps sin cos pi) p t ≤ (t : K) := by
  rw [aux_linearRate_zero] at h0
  rw [(aux_linear_closed_forms sin cos pi p t).1] at h1
  rw [(aux_linear_closed_forms sin cos pi p t).2 ht]
  have hx : (0 : K) ≤ (t : K) / 1000000000 := div_nonneg (Int.cast_nonneg ht) (by norm_num)
  have h := Proofs.PacerArith.quad_bounds hx h0 h1
  rwa [div_mul_cancel₀ _ (by norm_num : (1000000000 : K) ≠ 0)] at h

theorem aux_linearHits_mono (p : LinearP K) (t1 t2 : Int) (h1 : 0 ≤ t1) (h12 : t1 ≤ t2)
    (hr1 : 0 ≤ linearRate (exactOps sin cos pi) p t1) (hr2 : 0 ≤ linearRate (exactOps sin cos pi) p t2) :
    linearHits (exactOps sin cos pi) p t1 ≤ linearHits (exactOps sin cos pi) p t2 := by
  rw [(aux_linear_closed_forms sin cos pi p t1).1] at hr1
  rw [(aux_linear_closed_forms sin cos pi p t2).1] at hr2
  rw [(aux_linear_closed_forms sin cos pi p t1).2 h1, (aux_linear_closed_forms sin cos pi p t2).2 (by omega)]
  exact Proofs.PacerArith.quad_mono (div_le_div_of_nonneg_right (Int.cast_le.2 h12) (by norm_num)) hr1 hr2

theorem aux_linearHits_add (p : LinearP K) (t d : Int) (ht : 0 ≤ t) (hd : 0 ≤ d) :
    linearHits (exactOps sin cos pi) p (t + d) = (d : K) / 1000000000 * linearRate (exactOps sin cos pi) p t
      + p.slope * ((d : K) / 1000000000) ^ 2 / 2 + linearHits (exactOps sin cos pi) p t := by
  rw [(aux_linear_closed_forms sin cos pi p (t + d)).2 (by omega),
    (aux_linear_closed_forms sin cos pi p t).2 ht, (aux_linear_closed_forms sin cos pi p t).1]
  push_cast
  ring

/-- The closed-loop bound `n_k ≤ H(t_k) + 1` of the linear pacer over exact arithmetic for a slope
of either sign, up to a horizon `T`, from two facts about the declared rate on `[0, T]`: it stays
positive and at most one hit per nanosecond (so `0 ≤ H(t) ≤ t`, `H` is monotone, counters and
conversions stay in range), and one first-order step — a wait of `u` seconds with
`δ − rate/1e9 < u·rate ≤ δ` for the `δ = n+1−H(t) ≤ 2` hits to go — advances the schedule by at
least `δ − 1`. -/
theorem aux_linear_upper_of_step (p : LinearP K) (hf : 0 < p.freq) (hp : 0 < p.per)
    (T : Int) (hT : T ≤ maxInt64)
    (hrate : ∀ t : Int, 0 ≤ t → t ≤ T → 0 < linearRate (exactOps sin cos pi) p t ∧
      linearRate (exactOps sin cos pi) p t ≤ 1000000000)
    (hstep : ∀ (t : Int) (u δ : K), 0 ≤ t → t ≤ T → δ ≤ 2 → 0 ≤ u →
      u * linearRate (exactOps sin cos pi) p t ≤ δ →
      δ - linearRate (exactOps sin cos pi) p t / 1000000000 < u * linearRate (exactOps sin cos pi) p t →
      δ - 1 ≤ u * linearRate (exactOps sin cos pi) p t + p.slope * u ^ 2 / 2)
    (stalls : List Nat) :
    ∀ x ∈ closedLoop (linearPace (exactOps sin cos pi) p) stalls 0 0, x.1 ≤ T →
      (x.2 : K) ≤ linearHits (exactOps sin cos pi) p x.1 + 1 := by
  have hH : ∀ t : Int, 0 ≤ t → t ≤ T → 0 ≤ linearHits (exactOps sin cos pi) p t ∧
      linearHits (exactOps sin cos pi) p t ≤ (t : K) := by
    intro t ht0 ht1
    obtain ⟨h1, h2⟩ := hrate 0 (le_refl _) (by omega)
    obtain ⟨h3, h4⟩ := hrate t ht0 ht1
    exact aux_linearHits_bounds sin cos pi p t ht0 ⟨le_of_lt h1, h2⟩ ⟨le_of_lt h3, h4⟩
  intro x hx hxT
  refine (closedLoop_upper_of_contract_field (linearPace (exactOps sin cos pi) p)
    (linearHits (exactOps sin cos pi) p) 1 T hT ?_ ?_ stalls ?_ x hx).2 hxT
  · intro t1 t2 h1 h2 h3
    exact aux_linearHits_mono sin cos pi p t1 t2 h1 h2 (le_of_lt (hrate t1 h1 (by omega)).1)
      (le_of_lt (hrate t2 (by omega) h3).1)
  · intro t n d ht hle hinv hw
    have hm : (0 : Int) ≤ max d 0 := le_max_right _ _
    have htT : t ≤ T := by omega
    obtain ⟨hH0, hHt⟩ := hH t ht htT
    -- the count is a `uint64`: n ≤ H(t) + 1 ≤ t + 1 ≤ MaxInt64 + 1
    have hn : (n : Int) < (two64 : Int) := by
      have h2 : (n : Int) ≤ t + 1 := by exact_mod_cast le_trans hinv (add_le_add hHt (le_refl _))
      unfold two64; unfold maxInt64 at hT; omega
    have hH64 : linearHits (exactOps sin cos pi) p t < ((two64 : Nat) : K) := by
      have h1 : t < ((two64 : Nat) : Int) := by unfold two64; unfold maxInt64 at hT; omega
      exact lt_of_le_of_lt hHt (by exact_mod_cast h1)
    rcases aux_linearPace_exact_wait sin cos pi p hf hp t n d hn (hrate t ht htT).1 hH0 hH64 hw with
      ⟨hd, hc⟩ | ⟨hδ0, hd, hd0, _⟩
    · rw [hd]
      simp only [max_self, add_zero]
      rcases hc with h0 | hc
      · rw [h0, Nat.cast_zero]; exact add_le_add hH0 (le_refl _)
      · exact le_trans hc (le_add_of_nonneg_right zero_le_one)
    · rw [max_eq_left hd0, aux_linearHits_add sin cos pi p t d ht hd0]
      obtain ⟨hu0, hu1, hu2⟩ := Proofs.PacerArith.floor_wait (c := 1000000000) (by norm_num)
        (hrate t ht htT).1 (le_of_lt hδ0)
      rw [← hd] at hu0 hu1 hu2
      have := hstep t _ _ ht htT (by linarith only [hinv]) hu0 hu1 hu2
      exact le_of_le_of_eq (sub_le_iff_le_add.1 (sub_le_iff_le_add.1 this)) (add_right_comm _ _ _)
  · rw [(linear_schedule_is_rate_integral sin cos pi p 0 0 (le_refl _) (le_refl _)).1]; norm_num

/-- Along EVERY closed loop of the linear pacer over exact arithmetic, for every non-negative slope
and positive start rate, every stall history: the count never exceeds the schedule `H` the pacer
declares by more than one hit, `n_k ≤ H(t_k) + 1`.  The first-order wait `(n+1−H(t))/rate(t)`
overshoots because the rate does not fall; truncating it to whole nanoseconds loses less than
`rate·1ns ≤ 1` hit.  Hypothesis (where the REAL code is known to fail otherwise):
`hfast` — the rate stays at or below one hit per nanosecond within representable time (known
finding `linear_subnanosecond_interval`) up to the horizon `T` for which the bound is claimed.
No lower bound on the rate is needed: a product `interval·delta` that does not fit `int64` stops
the attack (commit 4a0988c, `linear_never_wraps`). -/
theorem linear_upper_nonneg_slope (p : LinearP K) (hf : 0 < p.freq) (hp : 0 < p.per)
    (ha : 0 ≤ p.slope) (T : Int) (hT : T ≤ maxInt64)
    (hfast : linearRate (exactOps sin cos pi) p T ≤ 1000000000)
    (stalls : List Nat) :
    ∀ x ∈ closedLoop (linearPace (exactOps sin cos pi) p) stalls 0 0, x.1 ≤ T →
      (x.2 : K) ≤ linearHits (exactOps sin cos pi) p x.1 + 1 := by
  -- on [0, T]: 0 < rate(0) ≤ rate(t) ≤ rate(T) ≤ 1e9
  have hrate : ∀ t : Int, 0 ≤ t → t ≤ T → 0 < linearRate (exactOps sin cos pi) p t ∧
      linearRate (exactOps sin cos pi) p t ≤ 1000000000 := fun t ht0 ht1 =>
    ⟨lt_of_lt_of_le (aux_linearRate_zero_pos sin cos pi p hf hp)
        ((aux_linearRate_mono sin cos pi p 0 t ht0).1 ha),
      le_trans ((aux_linearRate_mono sin cos pi p t T ht1).1 ha) hfast⟩
  exact aux_linear_upper_of_step sin cos pi p hf hp T hT hrate
    (fun t u δ ht0 ht1 _ _ _ hu2 =>
      Proofs.PacerArith.step_rising ha (by norm_num) (hrate t ht0 ht1).2 hu2) stalls

/-- What exactly holds for a falling rate (slope `a ≤ 0`), over exact arithmetic.
`hroom`: at the horizon `T` the rate is positive and `−2a ≤ rate(T)²·(1 − rate(0)/1e9)`; as
`rate(T)² = 2|a|·(Hmax − H(T))`, `Hmax = b²/(2|a|)`, about one hit of the schedule is still to come.
Then along EVERY closed loop, every stall history, up to `T`: `n_k ≤ H(t_k) + 1`.
The first-order wait undershoots by `delta²/(4·(Hmax − H(t)))` hits, so the bound can fail only
within the LAST hit before the schedule tops out: known finding F05
(`linear_negative_slope_counterexample`: 0.25 hits to go, 1.56 ahead). -/
theorem linear_upper_negative_slope (p : LinearP K) (hf : 0 < p.freq) (hp : 0 < p.per)
    (ha : p.slope ≤ 0) (T : Int) (hT : T ≤ maxInt64)
    (hpos : 0 < linearRate (exactOps sin cos pi) p T)
    (hb9 : linearRate (exactOps sin cos pi) p 0 ≤ 1000000000)
    (hroom : -(2 * p.slope) ≤ linearRate (exactOps sin cos pi) p T ^ 2
      * (1 - linearRate (exactOps sin cos pi) p 0 / 1000000000))
    (stalls : List Nat) :
    ∀ x ∈ closedLoop (linearPace (exactOps sin cos pi) p) stalls 0 0, x.1 ≤ T →
      (x.2 : K) ≤ linearHits (exactOps sin cos pi) p x.1 + 1 := by
  -- on [0, T]: 0 < rate(T) ≤ rate(t) ≤ rate(0) ≤ 1e9
  have hlo := fun (t : Int) (ht1 : t ≤ T) => (aux_linearRate_mono sin cos pi p t T ht1).2 ha
  have hhi := fun (t : Int) (ht0 : 0 ≤ t) => (aux_linearRate_mono sin cos pi p 0 t ht0).2 ha
  exact aux_linear_upper_of_step sin cos pi p hf hp T hT
    (fun t ht0 ht1 => ⟨lt_of_lt_of_le hpos (hlo t ht1), le_trans (hhi t ht0) hb9⟩)
    (fun t u δ ht0 ht1 hδ2 hu0 hu1 hu2 =>
      Proofs.PacerArith.step_falling (by norm_num) hpos (hlo t ht1) (hhi t ht0) hb9 hδ2 hu0 hu1 hu2 hroom)
    stalls

/-- Non-vacuity (ℚ): 100 hits/s falling by 50/s² (schedule tops out at 100 hits after 2s): the
hypotheses hold up to T = 1.7s, where 97.75 hits are scheduled and 2.25 are still to come. -/
example :
    let o : FloatOps ℚ := exactOps (fun _ => 0) (fun _ => 0) 0
    let p : LinearP ℚ := { freq := 100, per := 1000000000, slope := -50 }
    0 < linearRate o p 1700000000 ∧ linearRate o p 0 ≤ 1000000000 ∧
    -(2 * p.slope) ≤ linearRate o p 1700000000 ^ 2 * (1 - linearRate o p 0 / 1000000000) := by
  decide +kernel

/-- "arithmetic overflow stops the attack instead of wrapping", linear pacer over exact arithmetic:
whenever the declared rate at `t` is positive and the schedule value lies in the `uint64` range
(in particular: slope ≥ 0, `t ≥ 0`, at most 2^64 hits scheduled), EVERY wait answered with
stop=false is a proper duration `0 ≤ d ≤ MaxInt64` — for all hit counts of type `uint64`. -/
theorem linear_never_wraps (p : LinearP K) (hf : 0 < p.freq) (hp : 0 < p.per)
    (t : Int) (n : Nat) (d : Int) (hn : (n : Int) < (two64 : Int))
    (hrate : 0 < linearRate (exactOps sin cos pi) p t)
    (hH0 : 0 ≤ linearHits (exactOps sin cos pi) p t)
    (hH1 : linearHits (exactOps sin cos pi) p t < ((two64 : Nat) : K))
    (h : linearPace (exactOps sin cos pi) p t n = .wait d) :
    0 ≤ d ∧ d ≤ maxInt64 := by
  rcases aux_linearPace_exact_wait sin cos pi p hf hp t n d hn hrate hH0 hH1 h with
    ⟨hd, _⟩ | ⟨_, _, hd0, hdM⟩
  · rw [hd]; unfold maxInt64; omega
  · exact ⟨hd0, le_of_lt hdM⟩

/-- What holds exactly when the declared rate has become negative (negative slopes): as long as
`−1e9 ≤ rate < 0` hits/s (the interval `1e9/rate ≤ −1` ns), an attacker that has sent at least one
hit and is not "behind" by the code's own test is STOPPED — `uint64` of a negative interval is at
least 2^63, so the guard `MaxInt64/n < hits` fires.  What does NOT hold there (known finding F05): when
the computed schedule itself is negative (`t` beyond twice the zero of the rate), `uint64(H)` reads as
a huge count, the attacker is "behind" for ever and every answer is `(0, false)`. -/
theorem linear_negative_rate_stops (p : LinearP K) (hf : 0 < p.freq) (hp : 0 < p.per)
    (t : Int) (n : Nat) (hn0 : n ≠ 0)
    (hrate : 1000000000 / linearRate (exactOps sin cos pi) p t ≤ -1)
    (hnb : ¬ (n : Int) < toU64K (linearHits (exactOps sin cos pi) p t)) :
    linearPace (exactOps sin cos pi) p t n = .stop := by
  obtain ⟨iv, hiv⟩ : ∃ iv, iv = 1000000000 / linearRate (exactOps sin cos pi) p t := ⟨_, rfl⟩
  rw [← hiv] at hrate
  have hbig := aux_toU64K_neg iv hrate
  have hivdef : (exactOps sin cos pi).toUInt64 ((exactOps sin cos pi).round
      ((exactOps sin cos pi).div (exactOps sin cos pi).e9 (linearRate (exactOps sin cos pi) p t)))
      = toU64K iv := by rw [hiv]; rfl
  have hq : maxInt64.tdiv (toU64K iv) = 0 :=
    Int.tdiv_eq_zero_of_lt (by unfold maxInt64; omega) (by unfold maxInt64 two63 at *; omega)
  rw [aux_linearPace_pos _ p t n hf hp,
    if_neg (show ¬ (n = 0 ∨ (n : Int) < (exactOps sin cos pi).toUInt64
      (linearHits (exactOps sin cos pi) p t)) from not_or.2 ⟨hn0, hnb⟩), hivdef,
    if_pos ⟨by unfold two63 at hbig; omega, by rw [hq]; omega⟩]

/-- The known finding F05 in the exact model (ℚ, no rounding at all): 100 hits/s with slope
−50/s².  At t = 1.9 s with 100 hits sent the attacker is within one hit of the schedule
(H = 99.75), the pacer answers "wait 0.25 s", and at the release instant t = 2.15 s the schedule is
at 99.4375 — hit 101 is released 1.56 hits ahead of the declared schedule (which never exceeds
100).  The first-order wait undershoots when the rate falls. -/
theorem linear_negative_slope_counterexample :
    let o : FloatOps ℚ := exactOps (fun _ => 0) (fun _ => 0) 0
    let p : LinearP ℚ := { freq := 100, per := 1000000000, slope := -50 }
    ((100 : Nat) : ℚ) ≤ linearHits o p 1900000000 + 1 ∧
    linearPace o p 1900000000 100 = .wait 250000000 ∧
    linearHits o p (1900000000 + 250000000) + 1 < ((100 : Nat) : ℚ) + 1 := by
  decide +kernel

theorem aux_sineErr_exact (p : SineP K) (H : Int → K)
    (hHdef : ∀ t : Int, sineHits (exactOps sin cos pi) p t = H t) (t : Int) (n : Nat)
    (hn : (n : Int) + 1 < (two64 : Int)) (w : Int) :
    sineErr (exactOps sin cos pi) p t n w = (n : K) + 1 - H (wrapS64 (t + w)) := by
  have hwrap : wrapU64 ((n : Int) + 1) = (n : Int) + 1 :=
    wrapU64_id (by unfold inU64; constructor <;> omega)
  unfold sineErr
  rw [hHdef, hwrap]
  simp [exactOps]

theorem aux_sineErr_close_exact (p : SineP K) (H : Int → K)
    (hHdef : ∀ t : Int, sineHits (exactOps sin cos pi) p t = H t) (t : Int) (n : Nat)
    (hn : (n : Int) + 1 < (two64 : Int)) (w : Int)
    (h : (exactOps sin cos pi).lt ((exactOps sin cos pi).abs (sineErr (exactOps sin cos pi) p t n w))
      (exactOps sin cos pi).em3 = true) :
    |H (wrapS64 (t + w)) - ((n : K) + 1)| < 1 / 1000 := by
  rw [aux_sineErr_exact sin cos pi p H hHdef t n hn] at h
  rw [abs_sub_comm]
  exact (aux_exact_lt sin cos pi _ _).1 h

theorem aux_sineErr_pos_exact (p : SineP K) (H : Int → K)
    (hHdef : ∀ t : Int, sineHits (exactOps sin cos pi) p t = H t) (t : Int) (n : Nat)
    (hn : (n : Int) + 1 < (two64 : Int)) (w : Int) :
    (exactOps sin cos pi).lt (exactOps sin cos pi).zero (sineErr (exactOps sin cos pi) p t n w) = true
      ↔ H (wrapS64 (t + w)) < (n : K) + 1 := by
  rw [aux_sineErr_exact sin cos pi p H hHdef t n hn]
  exact (aux_exact_lt sin cos pi _ _).trans sub_pos

/-- `[0, time.Duration(hi)]` with `hi = ⌈(n+1−H(t))/(Mean−|Amp|)⌉` is a bracket: `H` gains at least
`Mean−|Amp|` per nanosecond, so it has reached `n+1` at `t + hi`. -/
theorem aux_sineHi_bracket_exact (p : SineP K) (H : Int → K)
    (hHdef : ∀ t : Int, sineHits (exactOps sin cos pi) p t = H t)
    (hvalid : |hitsPerNs (exactOps sin cos pi) p.ampFreq p.ampPer|
      < hitsPerNs (exactOps sin cos pi) p.meanFreq p.meanPer)
    (hgrow : ∀ t d : Int, 0 ≤ t → 0 ≤ d →
      (hitsPerNs (exactOps sin cos pi) p.meanFreq p.meanPer
        - |hitsPerNs (exactOps sin cos pi) p.ampFreq p.ampPer|) * (d : K) ≤ H (t + d) - H t)
    (t : Int) (n : Nat) (ht : 0 ≤ t) (htM : t ≤ maxInt64) (hn : (n : Int) + 1 < (two64 : Int))
    (hfl : H t < (n : K) + 1)
    (hguard : ((exactOps sin cos pi).le (exactOps sin cos pi).zero (sineHi (exactOps sin cos pi) p t n) &&
      (exactOps sin cos pi).lt (sineHi (exactOps sin cos pi) p t n)
        ((exactOps sin cos pi).ofInt64 (wrapS64 (maxInt64 - t)))) = true) :
    0 ≤ (exactOps sin cos pi).toInt64 (sineHi (exactOps sin cos pi) p t n) ∧
    (exactOps sin cos pi).toInt64 (sineHi (exactOps sin cos pi) p t n) < maxInt64 - t ∧
    Bracket (exactOps sin cos pi) p t n 0
      ((exactOps sin cos pi).toInt64 (sineHi (exactOps sin cos pi) p t n)) := by
  have hpos := aux_sineErr_pos_exact sin cos pi p H hHdef t n hn
  obtain ⟨U, hU⟩ : ∃ U : Int, U = ⌈((n : K) + 1 - H t)
    / (hitsPerNs (exactOps sin cos pi) p.meanFreq p.meanPer
      - |hitsPerNs (exactOps sin cos pi) p.ampFreq p.ampPer|)⌉ := ⟨_, rfl⟩
  have hhi : sineHi (exactOps sin cos pi) p t n = ((U : Int) : K) := by
    unfold sineHi
    simp only []
    rw [hHdef, wrapU64_id ⟨by omega, by omega⟩, hU]
    simp [exactOps]
  rw [hhi] at hguard ⊢
  rw [wrapS64_id ⟨by unfold minInt64; unfold maxInt64 at htM ⊢; omega, by omega⟩,
    Bool.and_eq_true] at hguard
  have hU0 : 0 ≤ U := Int.cast_nonneg_iff.1 (of_decide_eq_true hguard.1)
  have hU1 : U < maxInt64 - t := Int.cast_lt.1 (of_decide_eq_true hguard.2)
  have hUI : (exactOps sin cos pi).toInt64 ((U : Int) : K) = U :=
    aux_toI64K_intCast U ⟨by unfold minInt64; omega, by omega⟩
  rw [hUI]
  refine ⟨hU0, hU1, (hpos 0).2 ?_, Bool.eq_false_iff.2 (fun h => absurd ((hpos U).1 h) (not_lt.2 ?_))⟩
  · rw [add_zero, wrapS64_id ⟨by unfold minInt64; omega, by omega⟩]; exact hfl
  · rw [wrapS64_id ⟨by unfold minInt64; omega, by omega⟩]
    have hceil := (div_le_iff₀ (sub_pos.2 hvalid)).1
      (le_of_le_of_eq (Int.le_ceil _) (congrArg _ hU.symm))
    linarith only [hgrow t U ht hU0, hceil]

/-- Along EVERY closed loop of the repaired sine pacer over exact arithmetic, every stall history:
`n_k ≤ H(t_k) + 1 + 1e-3`, where `H` stands for the cos-formula the code evaluates (`hHdef`).
All that is used of the float computation are three properties of `H` ALONE:
`hmono` — `H` is non-decreasing; `hgrow` — it grows by at least `Mean−|Amp|` per nanosecond
(so `[0, hi]` is a bracket); `hHmax` — at most `MaxInt64` hits are scheduled within representable
time (at most one hit per ns on average; keeps counters and conversions in range) — plus
`|Amp| < Mean`.  Every exit is covered: catch-up (`n+1 ≤ H(t)`), converged and bisected
(`n+1 < H(t+w) + 1e-3`), bracket (`n+1 ≤ H(t+w)`); stop exits release nothing.  For the cos-formula
itself these three properties are facts of calculus (`H' = Mean + Amp·sin ≥ Mean−|Amp| > 0`), a
stated assumption of this property, not a theorem here. -/
theorem sine_upper_exact (p : SineP K) (H : Int → K)
    (hHdef : ∀ t : Int, sineHits (exactOps sin cos pi) p t = H t)
    (hmono : ∀ a b : Int, a ≤ b → H a ≤ H b)
    (hvalid : |hitsPerNs (exactOps sin cos pi) p.ampFreq p.ampPer|
      < hitsPerNs (exactOps sin cos pi) p.meanFreq p.meanPer)
    (hgrow : ∀ t d : Int, 0 ≤ t → 0 ≤ d →
      (hitsPerNs (exactOps sin cos pi) p.meanFreq p.meanPer
        - |hitsPerNs (exactOps sin cos pi) p.ampFreq p.ampPer|) * (d : K) ≤ H (t + d) - H t)
    (hHmax : ∀ t : Int, t ≤ maxInt64 → H t ≤ ((maxInt64 : Int) : K))
    (stalls : List Nat) :
    ∀ x ∈ closedLoop (sinePace (exactOps sin cos pi) p) stalls 0 0,
      (x.2 : K) ≤ H x.1 + (1 + 1 / 1000) := by
  have hH00 : H 0 = 0 := by
    rw [← hHdef 0]; unfold sineHits; rw [if_pos (Or.inl (le_refl _))]; rfl
  have hHnn : ∀ t : Int, 0 ≤ t → 0 ≤ H t := fun t ht => by rw [← hH00]; exact hmono 0 t ht
  intro x hx
  have hres := closedLoop_upper_of_contract_field (sinePace (exactOps sin cos pi) p) H (1 + 1 / 1000)
    maxInt64 (le_refl _) (fun a b _ hab _ => hmono a b hab) ?_ stalls ?_ x hx
  · exact hres.2 hres.1
  · intro t n d ht hle hinv hw
    have hm : (0 : Int) ≤ max d 0 := le_max_right _ _
    have hHt0 := hHnn t ht
    have hHtM := hHmax t (by omega)
    -- hits+1 does not wrap: n ≤ H(t) + 1.001 ≤ MaxInt64 + 1.001
    have hn : (n : Int) + 1 < (two64 : Int) := by
      have h1 : ((n : Int) : K) < ((maxInt64 + 2 : Int) : K) := by
        push_cast; exact lt_of_le_of_lt hinv (add_lt_add_of_le_of_lt hHtM (by norm_num))
      have h2 : (n : Int) < maxInt64 + 2 := Int.cast_lt.1 h1
      unfold two64; unfold maxInt64 at h2; omega
    have hH64 : H t < ((two64 : Nat) : K) := by
      have : ((maxInt64 : Int) : K) < ((two64 : Nat) : K) := by unfold maxInt64 two64; norm_num
      exact lt_of_le_of_lt hHtM this
    have hpos := aux_sineErr_pos_exact sin cos pi p H hHdef t n hn
    -- a guess within `int64` that passed the 1e-3 test
    have hclose : ∀ w : Int, minInt64 ≤ w → t + max w 0 ≤ maxInt64 →
        (exactOps sin cos pi).lt ((exactOps sin cos pi).abs (sineErr (exactOps sin cos pi) p t n w))
          (exactOps sin cos pi).em3 = true →
        (n : K) + 1 ≤ H (t + max w 0) + (1 + 1 / 1000) := by
      intro w hw0 hwle hc
      have hwm : w ≤ max w 0 := le_max_left _ _
      have h1 := aux_sineErr_close_exact sin cos pi p H hHdef t n hn w hc
      rw [wrapS64_id ⟨by omega, by omega⟩] at h1
      have h2 := hmono (t + w) (t + max w 0) (by omega)
      exact le_of_lt (lt_of_lt_of_le (sub_lt_iff_lt_add'.1 (abs_sub_lt_iff.1 h1).2)
        (add_le_add h2 (by norm_num)))
    obtain ⟨_, ⟨hb, hd, _⟩ | ⟨hnb, ⟨hd, hcl, _⟩ | ⟨hguard, hd, _⟩⟩⟩ :=
      aux_sinePaceX_wait (exactOps sin cos pi) p t n d _ (Prod.ext hw rfl)
    · -- catch-up
      rw [hd]
      simp only [max_self, add_zero]
      rw [hHdef] at hb
      exact le_trans (aux_behind (H t) n hHt0 hb) (le_add_of_nonneg_right (by norm_num))
    · -- converged inside the fixed-point loop; every guess is an `int64`
      have hdr : inS64 d := by
        rw [hd]
        exact aux_sineIter_range _ p t n aux_toI64K_range 5 _ (aux_toI64K_range _)
      exact hclose d hdr.1 hle hcl
    · -- the bisection of `[0, time.Duration(hi)]`
      rw [hHdef] at hnb
      obtain ⟨hU0, hU1, hinit⟩ := aux_sineHi_bracket_exact sin cos pi p H hHdef hvalid hgrow t n ht
        (by omega) hn (aux_not_behind (H t) n hHt0 hH64 hnb) hguard
      obtain ⟨hd0, hdU, hans⟩ := aux_sineBisect_answer _ p t n _ hU0 (by omega) hinit
      rw [← hd] at hd0 hdU hans
      rcases hans with hcl | hnp
      · exact hclose d (by unfold minInt64; omega) hle hcl
      · -- the sign test failed at the answer: the schedule has reached the new count there
        rw [max_eq_left hd0]
        have h1 := not_lt.1 (fun h => Bool.eq_false_iff.1 hnp ((hpos d).2 h))
        rw [wrapS64_id ⟨by unfold minInt64; omega, by omega⟩] at h1
        exact le_trans h1 (le_add_of_nonneg_right (by norm_num))
  · rw [hH00]; norm_num

/-- What the code computes over exact arithmetic, for a valid configuration and `t > 0`: the
schedule `H(t) = M·t + (A·P/2π)(cos O − cos(O + 2πt/P))` and the rate `(M + A·sin(O + 2πt/P))·1e9`
with `M = Mean.Freq/Mean.Per` and `A = Amp.Freq/Amp.Per` — each rate in its OWN unit, the two units
need not agree. -/
theorem sine_closed_forms (p : SineP K) (t : Int) (ht : 0 < t)
    (hv : sineInvalid (exactOps sin cos pi) p = false) :
    sineHits (exactOps sin cos pi) p t
      = (p.meanFreq : K) / (p.meanPer : K) * (t : K)
        + (p.ampFreq : K) / (p.ampPer : K) * (p.period : K) / (2 * pi)
          * (cos p.startAt - cos (p.startAt + (t : K) * 2 * pi / (p.period : K))) ∧
    sineRate (exactOps sin cos pi) p t
      = ((p.meanFreq : K) / (p.meanPer : K)
        + (p.ampFreq : K) / (p.ampPer : K) * sin (p.startAt + (t : K) * 2 * pi / (p.period : K)))
        * 1000000000 := by
  constructor
  · unfold sineHits
    rw [if_neg (by rw [hv]; simp; omega)]
    rfl
  · rfl

/-- The best phase-independent bound on the schedule: for ANY start phase, period and pair of
units the sine term moves the count at most `2·|ampHits|` away from the mean line (only
`|cos| ≤ 1` is used) … -/
theorem sine_hits_phase_bound (p : SineP K) (t : Int) (ht : 0 < t)
    (hv : sineInvalid (exactOps sin cos pi) p = false) (hcos : ∀ x : K, |cos x| ≤ 1) :
    |sineHits (exactOps sin cos pi) p t - (p.meanFreq : K) / (p.meanPer : K) * (t : K)|
      ≤ 2 * |sineAmpHits (exactOps sin cos pi) p| := by
  rw [(sine_closed_forms sin cos pi p t ht hv).1, add_sub_cancel_left, abs_mul]
  -- |cos O − cos(…)| ≤ |cos O| + |cos(…)| ≤ 2
  exact le_of_le_of_eq (mul_le_mul_of_nonneg_left
    (le_trans (abs_sub _ _) (le_of_le_of_eq (add_le_add (hcos _) (hcos _)) one_add_one_eq_two))
    (abs_nonneg _)) (mul_comm _ _)

/-- … and `1·|ampHits|` is NOT a bound (so "at least `Mean·t − |ampHits|` hits are due" is no valid
shortcut for the catch-up test): with a cosine that takes the values −1 at the start phase and +1
half a period later the schedule is `Mean·t − 2·ampHits`. -/
theorem sine_phase_bound_is_tight :
    let cs : ℚ → ℚ := fun x => if x = 0 then -1 else 1
    let o : FloatOps ℚ := exactOps (fun _ => 0) cs 1
    let p : SineP ℚ := { period := 2, meanFreq := 3, meanPer := 1, ampFreq := 2, ampPer := 1, startAt := 0 }
    (∀ x : ℚ, |cs x| ≤ 1) ∧ sineInvalid o p = false ∧
    sineHits o p 1 < 3 * 1 - |sineAmpHits o p| ∧ sineHits o p 1 = 3 * 1 - 2 * |sineAmpHits o p| := by
  refine ⟨?_, by decide +kernel, by decide +kernel, by decide +kernel⟩
  intro x
  by_cases h : x = 0 <;> simp [h]

/-- The convergence test uses the ABSOLUTE error: every guess the repaired sine pacer accepts —
from inside the fixed-point loop or from inside the bisection — satisfies
`|H(t+w) − (hits+1)| < 1e-3` over exact arithmetic, on both sides (a one-sided test would accept
guesses arbitrarily far beyond the deadline). -/
theorem sine_accepted_guess_exact (p : SineP K) (H : Int → K)
    (hHdef : ∀ t : Int, sineHits (exactOps sin cos pi) p t = H t)
    (t : Int) (n : Nat) (w : Int) (e : SineExit) (hn : (n : Int) + 1 < (two64 : Int))
    (h : sinePaceX (exactOps sin cos pi) p t n = (.wait w, e))
    (he : e = .converged ∨ e = .bisected) :
    |H (wrapS64 (t + w)) - ((n : K) + 1)| < 1 / 1000 := by
  apply aux_sineErr_close_exact sin cos pi p H hHdef t n hn w
  rcases he with he | he
  · rw [he] at h; exact sine_converged_exit _ p t n w h
  · exact (sine_bisect_exit _ p t n w e h).1 he

example : sinePaceX (exactOps (fun _ => (0 : ℚ)) (fun _ => 0) 1)
    { period := 1000000000, meanFreq := 100, meanPer := 1000000000, ampFreq := 50, ampPer := 60000000000,
      startAt := 0 } 0 0 = (.wait 10000000, .converged) := by
  decide +kernel

/-! Over ℚ: 100 hits/s rising by 10/s² over one hour satisfies `ha`, `hfast` of
`linear_upper_nonneg_slope` (the third conjunct is a hypothesis of no theorem) and answers a positive
wait; the sine pacer on a straight schedule takes its bracket exit (the hypotheses of
`sine_upper_exact` about `H` are not instantiated). -/
example : (0 : ℚ) ≤ (10 : ℚ) ∧
    linearRate (exactOps (fun _ => (0 : ℚ)) (fun _ => 0) 0)
      { freq := 100, per := 1000000000, slope := 10 } 3600000000000 ≤ 1000000000 ∧
    2 * 1000000000 ≤ linearRate (exactOps (fun _ => (0 : ℚ)) (fun _ => 0) 0)
      { freq := 100, per := 1000000000, slope := 10 } 0 * ((maxInt64 : Int) : ℚ) := by
  decide +kernel

example : linearPace (exactOps (fun _ => (0 : ℚ)) (fun _ => 0) 0)
    { freq := 100, per := 1000000000, slope := 10 } 1000000000 105 = .wait 9090909 := by
  decide +kernel

example : sinePaceX (exactOps (fun _ => (0 : ℚ)) (fun _ => 0) 0)
    { period := 1000000000, meanFreq := 3, meanPer := 10, ampFreq := 0, ampPer := 10, startAt := 0 }
    0 0 = (.wait 4, .bracket) := by
  decide +kernel

end exact

/-- The real-time extension of the closed form of `sineHits`. -/
noncomputable def sineScheduleReal (p : SineP ℝ) (pi : ℝ) (τ : ℝ) : ℝ :=
  (p.meanFreq : ℝ) / (p.meanPer : ℝ) * τ
    + (p.ampFreq : ℝ) / (p.ampPer : ℝ) * (p.period : ℝ) / (2 * pi)
      * (Real.cos p.startAt - Real.cos (p.startAt + τ * 2 * pi / (p.period : ℝ)))

/-- Over the reals, with the real `sin`/`cos` (and any non-zero constant for `π`, in particular
`math.Pi`): at every whole-nanosecond instant `t > 0` of a valid configuration the schedule
`SinePacer.hits` computes is the value of `sineScheduleReal`, whose DERIVATIVE there is the rate
`SinePacer.Rate` computes (in hits per nanosecond), for ARBITRARY pairs of units of `Mean` and `Amp`
(`H(0) = 0` is not part of the statement).  This is where `ampHits` must be
`Amp.hitsPerNs·Period/2π` with Amp's own unit. -/
theorem sine_schedule_is_rate_integral (p : SineP ℝ) (pi : ℝ) (hpi : pi ≠ 0) (t : Int) (ht : 0 < t)
    (hv : sineInvalid (exactOps Real.sin Real.cos pi) p = false) :
    sineHits (exactOps Real.sin Real.cos pi) p t = sineScheduleReal p pi (t : ℝ) ∧
    HasDerivAt (sineScheduleReal p pi)
      (sineRate (exactOps Real.sin Real.cos pi) p t / 1000000000) (t : ℝ) := by
  have hP : (p.period : ℝ) ≠ 0 := by
    have : ¬ p.period ≤ 0 := fun hle => by simp [sineInvalid, hle] at hv
    exact_mod_cast (by omega : p.period ≠ 0)
  obtain ⟨h1, h2⟩ := sine_closed_forms Real.sin Real.cos pi p t ht hv
  refine ⟨by rw [h1]; rfl, ?_⟩
  rw [h2]
  obtain ⟨M, hM⟩ : ∃ M : ℝ, M = (p.meanFreq : ℝ) / (p.meanPer : ℝ) := ⟨_, rfl⟩
  obtain ⟨A, hA⟩ : ∃ A : ℝ, A = (p.ampFreq : ℝ) / (p.ampPer : ℝ) := ⟨_, rfl⟩
  obtain ⟨P, hPd⟩ : ∃ P : ℝ, P = (p.period : ℝ) := ⟨_, rfl⟩
  obtain ⟨O, hO⟩ : ∃ O : ℝ, O = p.startAt := ⟨_, rfl⟩
  obtain ⟨τ, hτ⟩ : ∃ τ : ℝ, τ = (t : ℝ) := ⟨_, rfl⟩
  have hfun : sineScheduleReal p pi
      = fun x : ℝ => M * x + A * P / (2 * pi) * (Real.cos O - Real.cos (O + x * 2 * pi / P)) := by
    funext x; unfold sineScheduleReal; rw [hM, hA, hPd, hO]
  rw [hfun, ← hM, ← hA, ← hPd, ← hO, ← hτ]
  rw [← hPd] at hP
  have hd1 : HasDerivAt (fun x : ℝ => O + x * 2 * pi / P) (2 * pi / P) τ := by
    have h := ((hasDerivAt_id τ).mul_const (2 * pi / P)).const_add O
    have e1 : (fun x : ℝ => O + x * 2 * pi / P) = fun x => O + id x * (2 * pi / P) := by
      funext x; simp only [id]; ring
    rw [e1]; simpa using h
  have hd2 := (hd1.cos).const_sub (Real.cos O)
  have hd3 := ((hasDerivAt_id τ).const_mul M).add (hd2.const_mul (A * P / (2 * pi)))
  have e2 : (M + A * Real.sin (O + τ * 2 * pi / P)) * 1000000000 / 1000000000
      = M * 1 + A * P / (2 * pi) * -(-Real.sin (O + τ * 2 * pi / P) * (2 * pi / P)) := by
    field_simp
  rw [e2]
  exact hd3

/-- Non-vacuity: a configuration over ℝ with DIFFERENT units for mean (3 per 1ns) and amplitude
(1 per 2ns) is valid, so `sine_schedule_is_rate_integral` applies to it. -/
example : sineInvalid (exactOps Real.sin Real.cos 3)
    { period := 1000, meanFreq := 3, meanPer := 1, ampFreq := 1, ampPer := 2, startAt := 0 } = false := by
  simp [sineInvalid, exactOps, hitsPerNs]
  norm_num

end Vegeta.Props.C01
