/-
C14 — Target files decode to exactly the targets they describe, independently.

Models: `Model/HTTPTargets.lean` (the repaired code: defaults copied on merge, comment lines
skipped while peeking), `Model/JSONTargets.lean`, `Model/JSONTargetsRef.lean` (the JSON merge over
slices), `Model/AttackTargets.lean` (eager or lazy selection); documented grammar:
`Spec/TargetGrammar.lean`; helper lemmas: `Proofs/TargetText`, `Proofs/HTTPTargetsL` (list-level view +
refinement of the peeking scanner), `Proofs/HTTPHeap` (slices and aliasing), `Proofs/HTTPGrammar`,
`Proofs/HTTPRender` (grammar), `Proofs/HTTPFileSystem` (whole documents, file system per call),
`Proofs/JSONTargets`, `Proofs/JSONRoundTrip`, `Proofs/JSONTargetsRef`, `Proofs/TargeterLaws` (`RunsTo`,
`ReadAllTargets`), `Proofs/AttackTargets`.  The behaviour before the two fixes is kept in namespace
`Old` with its two counterexamples.
-/
import Vegeta.Proofs.HTTPRender
import Vegeta.Proofs.JSONTargets
import Vegeta.Proofs.JSONRoundTrip
import Vegeta.Proofs.TargeterLaws
import Vegeta.Proofs.HTTPFileSystem
import Vegeta.Proofs.AttackTargets
import Vegeta.Proofs.JSONTargetsRef
import Vegeta.Extracted.Facts
namespace Vegeta.Props.C14
open Vegeta.Go Vegeta.Model
open Vegeta.Model.HTTPTargets
open Vegeta.Proofs.HTTPTargetsL Vegeta.Proofs.HTTPHeap Vegeta.Proofs.HTTPGrammar Vegeta.Proofs.HTTPRender
open Vegeta.Spec.TargetGrammar hiding Bytes

/-! ### http: documents of the grammar -/

/-- What the property's first clause says for a document `d`, default header map/heap, and `k`
extra calls: the first `|blocks|` calls return the described targets in order — each compared
with its description in the heap right after its own call — and the `k` further calls all
report `ErrNoTargets`. -/
def DecodesAsDescribed (cfg : Cfg) (h0 : Heap) (d : Doc) (k : Nat) : Prop :=
  ∃ rs hEnd,
    (callsH cfg (d.blocks.length + k) { ps := PS.init (render d), heap := h0 }).1 =
      rs ++ List.replicate k (.error eNoTargets, hEnd) ∧
    ListRel (fun r b => ∃ t, r.1 = .ok t ∧ Matches r.2 t (describe (defaultsOf cfg h0) cfg.body cfg.fs b)) rs d.blocks

/-- **"For every well-formed targets file in the http format (request lines, case-preserved
headers, @file bodies, blank lines, and comment lines, which are ignored wherever they appear) the
targeter returns exactly the described targets in order and then reports exhaustion"**, with the
documented merge (defaults first, own values added, default body only when the target has none)
— for EVERY document of the grammar and every layout: padding, comment and blank lines in every
legal position (also directly between two bare request lines), CR LF line ends, final newline
or not.  Hypotheses: the document is legal and the default header slices are backed by the
heap.  (No `NormalEnd` hypothesis: an unterminated empty last line renders to the same bytes as
the document without it, `render_normalize`.) -/
theorem http_parse_render (cfg : Cfg) (h0 : Heap) (d : Doc) (k : Nat)
    (hl : d.Legal cfg.validURI cfg.fs) (wf : WfDefaults cfg h0) : DecodesAsDescribed cfg h0 d k := by
  obtain ⟨rs, hEnd, h1, h2⟩ := Vegeta.Proofs.HTTPFileSystem.callsHF_render cfg h0 d k (fun _ => cfg.fs)
    (Vegeta.Proofs.HTTPFileSystem.legalFrom_const cfg d.blocks 0 hl.1) hl.2.1 hl.2.2 wf
  rw [Vegeta.Proofs.HTTPFileSystem.callsHF_const] at h1
  exact ⟨rs, hEnd, h1, Vegeta.Proofs.HTTPFileSystem.describedFrom_const cfg h0 cfg.fs rs d.blocks 0 h2⟩

/-! non-vacuity: `GET http://a/ ` / `# c` / `X: 1\r` / `` / `\tGET http://b/` / ` #` (unterminated)
with the default `X: [d]` in a slice with spare capacity satisfies the hypotheses -/

def okCfg : Cfg :=
  { validURI := fun _ => true, fs := fun _ => none, body := [98],
    hdr := [([88], { arr := 0, len := 1, cap := 4 })] }

def okDoc : Doc :=
  { blocks := [
      { lead := [], pre := [], method := [71, 69, 84], url := [104, 116, 116, 112, 58, 47, 47, 97, 47], post := [32],
        items := [.comment { pre := [], text := [32, 99] },
                  .header { key := [88], value := [49], pre := [], mid := [32], post := [13] }],
        body := none },
      { lead := [.blank []], pre := [9], method := [71, 69, 84],
        url := [104, 116, 116, 112, 58, 47, 47, 98, 47], post := [], items := [], body := none }],
    trail := [.comment { pre := [32], text := [] }], finalNewline := false }

theorem aux_isPad_nil : IsPad [] := Vegeta.Proofs.TargetText.isPad_nil

theorem aux_isPad_one (c : Nat) (h : isPadByte c = true) : IsPad [c] := by
  intro x hx; simp at hx; subst hx; exact h

theorem aux_edgePlain_of {s : Bytes} (c d : Nat) (h1 : s.head? = some c) (h2 : s.getLast? = some d)
    (hc : isPlain c = true) (hd : isPlain d = true) (h10 : 10 ∉ s) : EdgePlain s :=
  ⟨⟨c, h1, hc⟩, ⟨d, h2, hd⟩, h10⟩

theorem aux_wf_single (k : Bytes) (s : Slice) (cells : List Bytes) (h : Heap) (cfg : Cfg) (hh : cfg.hdr = [(k, s)])
    (hc : h[s.arr]? = some cells) (hl : cells.length = s.cap) (hle : s.len ≤ s.cap) : WfDefaults cfg h := by
  refine ⟨?_⟩
  intro k' s' hk
  rw [hh] at hk
  simp only [hlookup] at hk
  split at hk
  · cases hk; exact ⟨hle, Or.inr ⟨cells, hc, hl⟩⟩
  · cases hk

example : okDoc.Legal okCfg.validURI okCfg.fs ∧ WfDefaults okCfg [[[100], [], [], []]] := by
  refine ⟨⟨?_, ?_, ⟨(by intro _; rfl), trivial⟩⟩, aux_wf_single [88] _ [[100], [], [], []] _ okCfg rfl rfl rfl (by decide)⟩
  · intro b hb
    simp only [okDoc, List.mem_cons, List.mem_nil_iff, or_false] at hb
    rcases hb with rfl | rfl
    · refine ⟨(by intro f hf; cases hf), aux_isPad_nil, aux_isPad_one 32 rfl, (by decide), (by decide), ?_, rfl, ?_,
        (by intro bl hbl; cases hbl)⟩
      · exact aux_edgePlain_of 104 47 rfl rfl (by decide) (by decide) (by decide)
      · intro it hit
        simp only [List.mem_cons, List.mem_nil_iff, or_false] at hit
        rcases hit with rfl | rfl
        · exact ⟨aux_isPad_nil, (by decide)⟩
        · exact ⟨(by decide), (by decide), (by decide), (by decide),
            aux_edgePlain_of 49 49 rfl rfl (by decide) (by decide) (by decide),
            aux_isPad_nil, aux_isPad_one 32 rfl, aux_isPad_one 13 rfl⟩
    · refine ⟨?_, aux_isPad_one 9 rfl, aux_isPad_nil, (by decide), (by decide), ?_, rfl,
        (by intro it hit; cases hit), (by intro bl hbl; cases hbl)⟩
      · intro f hf
        simp only [List.mem_cons, List.mem_nil_iff, or_false] at hf
        subst hf
        exact aux_isPad_nil
      · exact aux_edgePlain_of 104 47 rfl rfl (by decide) (by decide) (by decide)
  · intro f hf
    simp only [okDoc, List.mem_cons, List.mem_nil_iff, or_false] at hf
    subst hf
    exact ⟨aux_isPad_one 32 rfl, (by decide)⟩

/-- … and what the model computes for it: `GET http://a/` with `X: [d, 1]` and the default body,
`GET http://b/` with `X: [d]`, then `ErrNoTargets` -/
example : ((callsH okCfg 3 { ps := PS.init (render okDoc), heap := [[[100], [], [], []]] }).1.map fun r =>
      match r.1 with
      | .ok t => some (viewTarget r.2 t)
      | _ => none) =
    [some { method := [71, 69, 84], url := [104, 116, 116, 112, 58, 47, 47, 97, 47], body := [98], header := [([88], [[100], [49]])] },
     some { method := [71, 69, 84], url := [104, 116, 116, 112, 58, 47, 47, 98, 47], body := [98], header := [([88], [[100]])] },
     none] := by decide +kernel

/-! ### http: merge, defaults and earlier targets, any input -/

/-- **"Default headers … are merged as documented (defaults first, the target's own values
added)"**, for any file whatsoever: after a successful call there is a list `own` of header lines
(not tied to the input here; `http_parse_render` does that on documents of the grammar) such that
every key of the returned target shows the default values followed by the `own` values of that key,
and a key is present iff it has a default or an `own` value. -/
theorem merge_semantics (cfg : Cfg) (st : St) (wf : WfDefaults cfg st.heap) (t : Target)
    (hok : (call cfg st).1 = .ok t) :
    ∃ own : List (Bytes × Bytes), ∀ k,
      (hlookup t.header k).map (view (call cfg st).2.heap) =
        match (hlookup cfg.hdr k).map (view st.heap), ownVals own k with
        | none, [] => none
        | none, vs => some vs
        | some ds, vs => some (ds ++ vs) := by
  obtain ⟨ps', c1, _⟩ := call_refines cfg st
  rw [c1] at hok ⊢
  simp only at hok ⊢
  rcases callL_fold cfg (eff st.ps) st.heap with ⟨_, h2⟩ | ⟨own, o1, o2⟩
  · exact absurd hok (h2 t)
  · refine ⟨own, fun k => ?_⟩
    rw [o2 t hok, o1]
    exact built_merge cfg st.heap wf own k

/-- **"decoding a later target never changes … the defaults"**: over any number of calls on any
input, every default header keeps its values. -/
theorem defaults_unchanged (cfg : Cfg) (st : St) (wf : WfDefaults cfg st.heap) (n : Nat) :
    ∀ k s0, hlookup cfg.hdr k = some s0 → view (calls cfg n st).2.heap s0 = view st.heap s0 := by
  obtain ⟨ps', c1, _⟩ := calls_refines cfg n st
  rw [(callsH_calls cfg n st).2, c1]
  exact fun k s0 hk => view_extends (callsL_frame cfg n (eff st.ps) st.heap) (wf.ok k s0 hk)

/-- **"decoding a later target never changes a target returned earlier"** — for EVERY input,
every default header map (spare capacity or not, no hypothesis at all) and any number of calls:
every target returned by one of the `n` calls shows, in the final heap, exactly the header values
it showed right after its own call.  (A call touches no array that existed before it:
`callL_frame`.) -/
theorem earlier_targets_stable (cfg : Cfg) (st : St) (n : Nat) :
    ∀ r ∈ (callsH cfg n st).1, ∀ t, r.1 = .ok t → ∀ k,
      (hlookup t.header k).map (view (callsH cfg n st).2.heap) = (hlookup t.header k).map (view r.2) := by
  obtain ⟨ps', c1, _⟩ := calls_refines cfg n st
  rw [c1]
  intro r hr t ht k
  cases hk : hlookup t.header k with
  | none => rfl
  | some s =>
    have := callsL_stable cfg n (eff st.ps) st.heap r hr t ht k s hk
    simp only [Option.map_some, this]

/-! ### regression guards: the two witnesses of the former defects, on the repaired model -/

def trapCfg : Cfg := { validURI := fun _ => true, fs := fun _ => none, body := [], hdr := [] }

/-- `GET http://a/` / `# c` / `GET http://b/` -/
def trapSrc : Bytes :=
  [71, 69, 84, 32, 104, 116, 116, 112, 58, 47, 47, 97, 47, 10, 35, 32, 99, 10,
   71, 69, 84, 32, 104, 116, 116, 112, 58, 47, 47, 98, 47, 10]

def aliasCfg : Cfg :=
  { validURI := fun _ => true, fs := fun _ => none, body := [], hdr := [([88], { arr := 0, len := 1, cap := 4 })] }

def aliasHeap : Heap := [[[100], [], [], []]]

/-- default `X: [d]` in a slice of capacity 4; `GET http://a/` `X: 1` `` `GET http://b/` `X: 2` -/
def aliasSrc : Bytes :=
  [71, 69, 84, 32, 104, 116, 116, 112, 58, 47, 47, 97, 47, 10, 88, 58, 32, 49, 10, 10,
   71, 69, 84, 32, 104, 116, 116, 112, 58, 47, 47, 98, 47, 10, 88, 58, 32, 50, 10]

/-- a comment between two bare request lines: two targets without headers, then `ErrNoTargets` -/
example : ((callsH trapCfg 3 { ps := PS.init trapSrc, heap := [] }).1.map fun r =>
      match r.1 with
      | .ok t => some (viewTarget r.2 t)
      | _ => none) =
    [some { method := [71, 69, 84], url := [104, 116, 116, 112, 58, 47, 47, 97, 47], body := [], header := [] },
     some { method := [71, 69, 84], url := [104, 116, 116, 112, 58, 47, 47, 98, 47], body := [], header := [] },
     none] := by decide +kernel

/-- a repeated default key with spare capacity: target 1 still shows `X: [d, 1]` after target 2
(`X: [d, 2]`) was decoded -/
example : ((callsH aliasCfg 2 { ps := PS.init aliasSrc, heap := aliasHeap }).1.map fun r =>
      match r.1 with
      | .ok t => viewMap (callsH aliasCfg 2 { ps := PS.init aliasSrc, heap := aliasHeap }).2.heap t.header
      | _ => []) =
    [[([88], [[100], [49]])], [([88], [[100], [50]])]] := by decide +kernel

/-! ### the code before fixes 84aa239 and c9e79da, and what was wrong with it -/

namespace Old

/-- the former closure: the default slices themselves are put into the target's map, and the
decision after the request line is made on the first peeked line, comment or not -/
def call (cfg : Cfg) (st : St) : Outcome Target × St :=
  let fuel := st.ps.rest.length + 2
  match skipLoop fuel st.ps with
  | (none, ps1) => (.error eNoTargets, { st with ps := ps1 })
  | (some line, ps1) =>
    match requestLine cfg line cfg.hdr with          -- tgt.Header[k] = vs
    | .error e => (.error e, { st with ps := ps1 })
    | .ok tgt =>
      let (p, ps2) := ps1.peek
      if returnsAfterPeek (Vegeta.Model.Histogram.trimSpace p) then (.ok tgt, { st with ps := ps2 })
      else
        match headerLoop cfg fuel ps2 tgt st.heap with
        | (some e, ps3, _, h3) => (.error e, { ps := ps3, heap := h3 })
        | (none, ps3, tgt3, h3) => (.ok tgt3, { ps := ps3, heap := h3 })

def callsH (cfg : Cfg) : Nat → St → List (Outcome Target × Heap) × St
  | 0, st => ([], st)
  | n + 1, st =>
    let (r, st1) := call cfg st
    let (rs, st2) := callsH cfg n st1
    ((r, st1.heap) :: rs, st2)

end Old

/-- **Former defect `F11-http-comment-after-bare-request-line`** (fixed by c9e79da): on the old code the legal file `GET http://a/`,
`# c`, `GET http://b/` yields ONE target — carrying the bogus header `"GET http": ["//b/"]` —
and then `ErrNoTargets`. -/
theorem http_parse_render_old_counterexample :
    ((Old.callsH trapCfg 2 { ps := PS.init trapSrc, heap := [] }).1.map fun r =>
      match r.1 with
      | .ok t => some (viewTarget r.2 t)
      | _ => none) =
    [some { method := [71, 69, 84], url := [104, 116, 116, 112, 58, 47, 47, 97, 47], body := [],
            header := [([71, 69, 84, 32, 104, 116, 116, 112], [[47, 47, 98, 47]])] }, none] := by decide +kernel

/-- **Former defect `F10-http-default-header-aliasing`** (fixed by 84aa239): on the old code, with a default slice that has spare
capacity, the first target shows `X: [d, 1]` when returned and `X: [d, 2]` after the second call. -/
theorem earlier_targets_stable_old_counterexample :
    ∃ r ∈ (Old.callsH aliasCfg 2 { ps := PS.init aliasSrc, heap := aliasHeap }).1, ∃ t, r.1 = .ok t ∧
      (hlookup t.header [88]).map (view r.2) = some [[100], [49]] ∧
      (hlookup t.header [88]).map (view (Old.callsH aliasCfg 2 { ps := PS.init aliasSrc, heap := aliasHeap }).2.heap) =
        some [[100], [50]] :=
  ⟨(.ok { method := [71, 69, 84], url := [104, 116, 116, 112, 58, 47, 47, 97, 47], body := [],
          header := [([88], { arr := 0, len := 2, cap := 4 })] }, [[[100], [49], [], []]]), by decide +kernel, _, rfl, by decide +kernel, by decide +kernel⟩

/-! ### eager mode: `ReadAllTargets` on both targeters -/

open Vegeta.Proofs.TargeterLaws in
/-- **Eager mode returns exactly the stream's targets in order; `ErrNoTargets` only for an empty
stream; any other error aborts** (http targeter): the successive calls yield some targets `ts`
and then fail with `e` (`RunsTo`), and `ReadAllTargets` returns exactly `ts` if `e` is
`ErrNoTargets` and `ts` is not empty, `ErrNoTargets` if it is empty, and `e` otherwise — for every
input; the fuel of the model's loop is never exhausted. -/
theorem read_all_targets (cfg : Cfg) (st : St) :
    ∃ ts e st', RunsTo (call cfg) st ts e st' ∧
      readAll cfg st = (if e = eNoTargets then (if ts = [] then .error eNoTargets else .ok ts) else .error e, st') := by
  obtain ⟨ts, e, st', hr, hl⟩ := http_runsTo cfg _ st (Nat.le_refl _)
  refine ⟨ts, e, st', hr, ?_⟩
  have hle := eff_length_le st.ps
  have := readAllLoop_spec (call cfg) (st.ps.rest.length + 3) st st' [] ts e hr (by omega)
  simpa [readAll] using this

open Vegeta.Proofs.TargeterLaws in
/-- the same for the JSON targeter -/
theorem read_all_targets_json (cfg : JSONTargets.Cfg) (src : Bytes) :
    ∃ ts e s', RunsTo (JSONTargets.call cfg) src ts e s' ∧
      readAllLoop (JSONTargets.call cfg) (src.length + 2) src [] =
        (if e = eNoTargets then (if ts = [] then .error eNoTargets else .ok ts) else .error e, s') := by
  obtain ⟨ts, e, s', hr, hl⟩ := json_runsTo cfg _ src (Nat.le_refl _)
  refine ⟨ts, e, s', hr, ?_⟩
  have := readAllLoop_spec (JSONTargets.call cfg) (src.length + 2) src s' [] ts e hr (by omega)
  simpa using this

/-- results that match their blocks after their own calls and are stable up to `hF` match them in `hF` -/
theorem aux_listRel_final {cfg : Cfg} {h0 hF : Heap} {rs : List (Outcome Target × Heap)} {bs : List Block}
    (h : ListRel (fun r b => ∃ t, r.1 = .ok t ∧ Matches r.2 t (describe (defaultsOf cfg h0) cfg.body cfg.fs b)) rs bs)
    (hst : ∀ r ∈ rs, ∀ t, r.1 = .ok t → ∀ k, (hlookup t.header k).map (view hF) = (hlookup t.header k).map (view r.2)) :
    ∃ ts : List Target, rs.map (·.1) = ts.map Outcome.ok ∧
      ListRel (fun t b => Matches hF t (describe (defaultsOf cfg h0) cfg.body cfg.fs b)) ts bs := by
  induction h with
  | nil => exact ⟨[], rfl, ListRel.nil⟩
  | cons hab _ ih =>
    rename_i a b as bs' _
    obtain ⟨t, ht, hm⟩ := hab
    obtain ⟨ts, h1, h2⟩ := ih (fun r hr => hst r (by simp [hr]))
    refine ⟨t :: ts, by simp [ht, h1], ListRel.cons ?_ h2⟩
    refine ⟨hm.1, hm.2.1, hm.2.2.1, fun k => ?_⟩
    rw [hst a (by simp) t ht k]; exact hm.2.2.2 k

open Vegeta.Proofs.TargeterLaws in
/-- targets and then an error, read off `calls`, are a run -/
theorem aux_runsTo_of_calls (cfg : Cfg) : ∀ (ts : List Target) (st : St) (e : Nat),
    (calls cfg (ts.length + 1) st).1 = ts.map Outcome.ok ++ [.error e] →
    RunsTo (call cfg) st ts e (calls cfg (ts.length + 1) st).2 := by
  intro ts
  induction ts with
  | nil =>
    intro st e h
    simp only [List.length_nil, calls, List.map_nil, List.nil_append, List.cons.injEq, and_true] at h
    exact RunsTo.stop (by simp only [List.length_nil, calls]; rw [← h])
  | cons t r ih =>
    intro st e h
    simp only [List.length_cons, calls, List.map_cons, List.cons_append, List.cons.injEq] at h
    have hr := ih (call cfg st).2 e h.2
    exact RunsTo.more (s1 := (call cfg st).2) (by rw [← h.1]) (by simpa [calls] using hr)

open Vegeta.Proofs.TargeterLaws in
/-- the stream of a document: its calls yield targets matching the blocks' descriptions, each
still showing its values in the heap after the last call, and then `ErrNoTargets` -/
theorem aux_doc_runsTo (cfg : Cfg) (h0 : Heap) (d : Doc) (hl : d.Legal cfg.validURI cfg.fs) (wf : WfDefaults cfg h0) :
    ∃ ts hEnd st', ListRel (fun t b => Matches hEnd t (describe (defaultsOf cfg h0) cfg.body cfg.fs b)) ts d.blocks ∧
      RunsTo (call cfg) { ps := PS.init (render d), heap := h0 } ts eNoTargets st' := by
  obtain ⟨rs, hEnd, h1, h2⟩ := http_parse_render cfg h0 d 1 hl wf
  have hstab := earlier_targets_stable cfg { ps := PS.init (render d), heap := h0 } (d.blocks.length + 1)
  obtain ⟨ts, hts, hm⟩ := aux_listRel_final h2 (fun r hr t ht k => hstab r (by rw [h1]; simp [hr]) t ht k)
  have hlen : ts.length = d.blocks.length := hm.length_eq
  have hcalls := (callsH_calls cfg (d.blocks.length + 1) { ps := PS.init (render d), heap := h0 }).1
  rw [h1, List.map_append, hts, ← hlen] at hcalls
  exact ⟨ts, _, _, hm, aux_runsTo_of_calls cfg ts _ eNoTargets (by simpa using hcalls)⟩

/-- on a document of the grammar with at least one block `ReadAllTargets` returns as many targets as
there are blocks (that they match the descriptions is in `attack_http_selection`, not here) -/
theorem read_all_targets_described (cfg : Cfg) (h0 : Heap) (d : Doc)
    (hl : d.Legal cfg.validURI cfg.fs) (wf : WfDefaults cfg h0) (hne : d.blocks ≠ []) :
    ∃ ts, (readAll cfg { ps := PS.init (render d), heap := h0 }).1 = .ok ts ∧ ts.length = d.blocks.length := by
  obtain ⟨ts', e', st', hr', hra⟩ := read_all_targets cfg { ps := PS.init (render d), heap := h0 }
  obtain ⟨ts, _, _, hm, hr⟩ := aux_doc_runsTo cfg h0 d hl wf
  obtain ⟨e1, e2, _⟩ := hr'.det hr
  subst e1; subst e2
  have hlen : ts'.length = d.blocks.length := hm.length_eq
  have hne' : ts' ≠ [] := by
    intro h0'; rw [h0'] at hlen
    exact hne (List.length_eq_zero_iff.mp hlen.symm)
  exact ⟨ts', by rw [hra]; simp [hne'], hlen⟩

/-! ### http: body files are read at decode time -/

open Vegeta.Proofs.HTTPFileSystem in
/-- **The http targeter is a function of the targets file and of the file system state at each
call**: let call number `j` see the file system `fss j` (body files may be rewritten, created or
removed between calls).  For every document of the grammar whose block `j` names a body file that
exists when call `j` happens, call `j` returns block `j`'s target with the payload the file has
AT THAT CALL (`describe … (fss j)`, compared in the heap right after that call), and
the calls after the last block report `ErrNoTargets`.  Nothing is remembered from one call to the
next (a cache keyed by path would break this; seed c14h). -/
theorem http_parse_render_fs (cfg : Cfg) (h0 : Heap) (d : Doc) (k : Nat) (fss : Nat → FS)
    (hl : LegalFrom cfg fss 0 d.blocks) (htr : ∀ f ∈ d.trail, f.Legal) (hsep : Separated d.blocks)
    (wf : WfDefaults cfg h0) :
    ∃ rs hEnd,
      (callsHF cfg fss 0 (d.blocks.length + k) { ps := PS.init (render d), heap := h0 }).1 =
        rs ++ List.replicate k (.error eNoTargets, hEnd) ∧
      DescribedFrom cfg h0 fss 0 rs d.blocks :=
  callsHF_render cfg h0 d k fss hl htr hsep wf

/-- the file `POST http://r/0` `@p` / `GET http://r/1` / `POST http://r/2` `@p` with `p` holding `A`
at the first call and `B` afterwards: bodies `A`, the default body, `B` -/
def rwSrc : Bytes :=
  [80, 79, 83, 84, 32, 104, 116, 116, 112, 58, 47, 47, 114, 47, 48, 10, 64, 112, 10,
   71, 69, 84, 32, 104, 116, 116, 112, 58, 47, 47, 114, 47, 49, 10,
   80, 79, 83, 84, 32, 104, 116, 116, 112, 58, 47, 47, 114, 47, 50, 10, 64, 112, 10]

open Vegeta.Proofs.HTTPFileSystem in
example : ((callsHF { trapCfg with body := [100] }
      (fun i => fun p => if p = [112] then (if i = 0 then some [65] else some [66]) else none) 0 4
      { ps := PS.init rwSrc, heap := [] }).1.map fun r =>
      match r.1 with
      | .ok t => some t.body
      | _ => none) = [some [65], some [100], some [66], none] := by decide +kernel

open Vegeta.Proofs.HTTPFileSystem in
/-- non-vacuity of `LegalFrom` with a file system that changes: one block whose body file `p` exists at call 0 -/
example : LegalFrom trapCfg (fun i => fun p => if p = [112] ∧ i = 0 then some [65] else none) 0
    [{ lead := [], pre := [], method := [80], url := [104, 116, 116, 112, 58, 47, 47, 114, 47], post := [], items := [],
       body := some { path := [112], pre := [], post := [] } }] := by
  refine ⟨⟨(by intro f hf; cases hf), aux_isPad_nil, aux_isPad_nil, (by decide), (by decide),
    aux_edgePlain_of 104 47 rfl rfl (by decide) (by decide) (by decide), rfl, (by intro it hit; cases hit), ?_⟩, trivial⟩
  intro bl hbl
  cases hbl
  exact ⟨aux_edgePlain_of 112 112 rfl rfl (by decide) (by decide) (by decide), aux_isPad_nil, aux_isPad_nil, by decide⟩

/-! ### no shared backing arrays -/

/-- **Targets never share a backing array with the defaults or with each other** (the statement
seeds c14a and c15i broke), in the model where a header value slice is a reference
`(array, len, cap)` and `append` writes in place when capacity allows — for every input, every
default header map and any number of calls: every value slice of a returned target lies in an
array that did not exist before the first call (so in none of the default map's arrays, whatever
their spare capacity), and the arrays of targets returned by different calls are different
(different keys of one target: `no_shared_backing_within`). -/
theorem no_shared_backing (cfg : Cfg) (st : St) (n : Nat) :
    (∀ r ∈ (callsH cfg n st).1, ∀ t, r.1 = .ok t → ∀ k s, hlookup t.header k = some s → 0 < s.cap →
      st.heap.length ≤ s.arr ∧ s.arr < r.2.length) ∧
    List.Pairwise (fun (r1 r2 : Outcome Target × Heap) => ∀ t1 t2, r1.1 = .ok t1 → r2.1 = .ok t2 →
      ∀ k1 s1 k2 s2, hlookup t1.header k1 = some s1 → hlookup t2.header k2 = some s2 → 0 < s1.cap → 0 < s2.cap →
        s1.arr ≠ s2.arr) (callsH cfg n st).1 := by
  obtain ⟨ps', c1, _⟩ := calls_refines cfg n st
  rw [c1]
  exact callsL_arrays cfg n (eff st.ps) st.heap

/-- … and within one target -/
theorem no_shared_backing_within (cfg : Cfg) (st : St) (t : Target) (ht : (call cfg st).1 = .ok t) :
    ∀ k1 s1 k2 s2, hlookup t.header k1 = some s1 → hlookup t.header k2 = some s2 → 0 < s1.cap → 0 < s2.cap →
      s1.arr = s2.arr → k1 = k2 := by
  obtain ⟨ps', c1, _⟩ := call_refines cfg st
  rw [c1] at ht
  exact (callL_arrays cfg (eff st.ps) st.heap t ht).2

/-- the alias witness on the repaired model: the default `X` lives in array 0 (capacity 4); each call
copies it (arrays 1, 3) and the append of the own value reallocates (arrays 2, 4) -/
example : ((callsH aliasCfg 2 { ps := PS.init aliasSrc, heap := aliasHeap }).1.map fun r =>
      match r.1 with
      | .ok t => (hlookup t.header [88]).map (·.arr)
      | _ => none) = [some 2, some 4] := by decide +kernel

open Vegeta.Model.JSONTargetsRef Vegeta.Proofs.JSONTargetsRef in
/-- **The JSON targeter's merge never shares a backing array either** (the statement seed c15i
broke), in the reference model of `append` (`Model/JSONTargetsRef.lean`: `append(s, vs...)`
returns `s` when there is nothing to add, writes in place when `len + n ≤ cap`, else copies):
for every heap, every default header map `dflt` (slices of any capacity) and every decoded
record `own`, the merged header map
* shows, key by key, exactly what the by-value model `JSONTargets.vmerge` computes
  (defaults first, then the own values), so the by-value model is a sound abstraction;
* consists of nil slices and slices in arrays allocated by this merge (index ≥ the heap size
  before it): none of them existed before, so none is an array of `h` that the defaults or an
  earlier target use (`dflt` is not assumed well formed);
* has different keys in different arrays; and nothing that existed before is written
  (`Extends`): the defaults and all earlier targets keep their values. -/
theorem json_no_shared_backing (h : Heap) (dflt : HMap) (own : JSONTargets.VMap) :
    let r := finishHeader h dflt own
    let vm := JSONTargets.vmerge (JSONTargets.vmerge [] (dflt.map fun (k, s) => (k, view h s))) own
    Extends h r.2 ∧
    (∀ k, (hlookup r.1 k).map (view r.2) = JSONTargets.vlookup vm k) ∧
    (∀ k s, hlookup r.1 k = some s → 0 < s.cap → h.length ≤ s.arr ∧ s.arr < r.2.length) ∧
    (∀ k1 s1 k2 s2, hlookup r.1 k1 = some s1 → hlookup r.1 k2 = some s2 → 0 < s1.cap → 0 < s2.cap →
      s1.arr = s2.arr → k1 = k2) := by
  have i1 := mergeRef_inv h (dflt.map fun (k, s) => (k, view h s)) [] h [] (minv_empty h)
  have i2 := mergeRef_inv h own _ _ _ i1
  exact ⟨i2.ext, i2.shows, fun k s hk hc => ⟨i2.fresh k s hk hc, arr_lt_of_ok (i2.ok k s hk) hc⟩, i2.distinct⟩

open Vegeta.Model.JSONTargetsRef in
/-- non-vacuity / the c15i scenario in the reference model: default `X: [a, b, c]` in a slice of
capacity 4 (array 0) and a target with an own `X` value: the defaults are copied into array 1, the
own value makes array 2; the defaults' array keeps its spare cell untouched -/
example : (finishHeader [[[97], [98], [99], []]] [([88], { arr := 0, len := 3, cap := 4 })] [([88], [[49]])]) =
    ([([88], { arr := 2, len := 4, cap := 6 })],
     [[[97], [98], [99], []], [[97], [98], [99]], [[97], [98], [99], [49], [], []]]) := by decide +kernel

/-! ### the attack command's target selection -/

open Vegeta.Model.AttackTargets Vegeta.Proofs.AttackTargets Vegeta.Proofs.TargeterLaws in
/-- **Eager and lazy selection hand out the same targets** (attack.go: `-lazy` uses the stream
targeter itself, otherwise `NewStaticTargeter(ReadAllTargets(tr)...)`), for ANY stream targeter
`step`: if its successive calls yield the targets `ts` (at least one) and then `ErrNoTargets`, then
* lazily the first `|ts|` draws are `ts` in order and the next draw is `ErrNoTargets` (which
  ends the attack);
* eagerly the selection succeeds and draw number `j` (`j < m`, any `m ≤ 2^63`) is target `j mod |ts|`
  — in particular the first `|ts|` draws are the same `ts` in the same order. -/
theorem attack_selection_same_targets {S T : Type} (step : S → Outcome T × S) (fuel : Nat) (s s' : S) (ts : List T)
    (hr : RunsTo step s ts eNoTargets s') (hne : ts ≠ []) (hf : ts.length < fuel) (hlen : ts.length ≤ two63) :
    (∃ p, selectTargeter step fuel true s = .ok p ∧
      draws step (ts.length + 1) p = ts.map Outcome.ok ++ [.error eNoTargets]) ∧
    (∃ p, selectTargeter step fuel false s = .ok p ∧
      (∀ m, m ≤ two63 → draws step m p = (List.range' 0 m).map (rot ts)) ∧
      draws step ts.length p = ts.map Outcome.ok) := by
  constructor
  · exact ⟨.stream s, by simp [selectTargeter], draws_stream step s ts eNoTargets s' hr⟩
  · have hsel := select_eager step fuel s s' ts eNoTargets hr hf
    simp only [↓reduceIte, hne] at hsel
    have hd : ∀ m, m ≤ two63 → draws step m (.static ts (-1)) = (List.range' 0 m).map (rot ts) := by
      intro m hm
      have := draws_static step ts hne m 0 (by omega)
      simpa using this
    refine ⟨.static ts (-1), hsel, hd, ?_⟩
    rw [hd ts.length hlen, map_rot_range']

open Vegeta.Model.AttackTargets Vegeta.Proofs.AttackTargets Vegeta.Proofs.TargeterLaws

/-- **The attack command on an http targets file**: for every document of the grammar (at least
one, fewer than 2^63 targets) and the `-header`/`-body` defaults in `cfg`, there is one list `ts`
of targets matching the document's descriptions such that with `-lazy` the attacker's draws are
`ts` in order and then `ErrNoTargets`, and without it draw number `j` is `ts[j mod |ts|]`. -/
theorem attack_http_selection (cfgJ : JSONTargets.Cfg) (cfg : Cfg) (h0 : Heap) (d : Doc)
    (hl : d.Legal cfg.validURI cfg.fs) (wf : WfDefaults cfg h0) (hne : d.blocks ≠ []) (hlen : d.blocks.length ≤ two63) :
    ∃ ts hEnd, ListRel (fun t b => Matches hEnd t (describe (defaultsOf cfg h0) cfg.body cfg.fs b)) ts d.blocks ∧
      (∃ p, attackTargeter fmtHTTP true cfgJ cfg (render d) h0 = .ok (.http p) ∧
        draws (call cfg) (ts.length + 1) p = ts.map Outcome.ok ++ [.error eNoTargets]) ∧
      (∃ p, attackTargeter fmtHTTP false cfgJ cfg (render d) h0 = .ok (.http p) ∧
        ∀ m, m ≤ two63 → draws (call cfg) m p = (List.range' 0 m).map (rot ts)) := by
  let st0 : St := { ps := PS.init (render d), heap := h0 }
  obtain ⟨ts, hEnd, _, hm, hr⟩ := aux_doc_runsTo cfg h0 d hl wf
  have hlen' : ts.length = d.blocks.length := hm.length_eq
  have hne' : ts ≠ [] := by
    intro h0'; rw [h0'] at hlen'; exact hne (List.length_eq_zero_iff.mp hlen'.symm)
  -- the fuel attack() gives ReadAllTargets suffices
  obtain ⟨ts2, e2, st2, hr2, hb2⟩ := http_runsTo cfg _ st0 (Nat.le_refl _)
  obtain ⟨e1, _, _⟩ := hr.det hr2
  have hfuel : ts.length < st0.ps.rest.length + 3 := by
    have := eff_length_le st0.ps; rw [e1]; omega
  obtain ⟨⟨p1, s1, d1⟩, ⟨p2, s2, d2, _⟩⟩ := attack_selection_same_targets (call cfg) _ st0 _ ts hr hne' hfuel (by omega)
  -- `-format http` hands the selection on the http targeter to the attacker
  have hsel : ∀ lazy p, selectTargeter (call cfg) (st0.ps.rest.length + 3) lazy st0 = .ok p →
      attackTargeter fmtHTTP lazy cfgJ cfg (render d) h0 = .ok (.http p) := by
    intro lazy p hp
    unfold attackTargeter
    rw [if_neg (by decide), if_pos rfl]
    dsimp only
    rw [hp]
  exact ⟨ts, _, hm, ⟨p1, hsel true p1 s1, d1⟩, ⟨p2, hsel false p2 s2, d2⟩⟩

/-- a stream that ends in another error, or has no target: lazily the attacker gets the
targets before the error and then the error; eagerly the attack aborts with that error -/
theorem attack_selection_error {S T : Type} (step : S → Outcome T × S) (fuel : Nat) (s s' : S) (ts : List T) (e : Nat)
    (hr : RunsTo step s ts e s') (hf : ts.length < fuel) (hbad : e ≠ eNoTargets ∨ ts = []) :
    selectTargeter step fuel false s = .error e ∧
    draws step (ts.length + 1) (.stream s) = ts.map Outcome.ok ++ [.error e] := by
  refine ⟨?_, draws_stream step s ts e s' hr⟩
  rw [select_eager step fuel s s' ts e hr hf]
  rcases hbad with h | h
  · simp [h]
  · by_cases he : e = eNoTargets
    · simp [he, h]
    · simp [he]

/-- an unknown `-format` is refused -/
theorem attack_format_switch (format : Bytes) (lazy : Bool) (cfgJ : JSONTargets.Cfg) (cfg : Cfg) (src : Bytes) (h : Heap)
    (hj : format ≠ fmtJSON) (hh : format ≠ fmtHTTP) :
    attackTargeter format lazy cfgJ cfg src h = .error eBadFormat := by
  simp [attackTargeter, hj, hh]

/-- the JSON format goes to the JSON targeter, with the same selection -/
theorem attack_json_selection (cfgJ : JSONTargets.Cfg) (cfg : Cfg) (src : Bytes) (h : Heap) (lazy : Bool) :
    ∃ ts e s', RunsTo (JSONTargets.call cfgJ) src ts e s' ∧ ts.length < src.length + 2 ∧
      attackTargeter fmtJSON lazy cfgJ cfg src h =
        match selectTargeter (JSONTargets.call cfgJ) (src.length + 2) lazy src with
        | .ok p => .ok (.json p)
        | .error e => .error e
        | .panic => .panic := by
  obtain ⟨ts, e, s', hr, hl⟩ := json_runsTo cfgJ _ src (Nat.le_refl _)
  exact ⟨ts, e, s', hr, by omega, by
    unfold attackTargeter; rw [if_pos rfl]
    cases selectTargeter (JSONTargets.call cfgJ) (src.length + 2) lazy src <;> rfl⟩

/-! ### the JSON format -/

/-- **"the JSON format (one object per line)"**: on a file of newline-terminated lines the
targeter decodes every non-blank line (trimmed), in order, one per call, and reports
`ErrNoTargets` ever after; an unterminated last line is never delivered (by design:
`TestJSONTargeter/no_new_line`). -/
theorem json_stream (cfg : JSONTargets.Cfg) (ls : List Bytes) (tail : Bytes) (hls : ∀ l ∈ ls, 10 ∉ l)
    (ht : 10 ∉ tail) (k : Nat) :
    (JSONTargets.calls cfg ((Vegeta.Proofs.JSONTargets.nonBlank ls).length + k) (Vegeta.Proofs.JSONTargets.fileOf ls tail)).1 =
      (Vegeta.Proofs.JSONTargets.nonBlank ls).map (JSONTargets.finish cfg) ++ List.replicate k (.error JSONTargets.eNoTargets) :=
  Vegeta.Proofs.JSONTargets.calls_file cfg tail ht ls hls k

/-- **"merged as documented (defaults first, the target's own values added; the default body
only when the target has none)"** for the JSON targeter: method and URL are the decoded ones
(both required), the body is the decoded one unless empty, and every header key shows the
default values followed by the decoded values, provided neither map repeats a key (`Nodup`). -/
theorem merge_semantics_json (cfg : JSONTargets.Cfg) (line : Bytes) (t : JSONTargets.JRec)
    (h : JSONTargets.finish cfg line = .ok t)
    (hd : (cfg.hdr.map (·.1)).Nodup) (hr : ∀ r, cfg.dec line = some r → (r.header.map (·.1)).Nodup) :
    ∃ r, cfg.dec line = some r ∧ r.method ≠ [] ∧ r.url ≠ [] ∧ t.method = r.method ∧ t.url = r.url ∧
      t.body = (if r.body.length > 0 then r.body else cfg.body) ∧
      ∀ k, JSONTargets.vlookup t.header k =
        match JSONTargets.vlookup cfg.hdr k, JSONTargets.vlookup r.header k with
        | none, none => none
        | some ds, none => some ds
        | none, some vs => some vs
        | some ds, some vs => some (ds ++ vs) :=
  Vegeta.Proofs.JSONTargets.finish_spec cfg line t h hd hr

open Vegeta.Proofs.JSONRoundTrip in
/-- **"targets written with the JSON target encoder decode back to equal targets"**: for every
target whose strings are Go-valid UTF-8 (method, URL, header names and values — anything else
the encoder itself replaces by U+FFFD) and any body bytes, any number of headers in any map
order, nil or empty value slices included: the line the encoder writes, trimmed as the targeter
trims it, decodes to the same method, URL, body and header values (a nil value slice reads back
as no values). `decodeImage` is the model of the decoder on the encoder's image; it is compared
with the real decoder on every line the real encoder writes in the correspondence run. -/
theorem json_roundtrip (t : JSONTargets.ETarget) (h : Clean t) :
    JSONTargets.decodeImage (Vegeta.Model.Histogram.trimSpace (JSONTargets.encodeTarget t)) = some (recOf t) :=
  decode_encode t h

open Vegeta.Proofs.JSONRoundTrip Vegeta.Proofs.JSONTargets in
theorem aux_fileOf_encoded (ts : List JSONTargets.ETarget) :
    fileOf (ts.map lineOf) [] = ts.flatMap JSONTargets.encodeTarget := by
  induction ts with
  | nil => rfl
  | cons t r ih => simp [fileOf, ih, encodeTarget_line]

open Vegeta.Proofs.JSONRoundTrip Vegeta.Proofs.JSONTargets in
theorem aux_nonBlank_encoded (ts : List JSONTargets.ETarget) : nonBlank (ts.map lineOf) = ts.map lineOf := by
  induction ts with
  | nil => rfl
  | cons t r ih =>
    have hne : lineOf t ≠ [] := by simp [lineOf]
    simp only [List.map_cons, nonBlank, trim_line, hne, ↓reduceIte, ih]

open Vegeta.Proofs.JSONRoundTrip Vegeta.Proofs.JSONTargets in
/-- … and through the targeter: a file written by the encoder for the targets `ts` (one call of
the encoder per target) makes the JSON targeter — with `decodeImage` as its decoder — return, call
by call and in order, the merge (`merge_semantics_json`) of each target's own record `recOf t`,
then `ErrNoTargets`. -/
theorem json_encoded_file (cfg : JSONTargets.Cfg) (hdec : cfg.dec = JSONTargets.decodeImage)
    (ts : List JSONTargets.ETarget) (hts : ∀ t ∈ ts, Clean t) (k : Nat) :
    (JSONTargets.calls cfg (ts.length + k) (ts.flatMap JSONTargets.encodeTarget)).1 =
      ts.map (fun t => JSONTargets.finish cfg (lineOf t)) ++ List.replicate k (.error JSONTargets.eNoTargets) ∧
    ∀ t ∈ ts, cfg.dec (lineOf t) = some (recOf t) := by
  constructor
  · have hls : ∀ l ∈ ts.map lineOf, 10 ∉ l := by
      intro l hl
      simp only [List.mem_map] at hl
      obtain ⟨t, ht, rfl⟩ := hl
      exact lineOf_no_nl t (hts t ht)
    have := json_stream cfg (ts.map lineOf) [] hls (by simp) k
    rw [aux_nonBlank_encoded, aux_fileOf_encoded] at this
    simp only [List.length_map, List.map_map] at this
    exact this
  · intro t ht
    have := decode_encode t (hts t ht)
    rw [encodeTarget_line, trim_line] at this
    rw [hdec]; exact this

/-- `GET http://a/<é` with body `hi`, header `X: ["1", "\"\n"]` and a nil value slice under `Y` -/
def rtTarget : JSONTargets.ETarget :=
  { method := [71, 69, 84], url := [104, 116, 116, 112, 58, 47, 47, 97, 47, 60, 195, 169], body := [104, 105],
    header := [([88], some [[49], [34, 10]]), ([89], none)] }

open Vegeta.Proofs.JSONRoundTrip in
/-- non-vacuity of `Clean` -/
example : Clean rtTarget := by
  refine ⟨by decide, by decide, by decide, ?_⟩
  intro kv hkv
  simp only [rtTarget, List.mem_cons, List.mem_nil_iff, or_false] at hkv
  rcases hkv with rfl | rfl
  · exact ⟨by decide, by intro x hx; simp at hx; rcases hx with rfl | rfl <;> decide⟩
  · exact ⟨by decide, by intro x hx; simp at hx⟩

/-- the line the model writes for it:
`{"method":"GET","url":"http://a/\u003cé","body":"aGk=","header":{"X":["1","\"\n"],"Y":null}}` -/
example : JSONTargets.encodeTarget rtTarget =
    [123, 34, 109, 101, 116, 104, 111, 100, 34, 58, 34, 71, 69, 84, 34, 44, 34, 117, 114, 108, 34, 58, 34, 104, 116, 116, 112,
     58, 47, 47, 97, 47, 92, 117, 48, 48, 51, 99, 195, 169, 34, 44, 34, 98, 111, 100, 121, 34, 58, 34, 97, 71, 107, 61, 34,
     44, 34, 104, 101, 97, 100, 101, 114, 34, 58, 123, 34, 88, 34, 58, 91, 34, 49, 34, 44, 34, 92, 34, 92, 110, 34, 93, 44,
     34, 89, 34, 58, 110, 117, 108, 108, 125, 125, 10] := by decide +kernel

/-! ### source facts the models rest on -/

/-- the method regexp is `^[A-Z]+\s` -/
theorem facts_method_regexp : Vegeta.Extracted.c14_method_regexp = [94, 91, 65, 45, 90, 93, 43, 92, 115] := by decide

/-- the default merge of `NewHTTPTargeter` copies every default value slice
(`append(<nil slice>, vs...)`) and does not assign the slice itself (fix 84aa239) -/
theorem facts_merge_copies_default_slices :
    Vegeta.Extracted.c14_http_merge_copies_default_slices = true ∧
    Vegeta.Extracted.c14_http_merge_assigns_default_slices = false := by decide

/-- between the first `Peek` and the return test there is the loop
`for strings.HasPrefix(line, "#") { line = strings.TrimSpace(sc.Peek()) }` (fix c9e79da) -/
theorem facts_peek_skips_comments : Vegeta.Extracted.c14_http_peek_skips_comments = true := by decide

/-- attack.go hands `(src, body, hdr)` to whichever targeter the format selects, `hdr` is the
`-header` flag's map (not the proxy headers), and the eager path is
`if !opts.lazy { … ReadAllTargets(tr) … tr = NewStaticTargeter(targets...) }` — the shape
`Model/AttackTargets.lean` models -/
theorem facts_attack_target_selection :
    Vegeta.Extracted.c14_attack_json_targeter_args = [[115, 114, 99], [98, 111, 100, 121], [104, 100, 114]] ∧
    Vegeta.Extracted.c14_attack_http_targeter_args = [[115, 114, 99], [98, 111, 100, 121], [104, 100, 114]] ∧
    Vegeta.Extracted.c14_attack_hdr_source =
      [111, 112, 116, 115, 46, 104, 101, 97, 100, 101, 114, 115, 46, 72, 101, 97, 100, 101, 114] ∧
    Vegeta.Extracted.c14_attack_eager_unless_lazy = true := by decide

end Vegeta.Props.C14
