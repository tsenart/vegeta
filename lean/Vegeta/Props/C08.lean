/-
C08 — Format auto-detection and transcoding never lose, duplicate or alter results.

Here: the first bytes of the three encoders' images, the source facts about `DecoderFor`, examples.
The other theorems of the property are in this namespace in Proofs/Sniff.lean (the loop of `DecoderFor`
over the reader algebra: underlying reader with an arbitrary chunk oracle, `bytes.Reader` snapshot,
`TeeReader` into `buf`, `MultiReader`; trial decoders are arbitrary finite read scripts with an arbitrary
verdict), Proofs/Chain.lean and Proofs/ChainCodecs.lean (transcoding chains, over an abstract codec family
and over the modelled gob, CSV and JSON codecs) and Proofs/Commands.lean (`decoder(files)`, the `encode`
command).
-/
import Vegeta.Model.DecoderFor
import Vegeta.Proofs.Sniff
import Vegeta.Proofs.Chain
import Vegeta.Proofs.ChainCodecs
import Vegeta.Proofs.Commands
import Vegeta.Extracted.Facts
namespace Vegeta.Props.C08
open Vegeta.Go Vegeta.Model.DecoderFor

/-! ### first bytes of the encoders' images (why the detection order gob → JSON → CSV is safe) -/

theorem aux_digitsRev (fuel n : Nat) (hf : 0 < fuel) :
    Duration.digitsRev fuel n ≠ [] ∧ ∀ b ∈ Duration.digitsRev fuel n, isDigit b = true := by
  induction fuel generalizing n with
  | zero => omega
  | succ fuel ih =>
    unfold Duration.digitsRev
    split
    · rename_i h
      refine ⟨by simp, ?_⟩
      intro b hb
      simp only [List.mem_singleton] at hb
      subst hb
      simp [isDigit]; omega
    · refine ⟨by simp, ?_⟩
      intro b hb
      rcases List.mem_cons.mp hb with h | h
      · subst h
        have : n % 10 < 10 := Nat.mod_lt _ (by omega)
        simp [isDigit]; omega
      · cases fuel with
        | zero => simp [Duration.digitsRev] at h
        | succ fuel => exact (ih (n / 10) (by omega)).2 b h

theorem aux_fmtNat_head (n : Nat) : ∃ b tl, Duration.fmtNat n = b :: tl ∧ isDigit b = true := by
  obtain ⟨hne, hall⟩ := aux_digitsRev (n + 1) n (by omega)
  unfold Duration.fmtNat
  cases hr : (Duration.digitsRev (n + 1) n).reverse with
  | nil => simp at hr; exact absurd hr hne
  | cons b tl =>
    refine ⟨b, tl, rfl, hall b ?_⟩
    have : b ∈ (Duration.digitsRev (n + 1) n).reverse := by rw [hr]; simp
    simpa using this

/-- **A CSV record starts with a digit or `-`** (its first field is the decimal Unix-nanosecond timestamp,
never quoted).  About the record shape `csvRecord` of Model/DecoderFor.lean, not about `encodeCSV`. -/
theorem csv_record_first_byte (unixNano : Int) (rest : Bytes) :
    ∃ b tl, csvRecord unixNano rest = b :: tl ∧ (isDigit b = true ∨ b = 45) := by
  unfold csvRecord fmtInt
  split
  · exact ⟨45, _, rfl, Or.inr rfl⟩
  · obtain ⟨b, tl, h, hd⟩ := aux_fmtNat_head unixNano.natAbs
    exact ⟨b, tl ++ 44 :: rest, by rw [h]; rfl, Or.inl hd⟩

/-- **A JSON record starts with `{`.**  About `jsonRecord` of Model/DecoderFor.lean (by definition), not
about `encodeJSON`. -/
theorem json_record_first_byte (body : Bytes) : ∃ tl, jsonRecord body = 123 :: tl := ⟨body, rfl⟩

/-- The two text formats cannot be confused by their first byte: no CSV record starts like a JSON
record. -/
theorem csv_json_first_bytes_differ (unixNano : Int) (rest body : Bytes) :
    (csvRecord unixNano rest).head? ≠ (jsonRecord body).head? := by
  obtain ⟨b, tl, h, hb⟩ := csv_record_first_byte unixNano rest
  rw [h]
  simp only [jsonRecord, List.head?_cons, ne_eq, Option.some.injEq]
  rcases hb with hb | hb
  · intro hh; subst hh; simp [isDigit] at hb
  · omega

open Vegeta.Model.Codec Vegeta.Model.GobFrame Vegeta.Model.GobValue in
/-- **A non-empty gob stream written by the encoder starts with the byte 0xFF**: its first message is
the type definition of `Result`, 150 bytes long, so the stream opens with the two-byte count `FF 96`. -/
theorem gob_stream_first_byte (z : Zone) (r : Result) (rs : List Result) (s : Bytes)
    (h : encodeGobAll z (r :: rs) = some s) : ∃ tl, s = 255 :: 150 :: tl := by
  obtain ⟨ps, _, rfl⟩ := Vegeta.Proofs.Gob.encodeGobAll_cons_eq_some h
  have e : encodeFrame preResult = 255 :: 150 :: preResult := by decide +kernel
  refine ⟨preResult ++ encodeFrames ([preTime, preHeader, preStrings] ++ ps), ?_⟩
  simp only [preFrames, encodeFrames, List.cons_append, List.flatMap_cons, e, List.nil_append]

/-- **The three formats are told apart by the first byte of any non-empty stream**: gob `0xFF` (the
encoder's image), JSON `{` (0x7B), CSV a digit or `-` (the record shapes `jsonRecord`, `csvRecord`) —
pairwise different. -/
theorem formats_first_bytes_differ (z : Vegeta.Model.GobValue.Zone) (r : Vegeta.Model.Codec.Result) (rs : List Vegeta.Model.Codec.Result) (s : Bytes)
    (h : Vegeta.Model.GobValue.encodeGobAll z (r :: rs) = some s) (unixNano : Int) (rest body : Bytes) :
    s.head? ≠ (jsonRecord body).head? ∧ s.head? ≠ (csvRecord unixNano rest).head? ∧
    (csvRecord unixNano rest).head? ≠ (jsonRecord body).head? := by
  obtain ⟨tl, hs⟩ := gob_stream_first_byte z r rs s h
  refine ⟨by rw [hs]; simp [jsonRecord], ?_, csv_json_first_bytes_differ unixNano rest body⟩
  obtain ⟨b, tl', hc, hb⟩ := csv_record_first_byte unixNano rest
  rw [hs, hc]
  simp only [List.head?_cons, ne_eq, Option.some.injEq]
  rcases hb with hb | hb
  · intro hh; subst hh; simp [isDigit] at hb
  · omega

/-! ### source facts (regenerated from /repo by every check run) -/

/-- `DecoderFor` tries gob, then JSON, then CSV — the order the trial list of the model stands for. -/
theorem facts_factories : Vegeta.Extracted.c08Factories =
    [[78, 101, 119, 68, 101, 99, 111, 100, 101, 114], -- NewDecoder
     [78, 101, 119, 74, 83, 79, 78, 68, 101, 99, 111, 100, 101, 114], -- NewJSONDecoder
     [78, 101, 119, 67, 83, 86, 68, 101, 99, 111, 100, 101, 114]] -- NewCSVDecoder
    := by decide +kernel

/-- trial reader: `io.MultiReader(bytes.NewReader(buf.Bytes()), io.TeeReader(r, &buf))` (`Trial.start`, `Trial.read`) -/
theorem facts_trial_reader : Vegeta.Extracted.c08TrialReader =
    [105, 111, 46, 77, 117, 108, 116, 105, 82, 101, 97, 100, 101, 114, 40, 98, 121, 116, 101, 115,
    46, 78, 101, 119, 82, 101, 97, 100, 101, 114, 40, 98, 117, 102, 46, 66, 121, 116, 101, 115, 40,
    41, 41, 44, 32, 105, 111, 46, 84, 101, 101, 82, 101, 97, 100, 101, 114, 40, 114, 44, 32, 38, 98,
    117, 102, 41, 41] := by decide +kernel

/-- acceptance: `err := dec(rd).Decode(&Result{}) ; err == nil` -/
theorem facts_accept : Vegeta.Extracted.c08Accept =
    [101, 114, 114, 32, 58, 61, 32, 100, 101, 99, 40, 114, 100, 41, 46, 68, 101, 99, 111, 100, 101,
    40, 38, 82, 101, 115, 117, 108, 116, 123, 125, 41, 32, 59, 32, 101, 114, 114, 32, 61, 61, 32,
    110, 105, 108] := by decide +kernel

/-- final reader: `dec(io.MultiReader(&buf, r))` (`finalRead`) -/
theorem facts_final_reader : Vegeta.Extracted.c08FinalReader =
    [100, 101, 99, 40, 105, 111, 46, 77, 117, 108, 116, 105, 82, 101, 97, 100, 101, 114, 40, 38, 98,
    117, 102, 44, 32, 114, 41, 41] := by decide +kernel

/-- the whole body of `DecoderFor`, canonically printed, is the text the model was written from:
`{ var buf bytes.Buffer for _, dec := range []DecoderFactory{ NewDecoder, NewJSONDecoder, NewCSVDecoder, } { rd := io.MultiReader(bytes.NewReader(buf.Bytes()), io.TeeReader(r, &buf)) if err := dec(rd).Decode(&Result{}); err == nil { return dec(io.MultiReader(&buf, r)) } } return nil }` -/
theorem facts_decoderFor_body : Vegeta.Extracted.c08DecoderForBody =
    [123, 32, 118, 97, 114, 32, 98, 117, 102, 32, 98, 121, 116, 101, 115, 46, 66, 117, 102, 102,
    101, 114, 32, 102, 111, 114, 32, 95, 44, 32, 100, 101, 99, 32, 58, 61, 32, 114, 97, 110, 103,
    101, 32, 91, 93, 68, 101, 99, 111, 100, 101, 114, 70, 97, 99, 116, 111, 114, 121, 123, 32, 78,
    101, 119, 68, 101, 99, 111, 100, 101, 114, 44, 32, 78, 101, 119, 74, 83, 79, 78, 68, 101, 99,
    111, 100, 101, 114, 44, 32, 78, 101, 119, 67, 83, 86, 68, 101, 99, 111, 100, 101, 114, 44, 32,
    125, 32, 123, 32, 114, 100, 32, 58, 61, 32, 105, 111, 46, 77, 117, 108, 116, 105, 82, 101, 97,
    100, 101, 114, 40, 98, 121, 116, 101, 115, 46, 78, 101, 119, 82, 101, 97, 100, 101, 114, 40, 98,
    117, 102, 46, 66, 121, 116, 101, 115, 40, 41, 41, 44, 32, 105, 111, 46, 84, 101, 101, 82, 101,
    97, 100, 101, 114, 40, 114, 44, 32, 38, 98, 117, 102, 41, 41, 32, 105, 102, 32, 101, 114, 114,
    32, 58, 61, 32, 100, 101, 99, 40, 114, 100, 41, 46, 68, 101, 99, 111, 100, 101, 40, 38, 82, 101,
    115, 117, 108, 116, 123, 125, 41, 59, 32, 101, 114, 114, 32, 61, 61, 32, 110, 105, 108, 32, 123,
    32, 114, 101, 116, 117, 114, 110, 32, 100, 101, 99, 40, 105, 111, 46, 77, 117, 108, 116, 105,
    82, 101, 97, 100, 101, 114, 40, 38, 98, 117, 102, 44, 32, 114, 41, 41, 32, 125, 32, 125, 32,
    114, 101, 116, 117, 114, 110, 32, 110, 105, 108, 32, 125] := by decide +kernel

/-! ### non-vacuity -/

/-- a toy codec family satisfying `RoundTrips` (format = a tag byte put in front of the records) -/
def toyCodecs : Codecs Nat Nat (List Nat) where
  enc f rs := f :: rs
  dec f s := match s with
    | g :: rs => if g = f then some rs else none
    | [] => none

example : RoundTrips toyCodecs (· = ·) (fun _ => True) where
  refl _ := rfl
  trans _ _ _ h1 h2 := h1.trans h2
  roundTrip f rs _ := ⟨rs, by simp [toyCodecs], aux_seqEq_refl _ (fun _ => rfl) rs, trivial⟩

example : toyCodecs.runChain 0 (toyCodecs.enc 0 [7, 8, 9]) [1, 2, 1, 0] = some (0, [0, 7, 8, 9]) := by decide +kernel

/-- a run of the loop: the gob trial reads 5 bytes in two reads (2 and 3 bytes) and rejects, the JSON
trial re-reads them from the snapshot, reads on and accepts; the final reader replays everything. -/
example : decoderFor [1, 2, 3, 4, 5, 6, 7, 8, 9]
      [⟨[⟨3, 2⟩, ⟨3, 9⟩], false⟩, ⟨[⟨4, 1⟩, ⟨4, 1⟩, ⟨2, 0⟩], true⟩, ⟨[], true⟩] =
    (some (1, ⟨[1, 2, 3, 4, 5, 6], [7, 8, 9]⟩), [[[1, 2], [3, 4, 5]], [[1, 2, 3, 4], [5], [6]]]) := by decide +kernel

example : (finalRun ⟨[1, 2, 3, 4, 5, 6], [7, 8, 9]⟩ [⟨4, 1⟩, ⟨4, 1⟩, ⟨4, 2⟩, ⟨4, 4⟩, ⟨4, 4⟩]).1 =
    [[1, 2, 3, 4], [5, 6], [7, 8], [9], []] := by decide +kernel

example : csvRecord (-1700000000000000000) [50] = 45 :: (Duration.fmtNat 1700000000000000000 ++ [44, 50]) := by decide +kernel

end Vegeta.Props.C08
