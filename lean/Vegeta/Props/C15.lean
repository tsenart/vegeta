/-
C15 — Targeters hand out each target exactly once under concurrent use.

Model: `Model/TargeterConc.lean` (labelled transition systems with callers as processes);
invariants: `Proofs/TargeterConc.lean`; source laws of the two stream targeters:
`Proofs/TargeterLaws.lean`; linearisation at the lock and the fresh copy of `ReadBytes`:
`Proofs/TargeterLin.lean`.  All theorems quantify over every schedule (list of labels) and
every number of callers.  Data-race freedom is not a theorem here: the atomic-step model is tied
to the source by the `facts_*` obligations below (lock / atomic scope) and by the harness, the
race detector runs in the harness only.
-/
import Vegeta.Proofs.TargeterLaws
import Vegeta.Proofs.TargeterLin
import Vegeta.Extracted.Facts
namespace Vegeta.Props.C15
open Vegeta.Go Vegeta.Model
open Vegeta.Model.TargeterConc
open Vegeta.Proofs.TargeterConc Vegeta.Proofs.TargeterLaws Vegeta.Proofs.TargeterLin

/-! ### stream targeters, any source -/

/-- no caller is between leaving the lock and returning -/
def Quiescent {S R T : Type} (st : St S R T) : Prop := heldOf st.loc = []

/-- **"a stream targeter … delivers every target of its input exactly once — none lost,
duplicated or mixed with another"**, for every stream targeter whose exhaustion is stable, every
number of callers and every interleaving: at any moment the items popped so far (a prefix `taken`
of the input's items, in input order) are, as a multiset, exactly the results already delivered
plus the items callers still hold; the rest is still in the source. -/
theorem stream_exactly_once_any {S R T : Type} (sys : Sys S R T) (stable : Stable sys) (src : S) (all : List R)
    (hall : Drains sys src all) (callers : Nat) (tr : List Label) (st : St S R T)
    (hrun : run sys (init src callers) tr = some st) :
    ∃ taken rest, all = taken ++ rest ∧ Drains sys st.src rest ∧
      (delivered st.log ++ (heldOf st.loc).map sys.dec).Perm (taken.map sys.dec) :=
  run_invariant (inv_step stable all) (inv_init sys src all callers hall) hrun

/-- … and once the source is exhausted and every caller has returned, the multiset of
delivered results is exactly the multiset of the input's items (decoded). -/
theorem stream_exactly_once {S R T : Type} (sys : Sys S R T) (stable : Stable sys) (src : S) (all : List R)
    (hall : Drains sys src all) (callers : Nat) (tr : List Label) (st : St S R T)
    (hrun : run sys (init src callers) tr = some st) (hq : Quiescent st) (hex : (sys.pop st.src).1 = none) :
    (delivered st.log).Perm (all.map sys.dec) := by
  obtain ⟨taken, rest, rfl, h2, h3⟩ := stream_exactly_once_any sys stable src all hall callers tr st hrun
  obtain rfl := drains_exhausted h2 hex
  rw [List.append_nil]
  rwa [show heldOf st.loc = [] from hq, List.map_nil, List.append_nil] at h3

/-- **"… and reports exhaustion to every caller afterwards"**: from any state whose source is
exhausted, along every further schedule, the source stays exhausted, every `lock c` step tells
caller `c` `ErrNoTargets` (the callers told so are exactly the lock labels of the schedule, in
order), and the number of results delivered plus items still held by callers stays what it was. -/
theorem exhaustion_reported_to_all {S R T : Type} (sys : Sys S R T) (stable : Stable sys) (st st' : St S R T)
    (tr : List Label) (hex : (sys.pop st.src).1 = none) (hrun : run sys st tr = some st') :
    (sys.pop st'.src).1 = none ∧
    exhaustedCallers st'.log = exhaustedCallers st.log ++ lockCallers tr ∧
    (heldOf st'.loc).length + (delivered st'.log).length = (heldOf st.loc).length + (delivered st.log).length :=
  exhausted_run stable hex hrun

/-- **Refinement: every interleaving is equivalent to a sequential order of calls** — for any
stream targeter, any number of callers and any schedule `tr`: run the same calls one after the
other, each to its end, in the order in which they took the lock (`seqTrace (lockCallers tr)`;
`runLenient` skips the `finish c` of a call whose `lock c` found the source exhausted).
That sequential run ends with the same source state, nobody mid-call, and every caller has
received exactly the answers it has received in the interleaved run, in the same order, plus
the answer of the call it is still in the middle of (none once it has returned).  No hypothesis
on the source. -/
theorem linearisation {S R T : Type} (sys : Sys S R T) (src : S) (callers : Nat) (tr : List Label) (st : St S R T)
    (hrun : run sys (init src callers) tr = some st) :
    let sq := runLenient sys (init src callers) (seqTrace (lockCallers tr))
    sq.src = st.src ∧ (∀ c, c < callers → sq.loc[c]? = some .idle) ∧
    ∀ c, eventsOf c sq.log = eventsOf c st.log ++ pendingOf' sys c st.loc := by
  have lin := lin_run sys (lin_init sys src callers) hrun
  refine ⟨lin.src, fun c hc => lin.idle c ?_, lin.evs⟩
  rw [run_loc_length hrun]
  simpa [init] using hc

/-- … in particular, once every caller has returned, each caller's answers are exactly those of
the sequential run -/
theorem linearisation_quiescent {S R T : Type} (sys : Sys S R T) (src : S) (callers : Nat) (tr : List Label)
    (st : St S R T) (hrun : run sys (init src callers) tr = some st) (hq : ∀ c, pendingOf' sys c st.loc = []) :
    ∀ c, eventsOf c (runLenient sys (init src callers) (seqTrace (lockCallers tr))).log = eventsOf c st.log := by
  intro c
  rw [(linearisation sys src callers tr st hrun).2.2 c, hq c, List.append_nil]

/-! ### why the JSON targeter may decode outside its lock -/

/-- **The JSON targeter's two-phase shape (read under the lock, decode outside) is safe because
`ReadBytes` returns a fresh copy**: in the model that makes the reader's buffer part of the
shared state, giving every caller its own copy of the line (`fresh = true`) makes every schedule
step for step a schedule of the two-phase model `jsonSys` (to which all theorems above apply).
The fresh copy is an ASSUMPTION about `bufio.Reader.ReadBytes` (documented by the standard
library, checked at run time by the race detector rounds), not a theorem about it. -/
theorem json_decode_outside_lock_safe (cfg : JSONTargets.Cfg) (src : Bytes) (callers : Nat) (tr : List Label)
    (s : BSt) (h : brun cfg true (binit src callers) tr = some s) :
    run (jsonSys cfg) (init src callers) tr = some (proj s) := by
  have := fresh_run cfg tr _ s (fun l hl => by rw [(List.mem_replicate.mp hl).2]; nofun) h
  rwa [show proj (binit src callers) = init src callers by simp [proj, binit, init, projLoc]] at this

/-- the decoder used in the two examples below: a line decodes to a target named after it -/
def echoCfg : JSONTargets.Cfg :=
  { dec := fun l => some { method := l, url := l, body := [], header := [] }, body := [], hdr := [] }

/-- … and WITHOUT the fresh copy it is not: two lines `A`, `B`, two callers, schedule
lock 0, lock 1, finish 0, finish 1 — caller 0 took line `A` but decodes `B` (a window into the
reader's buffer, overwritten by caller 1's read): `B` is delivered twice, `A` never. -/
theorem json_decode_outside_lock_needs_fresh_copy :
    (brun echoCfg false (binit [65, 10, 66, 10] 2) [.lock 0, .lock 1, .finish 0, .finish 1]).map (fun s => s.log) =
      some [.result 0 (.ok { method := [66], url := [66], body := [], header := [] }),
            .result 1 (.ok { method := [66], url := [66], body := [], header := [] })] := by decide

/-- the same schedule with the fresh copy: `A` to caller 0, `B` to caller 1 -/
example : (brun echoCfg true (binit [65, 10, 66, 10] 2) [.lock 0, .lock 1, .finish 0, .finish 1]).map (fun s => s.log) =
      some [.result 0 (.ok { method := [65], url := [65], body := [], header := [] }),
            .result 1 (.ok { method := [66], url := [66], body := [], header := [] })] := by decide

/-- non-vacuity of `linearisation`: an interleaved run of two callers and its sequential counterpart -/
example : (run (jsonSys echoCfg) (init [65, 10, 66, 10] 2) [.lock 1, .lock 0, .finish 0, .finish 1]).map (fun s => s.log) =
      some [.result 0 (.ok { method := [66], url := [66], body := [], header := [] }),
            .result 1 (.ok { method := [65], url := [65], body := [], header := [] })] ∧
    (runLenient (jsonSys echoCfg) (init [65, 10, 66, 10] 2) (seqTrace (lockCallers [.lock 1, .lock 0, .finish 0, .finish 1]))).log =
      [.result 1 (.ok { method := [65], url := [65], body := [], header := [] }),
       .result 0 (.ok { method := [66], url := [66], body := [], header := [] })] := by
  constructor <;> decide

/-! ### the JSON and the http targeter as instances -/

/-- JSON targeter: exhaustion is stable and every input drains to a finite list of lines. -/
theorem json_source (cfg : JSONTargets.Cfg) (src : Bytes) :
    Stable (jsonSys cfg) ∧ ∃ all, Drains (jsonSys cfg) src all :=
  ⟨json_stable cfg, json_drains cfg src⟩

/-- HTTP targeter: likewise (each item is the outcome of one whole decode). -/
theorem http_source (cfg : HTTPTargets.Cfg) (st : HTTPTargets.St) :
    Stable (httpSys cfg) ∧ ∃ all, Drains (httpSys cfg) st all :=
  ⟨http_stable cfg, http_drains cfg st⟩

/-- JSON targeter, all interleavings: the delivered results are, as a multiset, the decodes of a list of
lines the input drains to (`Drains`; that there is only one such list is not stated). -/
theorem json_exactly_once (cfg : JSONTargets.Cfg) (src : Bytes) (callers : Nat) (tr : List Label)
    (st : St Bytes Bytes JSONTargets.JRec) (hrun : run (jsonSys cfg) (init src callers) tr = some st)
    (hq : Quiescent st) (hex : ((jsonSys cfg).pop st.src).1 = none) :
    ∃ all, Drains (jsonSys cfg) src all ∧ (delivered st.log).Perm (all.map (JSONTargets.finish cfg)) := by
  obtain ⟨all, hall⟩ := (json_source cfg src).2
  exact ⟨all, hall, stream_exactly_once (jsonSys cfg) (json_stable cfg) src all hall callers tr st hrun hq hex⟩

/-- HTTP targeter, all interleavings: the delivered results are, as a multiset, a list of outcomes the
start state drains to (`Drains`). -/
theorem http_exactly_once (cfg : HTTPTargets.Cfg) (s0 : HTTPTargets.St) (callers : Nat) (tr : List Label)
    (st : St HTTPTargets.St (Outcome HTTPTargets.Target) HTTPTargets.Target)
    (hrun : run (httpSys cfg) (init s0 callers) tr = some st)
    (hq : Quiescent st) (hex : ((httpSys cfg).pop st.src).1 = none) :
    ∃ all, Drains (httpSys cfg) s0 all ∧ (delivered st.log).Perm all := by
  obtain ⟨all, hall⟩ := (http_source cfg s0).2
  refine ⟨all, hall, ?_⟩
  have := stream_exactly_once (httpSys cfg) (http_stable cfg) s0 all hall callers tr st hrun hq hex
  simpa [httpSys] using this

/-! ### the static targeter: strict rotation -/

/-- **"a static targeter hands its targets out in strict rotation so that after n draws each of
its k targets has been used ⌊n/k⌋ or ⌈n/k⌉ times"** — for every number of callers and every
interleaving of the atomic adds and the local index reads, once all `n` draws have returned
(`n < 2^63`: the `int64` counter): no draw panicked, there are `n` results, and target `j` was
handed out exactly `⌊n/k⌋` times plus once more when `j < n mod k`. -/
theorem static_rotation (k : Nat) (hk : 0 < k) (callers : Nat) (tr : List SLabel) (s : SSt)
    (hrun : srun k (sinit callers) tr = some s) (hn : addCount tr < two63) (hq : pendingOf s.loc = []) :
    s.log.length = addCount tr ∧ (∀ e ∈ s.log, ∃ j, e.2 = .ok j ∧ j < k) ∧
    ∀ j, j < k → (s.log.filter fun e => e.2 == .ok j).length =
      addCount tr / k + if j < addCount tr % k then 1 else 0 := by
  have inv := sinv_run (sinv_init k callers) hrun (by rwa [Nat.zero_add])
  rw [Nat.zero_add] at inv
  -- nothing is pending, so the log holds the indices of the draws `0 … n-1`, in some order
  have hp : (s.log.map (·.2)).Perm ((List.range (addCount tr)).map fun i => Outcome.ok (i % k)) := by
    have := inv.perm
    rw [hq, List.map_nil, List.nil_append] at this
    rwa [List.map_congr_left fun i _ => sindex_nat k i hk] at this
  refine ⟨by simpa using hp.length_eq, ?_, ?_⟩
  · intro e he
    obtain ⟨i, _, hi⟩ := List.mem_map.mp (hp.mem_iff.mp (List.mem_map_of_mem he))
    exact ⟨i % k, hi.symm, Nat.mod_lt _ hk⟩
  · intro j hj
    have hc := hp.countP_eq (· == Outcome.ok j)
    rw [List.countP_map, List.countP_map, List.countP_eq_length_filter, List.countP_eq_length_filter] at hc
    rw [← count_rotation k hk j hj]
    refine hc.trans (congrArg List.length (List.filter_congr fun i _ => ?_))
    exact decide_eq_decide.mpr ⟨Outcome.ok.inj, congrArg _⟩

/-- … that is: every target was used `⌊n/k⌋` or `⌈n/k⌉` times -/
theorem static_rotation_floor_ceil (k : Nat) (hk : 0 < k) (callers : Nat) (tr : List SLabel) (s : SSt)
    (hrun : srun k (sinit callers) tr = some s) (hn : addCount tr < two63) (hq : pendingOf s.loc = []) (j : Nat) (hj : j < k) :
    (s.log.filter fun e => e.2 == .ok j).length = addCount tr / k ∨
    (s.log.filter fun e => e.2 == .ok j).length = (addCount tr + k - 1) / k := by
  rw [(static_rotation k hk callers tr s hrun hn hq).2.2 j hj]
  by_cases h : j < addCount tr % k
  · right; rw [if_pos h, div_ceil_of_mod_pos hk (Nat.zero_lt_of_lt h)]
  · left; rw [if_neg h]; rfl

/-- three callers, two targets, an interleaved schedule of 5 draws: targets used 3 and 2 times -/
example : (srun 2 (sinit 3) [.add 0, .add 1, .finish 1, .add 2, .add 1, .finish 0, .finish 2, .finish 1, .add 0, .finish 0]).map
    (fun s => (s.log.map (·.2), pendingOf s.loc)) =
    some ([.ok 1, .ok 0, .ok 0, .ok 1, .ok 0], []) := by decide

/-! ### source facts the atomic-step model rests on -/

/-- the static targeter indexes with the value returned by `atomic.AddInt64(&i, 1)` and uses
the counter nowhere else -/
theorem facts_static_atomic :
    Vegeta.Extracted.c15_static_index_via_atomic_add = true ∧ Vegeta.Extracted.c15_static_counter_other_uses = 0 := by decide

/-- in `NewJSONTargeter` every `ReadBytes` call and every use of the shared reader lies lexically
between the statements `rd.Lock()` and `rd.Unlock()`; decode happens after the unlock -/
theorem facts_json_lock_scope :
    Vegeta.Extracted.c15_json_lock_unlock_statements = true ∧
    Vegeta.Extracted.c15_json_readbytes_calls = Vegeta.Extracted.c15_json_readbytes_inside_lock ∧
    0 < Vegeta.Extracted.c15_json_readbytes_calls ∧
    Vegeta.Extracted.c15_json_reader_uses_outside_lock = 0 ∧
    Vegeta.Extracted.c15_json_decode_after_unlock = true := by decide

/-- the closure of `NewHTTPTargeter` starts with `mu.Lock(); defer mu.Unlock()` and the scanner
is referenced nowhere outside that closure -/
theorem facts_http_lock_scope :
    Vegeta.Extracted.c15_http_lock_then_defer_unlock_first = true ∧
    Vegeta.Extracted.c15_http_scanner_uses_outside_closure = 0 := by decide

end Vegeta.Props.C15
