/-
C12 — Histogram buckets partition the results.

The scan `bucketIndex` returns the one bucket that contains the latency (`InBucket`); `Counted` is the state of a
histogram that has seen a list of latencies, kept by `Add`, from which the counts, their sum and the absence of
panics are read off; a parsed bucket specification is the list of its parts' durations behind an optional zero.
-/
import Vegeta.Model.Histogram
namespace Vegeta.Props.C12
open Vegeta.Go Vegeta.Model.Histogram

/-- strictly increasing list of bounds -/
def Increasing : List Int → Prop
  | [] => True
  | [_] => True
  | a :: b :: r => a < b ∧ Increasing (b :: r)

/-- `i` is *the* bucket of `lat`: lower bound ≤ lat, and lat < next bound unless `i` is last. -/
def InBucket (bs : List Int) (i : Nat) (lat : Int) : Prop :=
  ∃ lo, bs[i]? = some lo ∧ lo ≤ lat ∧ ∀ hi, bs[i+1]? = some hi → lat < hi

theorem aux_bucket_lt_length (bs : List Int) (lat : Int) (h : bs ≠ []) :
    bucketIndex bs lat < bs.length := by
  induction bs with
  | nil => contradiction
  | cons b0 rest ih =>
    cases rest with
    | nil => simp [bucketIndex]
    | cons b1 r =>
      unfold bucketIndex
      split
      · simp
      · have := ih (by simp); simp only [List.length_cons] at *; omega

/-- The scan picks a bucket that contains the latency (for increasing bounds and
latencies not below the first bound). -/
theorem bucket_contains (bs : List Int) (lat : Int) (hinc : Increasing bs)
    (h0 : ∀ b, bs.head? = some b → b ≤ lat) (hne : bs ≠ []) :
    InBucket bs (bucketIndex bs lat) lat := by
  induction bs with
  | nil => contradiction
  | cons b0 rest ih =>
    cases rest with
    | nil =>
      refine ⟨b0, by simp [bucketIndex], h0 b0 (by simp), ?_⟩
      intro hi h; simp [bucketIndex] at h
    | cons b1 r =>
      unfold bucketIndex
      split
      · rename_i hc
        refine ⟨b0, by simp, hc.1, ?_⟩
        intro hi h; simp at h; omega
      · rename_i hc
        have hb0 : b0 ≤ lat := h0 b0 (by simp)
        have hb1 : b1 ≤ lat := by omega
        obtain ⟨lo, h1, h2, h3⟩ := ih hinc.2 (by intro b hb; simp at hb; omega) (by simp)
        refine ⟨lo, ?_, h2, ?_⟩
        · rw [Nat.add_comm]; simpa using h1
        · intro hi hh
          apply h3 hi
          have : 1 + bucketIndex (b1 :: r) lat + 1 = (bucketIndex (b1 :: r) lat + 1) + 1 := by omega
          rw [this] at hh; simpa using hh

theorem aux_increasing_pairwise (bs : List Int) (h : Increasing bs) : bs.Pairwise (· < ·) := by
  induction bs with
  | nil => exact .nil
  | cons a t ih =>
    cases t with
    | nil => exact List.pairwise_singleton _ _
    | cons b r =>
      have ih := ih h.2
      refine List.pairwise_cons.mpr ⟨fun x hx => ?_, ih⟩
      rcases List.mem_cons.mp hx with rfl | hx
      · exact h.1
      · exact Int.lt_trans h.1 ((List.pairwise_cons.mp ih).1 x hx)

/-- two buckets containing `lat` are not in strict order: the right one starts at or above the bound closing the left -/
theorem aux_inBucket_not_lt (bs : List Int) (lat : Int) (hinc : Increasing bs) (i j : Nat)
    (hi : InBucket bs i lat) (hj : InBucket bs j lat) : ¬ i < j := by
  intro h
  obtain ⟨_, _, _, a3⟩ := hi
  obtain ⟨lo2, b1, b2, _⟩ := hj
  obtain ⟨hlen, rfl⟩ := List.getElem?_eq_some_iff.mp b1
  have hlt := a3 _ (List.getElem?_eq_getElem (show i + 1 < bs.length by omega))
  rcases Nat.lt_or_ge (i+1) j with h' | h'
  · have := List.pairwise_iff_getElem.mp (aux_increasing_pairwise bs hinc) (i+1) j (by omega) hlen h'
    omega
  · have : i + 1 = j := by omega
    subst this; omega

/-- A latency lies in at most one bucket: the buckets are disjoint. -/
theorem bucket_unique (bs : List Int) (lat : Int) (hinc : Increasing bs) (i j : Nat)
    (hi : InBucket bs i lat) (hj : InBucket bs j lat) : i = j := by
  have h1 := aux_inBucket_not_lt bs lat hinc i j hi hj
  have h2 := aux_inBucket_not_lt bs lat hinc j i hj hi
  omega

/-- Exactly one bucket: the one the scan returns. -/
theorem bucket_exactly_one (bs : List Int) (lat : Int) (hinc : Increasing bs) (hne : bs ≠ [])
    (h0 : ∀ b, bs.head? = some b → b ≤ lat) (j : Nat) :
    InBucket bs j lat ↔ j = bucketIndex bs lat := by
  constructor
  · intro hj; exact bucket_unique bs lat hinc _ _ hj (bucket_contains bs lat hinc h0 hne)
  · intro hj; subst hj; exact bucket_contains bs lat hinc h0 hne

theorem aux_bump_eq (xs : List Nat) (i : Nat) : bump xs i = xs.modify i (· + 1) := by
  induction xs generalizing i with
  | nil => simp [bump]
  | cons x xs ih => cases i <;> simp [bump, ih]

theorem aux_bump_length (xs : List Nat) (i : Nat) : (bump xs i).length = xs.length := by
  rw [aux_bump_eq, List.length_modify]

theorem aux_bump_sum (xs : List Nat) (i : Nat) (h : i < xs.length) : (bump xs i).sum = xs.sum + 1 := by
  induction xs generalizing i with
  | nil => simp at h
  | cons x xs ih =>
    cases i with
    | zero => simp [bump]; omega
    | succ i => simp [bump, ih i (by simpa using h)]; omega

theorem aux_bump_get (xs : List Nat) (i j : Nat) :
    (bump xs i)[j]? = if i = j then xs[j]?.map (· + 1) else xs[j]? := by
  rw [aux_bump_eq, List.getElem?_modify]; split <;> simp [*]

/-- State invariant of a histogram that has seen the latencies `seen`. -/
def Counted (bs : List Int) (seen : List Int) (h : Hist) : Prop :=
  h.buckets = bs ∧ h.total = seen.length ∧ h.counts.sum = seen.length ∧
  (seen = [] ∨ h.counts.length = bs.length) ∧
  (seen = [] → h.counts = []) ∧
  (seen ≠ [] → ∀ i, i < bs.length → h.counts[i]? = some (seen.filter (fun l => bucketIndex bs l == i)).length)

theorem aux_counted_new (bs : List Int) : Counted bs [] (Hist.new bs) :=
  ⟨rfl, rfl, rfl, Or.inl rfl, fun _ => rfl, fun h => absurd rfl h⟩

theorem aux_add_ok (bs : List Int) (hne : bs ≠ []) (seen : List Int) (h : Hist) (lat : Int)
    (hc : Counted bs seen h) : ∃ h', add h lat = .ok h' ∧ Counted bs (seen ++ [lat]) h' := by
  obtain ⟨hb, ht, hsum, hl, hnil, hcnt⟩ := hc
  have hidx := aux_bucket_lt_length bs lat hne
  unfold add
  simp only [hb]
  by_cases hs : seen = []
  · subst hs
    have hcn := hnil rfl
    have hlen : bs.length ≠ 0 := by intro h0; exact hne (List.length_eq_zero_iff.mp h0)
    simp only [hcn, List.length_nil, ne_eq]
    have : (0 ≠ bs.length) := by omega
    simp only [this, not_false_eq_true, ↓reduceIte, List.length_replicate, hidx]
    refine ⟨_, rfl, rfl, by simp [ht], by simp [aux_bump_sum _ _ (show bucketIndex bs lat < (List.replicate bs.length 0).length by simpa using hidx)],
      Or.inr (by simp [aux_bump_length]), by simp, ?_⟩
    intro _ i hi
    rw [aux_bump_get]
    simp only [List.nil_append, List.filter_cons, List.filter_nil]
    by_cases he : bucketIndex bs lat = i <;> simp [he, hi]
  · have hlen : h.counts.length = bs.length := hl.resolve_left hs
    simp only [hlen, ne_eq, not_true_eq_false, ↓reduceIte, hidx]
    refine ⟨_, rfl, rfl, by simp [ht], by simp [aux_bump_sum _ _ (show bucketIndex bs lat < h.counts.length by omega), hsum],
      Or.inr (by simp [aux_bump_length, hlen]), by simp, ?_⟩
    intro _ i hi
    rw [aux_bump_get, hcnt hs i hi]
    simp only [List.filter_append, List.length_append, List.filter_cons, List.filter_nil]
    by_cases he : bucketIndex bs lat = i <;> simp [he]

theorem aux_addAll (bs : List Int) (hne : bs ≠ []) (lats : List Int) : ∀ (seen : List Int) (h : Hist),
    Counted bs seen h → ∃ h', addAll h lats = .ok h' ∧ Counted bs (seen ++ lats) h' := by
  induction lats with
  | nil => intro seen h hc; exact ⟨h, rfl, by simpa using hc⟩
  | cons l ls ih =>
    intro seen h hc
    obtain ⟨h1, e1, c1⟩ := aux_add_ok bs hne seen h l hc
    obtain ⟨h2, e2, c2⟩ := ih (seen ++ [l]) h1 c1
    refine ⟨h2, ?_, by simpa using c2⟩
    simp [addAll, e1, e2]

/-- **Adding never panics** when there is at least one bucket, for any latencies whatsoever. -/
theorem add_never_panics (bs : List Int) (hne : bs ≠ []) (lats : List Int) :
    addAll (Hist.new bs) lats ≠ .panic := by
  obtain ⟨h', e, _⟩ := aux_addAll bs hne lats [] (Hist.new bs) (aux_counted_new bs)
  rw [e]; intro h; cases h

/-- **Every result is counted in exactly its bucket**: after adding any list of latencies,
bucket `i` holds the number of latencies whose (unique, by `bucket_exactly_one`) bucket is `i`. -/
theorem counts_are_partition (bs : List Int) (hne : bs ≠ []) (lats : List Int) (hl : lats ≠ []) :
    ∃ h, addAll (Hist.new bs) lats = .ok h ∧ h.total = lats.length ∧ h.counts.length = bs.length ∧
      ∀ i, i < bs.length → h.counts[i]? = some (lats.filter (fun l => bucketIndex bs l == i)).length := by
  obtain ⟨h', e, c⟩ := aux_addAll bs hne lats [] (Hist.new bs) (aux_counted_new bs)
  simp only [List.nil_append] at c
  obtain ⟨_, ht, _, hlen, _, hcnt⟩ := c
  exact ⟨h', e, ht, hlen.resolve_left hl, hcnt hl⟩

/-- **The bucket counts sum to the number of results**, and so does `Total`. -/
theorem counts_sum_eq_total (bs : List Int) (hne : bs ≠ []) (lats : List Int) :
    ∃ h, addAll (Hist.new bs) lats = .ok h ∧ h.counts.sum = lats.length ∧ h.total = lats.length := by
  obtain ⟨h', e, _, t, s, _⟩ := aux_addAll bs hne lats [] (Hist.new bs) (aux_counted_new bs)
  exact ⟨h', e, s, t⟩

/-- The parsed durations of the parts, in order (what "preserves the given bounds" refers to). -/
def partDurations : List Bytes → Option (List Int)
  | [] => some []
  | v :: vs => match Duration.parse (trimSpace v), partDurations vs with
    | .ok d, some ds => some (d :: ds)
    | _, _ => none

theorem aux_parts_preserve (vs : List Bytes) : ∀ (first : Bool) (acc out : List Int),
    unmarshalParts vs first acc = .ok out →
    ∃ ds, partDurations vs = some ds ∧
      out = acc ++ (match ds with
        | d :: _ => if first && decide (d > 0) then 0 :: ds else ds
        | [] => ds) := by
  induction vs with
  | nil => intro first acc out h; simp [unmarshalParts] at h; subst h; exact ⟨[], rfl, by simp⟩
  | cons v vs ih =>
    intro first acc out h
    unfold unmarshalParts at h
    split at h
    · rename_i d hd
      simp only [] at h
      obtain ⟨ds, hds, hout⟩ := ih false _ out h
      refine ⟨d :: ds, by simp [partDurations, hd, hds], ?_⟩
      rw [hout]
      cases ds <;> by_cases hf : (first && decide (d > 0)) = true <;> simp [hf]
    · cases h
    · cases h

/-- `strings.Split` returns at least one part -/
theorem aux_splitOn_ne_nil (sep : Nat) (l : Bytes) : splitOn sep l ≠ [] := by
  cases l with
  | nil => simp [splitOn]
  | cons c r =>
    unfold splitOn
    split
    · simp
    · split <;> simp

theorem aux_partDurations_nil {vs : List Bytes} (h : partDurations vs = some []) : vs = [] := by
  cases vs with
  | nil => rfl
  | cons v vs =>
    simp only [partDurations] at h
    split at h <;> cases h

/-- **A bucket specification preserves the given bounds**: the result is exactly the list of the
parts' durations, with a zero bound prepended when (and only when) the first one is positive. -/
theorem unmarshal_preserves (value : Bytes) (bs : List Int) (h : unmarshalText value = .ok bs) :
    ∃ inner ds, value = 91 :: inner ∧ partDurations (splitOn 44 inner.dropLast) = some ds ∧
      ∃ d0 rest, ds = d0 :: rest ∧ bs = if d0 > 0 then 0 :: ds else ds := by
  unfold unmarshalText at h
  split at h
  · cases h
  · split at h
    · rename_i rest _ _
      split at h
      · rename_i bs' hp
        split at h
        · cases h
        · cases h
          obtain ⟨ds, hds, hout⟩ := aux_parts_preserve _ true [] _ hp
          refine ⟨rest, ds, rfl, hds, ?_⟩
          cases ds with
          | nil => exact absurd (aux_partDurations_nil hds) (aux_splitOn_ne_nil _ _)
          | cons d0 r =>
            refine ⟨d0, r, rfl, ?_⟩
            simp at hout
            rw [hout]
      · rename_i o hno
        exact absurd h (hno bs)
    · cases h

/-- **A bucket specification always covers every non-negative latency**: the parsed bounds are
non-empty and start at or below zero. -/
theorem unmarshal_covers (value : Bytes) (bs : List Int) (h : unmarshalText value = .ok bs) :
    ∃ b, bs.head? = some b ∧ b ≤ 0 := by
  obtain ⟨_, _, _, _, d0, rest, rfl, rfl⟩ := unmarshal_preserves value bs h
  by_cases hd : d0 > 0
  · exact ⟨0, by rw [if_pos hd]; rfl, Int.le_refl 0⟩
  · exact ⟨d0, by rw [if_neg hd]; rfl, by omega⟩

theorem aux_jsonPairs_length (h : Hist) (bs : List Int) (i : Nat) : (jsonPairsFrom h bs i).length = bs.length := by
  induction bs generalizing i with
  | nil => simp [jsonPairsFrom]
  | cons b bs ih => simp [jsonPairsFrom, ih]

theorem aux_jsonPairs_get (h : Hist) (bs : List Int) (i k : Nat) :
    (jsonPairsFrom h bs i)[k]? = bs[k]?.map (fun b => (b, countAt h (i + k))) := by
  induction bs generalizing i k with
  | nil => simp [jsonPairsFrom]
  | cons b bs ih =>
    cases k with
    | zero => simp [jsonPairsFrom]
    | succ k =>
      have : i + 1 + k = i + (k + 1) := by omega
      simp [jsonPairsFrom, ih, this]

/-- **The JSON rendering shows exactly the bucket counts**, one pair per bucket in order —
also when no result was added (all counts zero) — and never panics. -/
theorem json_shows_counts (h : Hist) : ∃ ps : List (Int × Nat), jsonPairs h = .ok ps ∧ ps.length = h.buckets.length ∧
    ∀ k : Nat, ps[k]? = h.buckets[k]?.map (fun b => (b, (h.counts[k]?).getD 0)) := by
  refine ⟨_, rfl, aux_jsonPairs_length _ _ _, ?_⟩
  intro k; rw [aux_jsonPairs_get]; simp [countAt]

/-- With no result added the JSON rendering shows every bucket with count 0. -/
theorem json_no_results (bs : List Int) : ∃ ps, jsonPairs (Hist.new bs) = .ok ps ∧ ps = bs.map (fun b => (b, 0)) := by
  refine ⟨_, rfl, ?_⟩
  apply List.ext_getElem?
  intro k; rw [aux_jsonPairs_get]; simp [countAt, Hist.new]

theorem aux_nth_ok (bs : List Int) (i : Nat) (hi : i < bs.length) : ∃ lo hi', nth bs i = .ok (lo, hi') := by
  unfold nth
  rw [List.getElem?_eq_getElem hi]
  simp only []
  split
  · exact ⟨_, _, rfl⟩
  · rename_i hlt
    have : i + 1 < bs.length := by omega
    rw [List.getElem?_eq_getElem this]
    exact ⟨_, _, rfl⟩

theorem aux_textRows (h : Hist) : ∀ (n i : Nat), i + n = h.buckets.length →
    ∃ rs, textRowsFrom h n i = .ok rs ∧ rs.length = n ∧ ∀ k, k < n → ∃ lo hi, rs[k]? = some (lo, hi, countAt h (i + k)) := by
  intro n
  induction n with
  | zero => intro i _; exact ⟨[], rfl, rfl, by intro k hk; omega⟩
  | succ n ih =>
    intro i hlen
    obtain ⟨lo, hi, hn⟩ := aux_nth_ok h.buckets i (by omega)
    obtain ⟨rs, hrs, hl, hk⟩ := ih (i+1) (by omega)
    refine ⟨(lo, hi, countAt h i) :: rs, by simp [textRowsFrom, hn, hrs], by simp [hl], ?_⟩
    intro k hkn
    cases k with
    | zero => exact ⟨lo, hi, by simp⟩
    | succ k =>
      obtain ⟨lo', hi', hh⟩ := hk k (by omega)
      refine ⟨lo', hi', ?_⟩
      have e : i + 1 + k = i + (k + 1) := by omega
      simp only [List.getElem?_cons_succ, hh, e]

/-- **The text rendering has one row per bucket carrying that bucket's count**, also when no
result was added, and never panics. -/
theorem text_shows_counts (h : Hist) : ∃ rs, textRows h = .ok rs ∧ rs.length = h.buckets.length ∧
    ∀ k, k < h.buckets.length → ∃ lo hi, rs[k]? = some (lo, hi, (h.counts[k]?).getD 0) := by
  obtain ⟨rs, h1, h2, h3⟩ := aux_textRows h h.buckets.length 0 (by simp)
  refine ⟨rs, h1, h2, ?_⟩
  intro k hk
  obtain ⟨lo, hi, hh⟩ := h3 k hk
  exact ⟨lo, hi, by simpa [countAt] using hh⟩

/-! ### non-vacuity -/

example : Increasing [0, 10, 20] ∧ ([0, 10, 20] : List Int) ≠ [] ∧ (∀ b, ([0, 10, 20] : List Int).head? = some b → b ≤ 10) := by
  refine ⟨⟨by decide, by decide, trivial⟩, by decide, ?_⟩
  intro b h; simp at h; omega

example : addAll (Hist.new [0, 10, 20]) [0, 10, 25, 19] = .ok ⟨[0, 10, 20], [1, 2, 1], 4⟩ := by decide

example : unmarshalText [91, 49, 109, 115, 44, 32, 53, 109, 115, 93] = .ok [0, 1000000, 5000000] := by decide

end Vegeta.Props.C12
