/-
C05 — Sequence order and timestamp order of results agree.
The worker's critical section is modelled as its two halves under the mutex (`csEnter` reads the
clock, `csLeave` assigns the sequence number), any number of workers interleaving around it.
That the timestamp and the sequence number are taken inside one critical section is a
regenerated source fact (see `facts_*` below).
-/
import Vegeta.Proofs.AttackInv
import Vegeta.Extracted.Facts
namespace Vegeta.Props.C05
open Vegeta.Model.Attack Vegeta.Proofs.Attack

variable {w m d : Nat} {s : St}

/-- **For any two results the one with the smaller sequence number has a timestamp that is not
later than the other's**, however many workers run concurrently. -/
theorem seq_lt_imp_ts_le (h : Reachable w m d s) (i j : Nat) (hi hj : Hit)
    (hij : i < j) (h1 : s.hits[i]? = some hi) (h2 : s.hits[j]? = some hj) : hi.ts ≤ hj.ts := by
  obtain ⟨li, rfl⟩ := List.getElem?_eq_some_iff.mp h1
  obtain ⟨lj, rfl⟩ := List.getElem?_eq_some_iff.mp h2
  have := List.pairwise_iff_getElem.mp (times_reachable h).sorted i j (by simpa using li) (by simpa using lj) hij
  simpa using this

/-- … and the index of a hit is its sequence number, so the statement is about `Result.Seq`. -/
theorem index_is_seq (h : Reachable w m d s) (i : Nat) (hi : Hit) (h1 : s.hits[i]? = some hi) : hi.seq = i :=
  (core_reachable h).seqidx i hi h1

/-- **Sorting by either key gives the same order**: the timestamps listed in sequence order are
already sorted. -/
theorem ts_sorted_in_seq_order (h : Reachable w m d s) : (s.hits.map (·.ts)).Pairwise (· ≤ ·) :=
  (times_reachable h).sorted

/-- **Every timestamp is before the request reaches the transport; every latency is at least the
time the transport took (hence non-negative); a result's end equals timestamp plus latency** — for
results whose latency has been measured (`fin` set).
(`ts ≥ 0`, i.e. at or after the attack's start, holds by construction: `began = 0`, clock in ℕ.) -/
theorem timestamps_and_latency (h : Reachable w m d s) (hh : Hit) (hm : hh ∈ s.hits) (f : Nat) (hf : hh.fin = some f) :
    hh.ts ≤ f ∧ hh.ts + (f - hh.ts) = f ∧
    (∀ e, hh.entered = some e → hh.ts ≤ e ∧ ∃ l, hh.left = some l ∧ e ≤ l ∧ l - e ≤ f - hh.ts) := by
  obtain ⟨_, b, c, dd, _, _, _⟩ := (times_reachable h).hit hh hm
  obtain ⟨h1, _, h3⟩ := dd f hf
  refine ⟨h1, Nat.add_sub_cancel' h1, fun e he => ?_⟩
  obtain ⟨l, hl, hlf⟩ := h3 e he
  obtain ⟨e', he', hel, _⟩ := c l hl
  cases he.symm.trans he'
  have hte := (b e he).1
  exact ⟨hte, l, hl, hel, Nat.le_trans (Nat.sub_le_sub_right hlf e) (Nat.sub_le_sub_left hte f)⟩

/-- every delivered or pending result carries its latency measurement -/
theorem result_has_latency (h : Reachable w m d s) (hh : Hit) (hm : hh ∈ s.hits)
    (hp : hh.phase = .sending ∨ hh.phase = .delivered) : ∃ f, hh.fin = some f := by
  obtain ⟨_, _, _, _, _, _, g⟩ := (times_reachable h).hit hh hm
  exact Option.ne_none_iff_exists'.mp (g hp)

/-! #### source facts (binding): the timestamp and the sequence number are taken in one critical section -/

/-- In `hit`, between `seqmu.Lock()` and `seqmu.Unlock()` lie exactly: the assignment of the
result's Timestamp, the assignment of its Seq, and the increment of the attack's counter. -/
theorem facts_critical_section : Vegeta.Extracted.hitCriticalSection =
    [[97, 115, 115, 105, 103, 110, 32, 84, 105, 109, 101, 115, 116, 97, 109, 112],  -- assign Timestamp
     [97, 115, 115, 105, 103, 110, 32, 83, 101, 113],  -- assign Seq
     [105, 110, 99, 100, 101, 99, 32, 115, 101, 113]] := rfl  -- incdec seq

/-- Nowhere else in `hit` is a Timestamp or a sequence number assigned; the timestamp derives
from the attack's start instant (monotonic clock); the latency is measured in a deferred
function from that same timestamp; the clock itself is read (time.Since/time.Now) in the expression assigned
inside the critical section, not before it. -/
theorem facts_no_assignment_outside :
    Vegeta.Extracted.hitTimestampAssignsOutsideCS = 0 ∧ Vegeta.Extracted.hitSeqAssignsOutsideCS = 0 ∧
    Vegeta.Extracted.hitTimestampFromBegan = true ∧ Vegeta.Extracted.hitLatencyInDeferFromTimestamp = true ∧
    Vegeta.Extracted.hitTimestampClockReadInCS = true := ⟨rfl, rfl, rfl, rfl, rfl⟩

/-! non-vacuity: two workers, the second timestamp is read later but both orders agree -/
example : (run (init 2 2 0) [.ready, .ready, .paceWait 0, .wake, .tick, .paceWait 0, .wake, .tick, .advance 3, .csEnter,
    .advance 2, .csLeave, .csEnter, .csLeave, .enter 1, .advance 1, .enter 0, .advance 4, .leave 0, .finish 0]).map
    (fun s => s.hits.map (fun h => (h.seq, h.ts, h.entered, h.fin))) = some [(0, 3, some 6, some 10), (1, 5, some 5, none)] := by
  decide

end Vegeta.Props.C05
