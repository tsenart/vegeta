/-
C09 — A truncated result stream decodes to a clean prefix.

gob: the *framing* contract (length-prefixed messages) — a reader that follows it can never see part of a
message — and, with the value encoding of Model/GobValue.lean, the cut at record level. JSON: every record
is one line with exactly one newline, the decoder consumes only complete lines. CSV: cuts at record
boundaries. And each encoder hands the writer one whole record per call.  The lemmas are in
`Vegeta/Proofs` (GobFrame, GobValueResult, StreamCut, JSONStream, EncodeCalls, EncodeCmdCut) and restated
here so that the axiom audit sees them.
-/
import Vegeta.Proofs.GobFrame
import Vegeta.Proofs.StreamCut
import Vegeta.Proofs.JSONStream
import Vegeta.Proofs.CodecJSONResult
import Vegeta.Proofs.CodecCSVResult
import Vegeta.Proofs.CodecRFC3339
import Vegeta.Proofs.GobValueResult
import Vegeta.Proofs.EncodeCalls
import Vegeta.Proofs.EncodeCmdCut
import Vegeta.Extracted.Facts
namespace Vegeta.Props.C09
open Vegeta.Go Vegeta.Model.Codec Vegeta.Model.GobFrame Vegeta.Proofs.GobFrame Vegeta.Proofs.Codec

/-- one message: `recvMessage` reads back exactly the payload and stops exactly after it -/
theorem frame_roundtrip (p rest : Bytes) (h : p.length < tooBig) :
    parseFrame (encodeFrame p ++ rest) = .frame p rest := parseFrame_encodeFrame p rest h

/-- a proper non-empty prefix of a message is neither a message nor malformed: it is `incomplete`
(io.ErrUnexpectedEOF), wherever the cut falls — inside the length prefix or inside the payload -/
theorem frame_proper_prefix_incomplete (p : Bytes) (h : p.length < tooBig) (k : Nat) (hk0 : 0 < k)
    (hk : k < (encodeFrame p).length) : parseFrame ((encodeFrame p).take k) = .incomplete :=
  parseFrame_prefix p h k hk0 hk

/-- **frame_prefix_safe**: for any list of frames and any cut offset `k`, parsing the first `k` bytes of
the stream yields exactly the frames that lie wholly before the cut (`cutFrames`), then `eof` when the
cut is at a frame boundary and `incomplete` otherwise — never a frame that was not written, never part
of one. -/
theorem frame_prefix_safe (fs : List Bytes) (hfs : ∀ f ∈ fs, f.length < tooBig) (k : Nat) :
    parseFrames ((encodeFrames fs).take k) = cutFrames fs k :=
  Vegeta.Proofs.GobFrame.frame_prefix_safe fs hfs k

/-- what `cutFrames` returns is a prefix of the written frames, these fit before the cut and the next
frame (if any) does not -/
theorem frame_prefix_exact (fs : List Bytes) (k : Nat) :
    ∃ m, m ≤ fs.length ∧ (cutFrames fs k).1 = fs.take m ∧ (encodeFrames (fs.take m)).length ≤ k ∧
      (∀ f, fs[m]? = some f → k < (encodeFrames (fs.take (m + 1))).length) := cutFrames_prefix fs k

/-- the uncut stream: all frames, then end-of-stream -/
theorem frames_complete_stream (fs : List Bytes) (hfs : ∀ f ∈ fs, f.length < tooBig) :
    parseFrames (encodeFrames fs) = (fs, .eof) := parseFrames_encodeFrames fs hfs

/-! ### gob at record level (value encoding modelled in Model/GobValue.lean) -/

section GobRecords
open Vegeta.Model.GobValue Vegeta.Proofs.Gob

/-- **gob_cut_prefix**: for every sequence of results of the gob domain, the stream (four type-definition
messages, then one value message per result) cut after ANY number of bytes `k` decodes to exactly the
results whose value message lies wholly before the cut — `cutFrames` counts the complete messages, the
first four carry no result — then io.EOF if the cut falls between two records (or at offset 0), else an
error (io.ErrUnexpectedEOF); never a result that was not written, never a partly filled one. -/
theorem gob_cut_prefix (z : Zone) (rs : List Result) (hz : ZoneOK z) (hrs : ∀ r ∈ rs, ReprGobResult z r) (k : Nat) :
    ∃ ps, valueFrames z rs = some ps ∧ ps.length = rs.length ∧
      decodeGob ((encodeFrames (preFrames ++ ps)).take k) =
        ((rs.map gobDecoded).take ((cutFrames (preFrames ++ ps) k).1.length - 4),
         gobTerm (cutFrames (preFrames ++ ps) k).1 (cutFrames (preFrames ++ ps) k).2 true) :=
  decodeGob_cut z rs hz hrs k

/-- each `Encode` call hands the writer whole messages: the type definitions (first call only) and the
value message of the result -/
theorem gob_encode_emits_whole_records (z : Zone) (first : Bool) (r : Result) (b : Bytes)
    (h : encodeGobCall z first r = some b) :
    ∃ p, valuePayload z r = some p ∧ b = (if first then preamble else []) ++ encodeFrame p := by
  unfold encodeGobCall at h
  cases hp : valuePayload z r with
  | none => simp [hp] at h
  | some p => simp [hp] at h; exact ⟨p, rfl, h.symm⟩

end GobRecords

/-- **json_record_single_newline**: whatever the result (any bytes in the texts, any numbers, any zone),
an encoded JSON record contains the byte 0x0A exactly once, as its last byte: every byte below 0x20 is
escaped by the writer, base64, RFC 3339 and digits contain none. -/
theorem json_record_single_newline (offMin : Int) (r : Result) (b : Bytes) (h : encodeJSON offMin r = some b) :
    ∃ body, b = body ++ [10] ∧ 10 ∉ body := encodeJSON_single_newline offMin r b h

/-- `ReadBytes('\n')` returns exactly the next line, and nothing when no newline is left -/
theorem json_decoder_consumes_whole_lines (l rest : Bytes) (hl : IsLine l) :
    splitLine (l ++ rest) = some (l, rest) ∧ ∀ s, 10 ∉ s → splitLine s = none :=
  ⟨splitLine_line l rest hl, splitLine_none⟩

/-- **json_cut_prefix**: for every sequence of results of the JSON domain, the encoded stream is a
sequence of lines, one per result, and decoding the stream cut after ANY number of bytes `k` returns
exactly the results whose terminating newline precedes the cut (`linesBefore`), in order, then
end-of-stream (a torn last line makes `ReadBytes` return io.EOF with nothing decoded) — never a record
that was not written, never a partly filled one. -/
theorem json_cut_prefix (offMin : Int) (ho : offMin.natAbs < 1440) (rs : List Result)
    (hrs : ∀ r ∈ rs, ReprJSONResult r) :
    ∃ lines, encodeJSONAll offMin rs = some lines.flatten ∧ lines.length = rs.length ∧
      ∀ k, decodeJSON (lines.flatten.take k) = (rs.take (linesBefore lines k), .eof) ∧
        linesBefore lines k ≤ lines.length ∧ ((lines.take (linesBefore lines k)).flatten).length ≤ k ∧
        (∀ l, lines[linesBefore lines k]? = some l → k < ((lines.take (linesBefore lines k + 1)).flatten).length) := by
  obtain ⟨lines, hl, hf⟩ := encodeJSONAll_lines offMin ho rs hrs
  exact ⟨lines, hl, hf.length_eq, fun k => ⟨decodeJSON_cut lines rs hf k, linesBefore_spec lines k⟩⟩

/-- **csv_boundary_prefix**: for every sequence of results of the CSV domain and every `m`, decoding the
stream cut after as many bytes as the first `m` records take returns exactly these `m` results (as the
decoder returns them, `Equal` to the written ones), then end-of-stream.  (That this cut is a record
boundary is `encodeCSVAll_take`, not part of the statement.) -/
theorem csv_boundary_prefix (rs : List Result) (hrs : ∀ r ∈ rs, ReprCSVResult r) (m : Nat) :
    decodeCSV ((encodeCSVAll rs).take (encodeCSVAll (rs.take m)).length) = ((rs.take m).map csvDecoded, .eof) ∧
      equalAll ((rs.take m).map csvDecoded) (rs.take m) = true := by
  have hsub : ∀ r ∈ rs.take m, ReprCSVResult r := fun r hr => hrs r (List.mem_of_mem_take hr)
  rw [encodeCSVAll_take rs m]
  exact ⟨decodeCSV_encodeCSVAll _ hsub, equalAll_map_csvDecoded _ hsub⟩

/-- **encode_emits_whole_records (CSV)**: `Write` + `Flush` in every call — after the `k`-th `Encode`
call has returned, the bytes handed to the underlying writer are exactly the first `k` complete records
and nothing is held back in the buffer; so every point between calls is a record boundary. -/
theorem csv_encode_emits_whole_records (rs : List Result) (k : Nat) :
    ((rs.take k).foldl csvEncodeCall {}).out = encodeCSVAll (rs.take k) ∧
    ((rs.take k).foldl csvEncodeCall {}).buf = [] := csv_calls_whole_records (rs.take k)

/-- **encode_emits_whole_records (JSON)**: marshal, newline, `DumpTo` in every call -/
theorem json_encode_emits_whole_records (offMin : Int) (rs : List Result) (k : Nat) (b : Bytes)
    (h : encodeJSONAll offMin (rs.take k) = some b) :
    ((rs.take k).foldl (jsonEncodeCall offMin) {}).out = b ∧
    ((rs.take k).foldl (jsonEncodeCall offMin) {}).buf = [] := json_calls_whole_records offMin (rs.take k) b h

/-! ### Encoders called repeatedly, with failing calls in between (Model/EncodeCmd.lean) -/

section CallSequences
open Vegeta.Model.EncodeCmd Vegeta.Model.GobValue Vegeta.Proofs.EncodeCmd Vegeta.Proofs.Gob

/-- **each `Encode` call appends exactly one whole record, or nothing** — lifted to call SEQUENCES: after any
sequence of calls (results that can be encoded or not, the caller going on after errors) the writer holds
the records of the calls that returned nil, in call order (gob: after the type definitions, sent once by
the first call even if that call fails), and nothing else. -/
theorem encoder_calls_emit_whole_records (c : Codec) (args : List (Zone × Result)) :
    (encCalls c {} args).1 =
      (if c = .gob ∧ args ≠ [] then preamble else []) ++ (okCalls c {} args).flatMap (recordOf c) :=
  enc_calls_whole_records c args

/-- **which calls return nil**: CSV — all; JSON — exactly the calls before the first result that cannot be
marshalled: the JSON encoder, as the code is, STAYS FAILED (jwriter's sticky error), every later call returns the
error and writes nothing; gob — exactly the calls whose result can be encoded, a failure leaves no trace. -/
theorem encoder_calls_outcomes (args : List (Zone × Result)) :
    (encCalls .csv {} args).2 = args.map (fun _ => true) ∧
    (encCalls .json {} args).2 =
      (args.takeWhile (fun a => (encodeJSON (zoneMin a.1) a.2).isSome)).map (fun _ => true) ++
      (args.dropWhile (fun a => (encodeJSON (zoneMin a.1) a.2).isSome)).map (fun _ => false) ∧
    (encCalls .gob {} args).2 = args.map (fun a => (valuePayload a.1 a.2).isSome) :=
  ⟨congrArg Prod.snd (csv_calls {} args), congrArg Prod.snd (json_calls {} rfl args),
   congrArg Prod.snd (gob_calls {} args)⟩

/-- … hence what is at the writer after ANY call sequence decodes to exactly the results of the successful
calls, then end-of-stream (gob: an unexpected end if calls were made but none succeeded — only type
definitions are there). -/
theorem encoder_calls_decode (args : List (Zone × Result)) :
    ((∀ a ∈ args, ReprCSVResult a.2) →
      decodeCSV (encCalls .csv {} args).1 = (args.map (fun a => csvDecoded a.2), .eof)) ∧
    ((∀ a ∈ okCalls .json {} args, ReprJSONResult a.2 ∧ (zoneMin a.1).natAbs < 1440) →
      decodeJSON (encCalls .json {} args).1 = ((okCalls .json {} args).map (·.2), .eof)) ∧
    ((∀ a ∈ okCalls .gob {} args, ReprGobResult a.1 a.2 ∧ ZoneOK a.1) →
      decodeGob (encCalls .gob {} args).1 =
        ((okCalls .gob {} args).map (fun a => gobDecoded a.2),
         if args = [] ∨ okCalls .gob {} args ≠ [] then .eof else .err)) :=
  ⟨enc_calls_decode_csv args, enc_calls_decode_json args, enc_calls_decode_gob args⟩

/-- **`vegeta encode` on a JSON input cut after ANY number of bytes**, any target encoding: the command
returns nil and what it wrote decodes to exactly the records whose line lies wholly before the cut. -/
theorem encode_cmd_cut_json (dst : Codec) (zs zd : Zone) (rs : List Result)
    (hs : ∀ r ∈ rs, ReprFor .json zs r) (hd : ∀ r ∈ rs, ReprFor dst zd r) (k : Nat) :
    ∃ lines, encodeJSONAll (zoneMin zs) rs = some lines.flatten ∧ lines.length = rs.length ∧
      (encodeCmd .json dst zd (lines.flatten.take k)).2 = true ∧
      decodeWith dst (encodeCmd .json dst zd (lines.flatten.take k)).1 =
        ((rs.take (linesBefore lines k)).map (decodedBy dst), .eof) :=
  encodeCmd_cut_json dst zs zd rs hs hd k

/-- **… on a gob input cut after ANY number of bytes**: whatever the command returns (the decoder's error when
the cut is inside a message), what it wrote decodes to exactly the records whose value message lies wholly
before the cut — every record decoded before the error has been encoded (decode one, encode one). -/
theorem encode_cmd_cut_gob (dst : Codec) (zs zd : Zone) (rs : List Result)
    (hs : ∀ r ∈ rs, ReprFor .gob zs r) (hd : ∀ r ∈ rs, ReprFor dst zd (gobDecoded r)) (k : Nat) :
    ∃ ps, valueFrames zs rs = some ps ∧ ps.length = rs.length ∧
      decodeWith dst (encodeCmd .gob dst zd ((encodeFrames (preFrames ++ ps)).take k)).1 =
        ((rs.take ((cutFrames (preFrames ++ ps) k).1.length - 4)).map (decodedBy dst ∘ gobDecoded), .eof) ∧
      (encodeCmd .gob dst zd ((encodeFrames (preFrames ++ ps)).take k)).2 =
        (gobTerm (cutFrames (preFrames ++ ps) k).1 (cutFrames (preFrames ++ ps) k).2 true == .eof) :=
  encodeCmd_cut_gob dst zs zd rs hs hd k

/-- **… on a CSV input cut at any record boundary** -/
theorem encode_cmd_cut_csv (dst : Codec) (zd : Zone) (rs : List Result)
    (hs : ∀ r ∈ rs, ReprCSVResult r) (hd : ∀ r ∈ rs, ReprFor dst zd (csvDecoded r)) (m : Nat) :
    (encodeCmd .csv dst zd ((encodeCSVAll rs).take (encodeCSVAll (rs.take m)).length)).2 = true ∧
    decodeWith dst (encodeCmd .csv dst zd ((encodeCSVAll rs).take (encodeCSVAll (rs.take m)).length)).1 =
      ((rs.take m).map (decodedBy dst ∘ csvDecoded), .eof) :=
  encodeCmd_cut_csv dst zd rs hs hd m

/-! non-vacuity -/
example : (encCalls .json {} [(.utc, exGood), (.utc, exLate), (.utc, exGood)]).2 = [true, false, false] ∧
    (encCalls .gob {} [(.utc, exGood), (.fixed (-60), exGood), (.utc, exGood)]).2 = [true, false, true] := by decide +kernel
example : ∃ ps, valueFrames .utc [cmdExample] = some ps ∧ ps.length = 1 ∧
    decodeWith .csv (encodeCmd .gob .csv .utc ((encodeFrames (preFrames ++ ps)).take 300)).1 =
      (([cmdExample].take ((cutFrames (preFrames ++ ps) 300).1.length - 4)).map (decodedBy .csv ∘ gobDecoded), .eof) ∧ True := by
  obtain ⟨ps, h1, h2, h3, _⟩ := encode_cmd_cut_gob .csv .utc .utc [cmdExample]
    (List.forall_mem_singleton.2 ⟨cmdExample_gob, trivial⟩)
    (List.forall_mem_singleton.2 cmdExample_csv) 300
  exact ⟨ps, h1, by simpa using h2, h3, trivial⟩

end CallSequences

/-! ### regenerated facts: how records reach the writer -/

/-- the CSV encoder closure calls `Write` and then `Flush`; the JSON encoder marshals, appends '\n' and
dumps its buffer to the writer in every call; the JSON decoder takes its input from
`ReadBytes('\n')` and returns a read error before decoding anything; the attack command encodes each
result as it arrives, straight to the (unbuffered) output file -/
theorem facts_records_reach_writer_whole :
    Vegeta.Extracted.csvEncoderWritesThenFlushes = true ∧ Vegeta.Extracted.jsonEncoderDumpsPerRecord = true ∧
    Vegeta.Extracted.jsonDecoderReadsWholeLines = true ∧ Vegeta.Extracted.attackEncodesEachResult = true ∧
    Vegeta.Extracted.attackOutputUnbuffered = true := by decide +kernel

/-! ### non-vacuity -/

example : parseFrames ((encodeFrames [[1, 2, 3], [], [9]]).take 6) = ([[1, 2, 3], []], .incomplete) := by decide +kernel
example : cutFrames [[1, 2, 3], [], [9]] 5 = ([[1, 2, 3], []], .eof) := by decide +kernel
example : ReprJSONResult jsonExampleResult := jsonExampleResult_repr
example : ReprCSVResult exampleResult := exampleResult_repr
example : ([1, 2, 3] : Bytes).length < tooBig := by decide +kernel

end Vegeta.Props.C09
