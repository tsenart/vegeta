/-
C07 — Result codecs round-trip every result and follow the documented layout.

Property theorems only; the lemmas live in `Vegeta/Proofs` (`Codec*`, JSONStream, SpecJSON, GobValueResult,
EqualLaws, EncodeCmdCut) and are restated here where they are a clause of their own, so that the
per-theorem axiom audit sees them.  Last comes the `encode` command as a map of per-record round trips.
The gob value encoding of `Result` is modelled in Model/GobValue.lean (type-definition preamble as a
constant checked against the real encoder on every run); gob framing and cuts are C09.
-/
import Vegeta.Proofs.CodecCSVResult
import Vegeta.Proofs.CodecJSONResult
import Vegeta.Proofs.CodecRFC3339
import Vegeta.Proofs.SpecJSON
import Vegeta.Proofs.StreamCut
import Vegeta.Proofs.JSONStream
import Vegeta.Proofs.GobValueResult
import Vegeta.Proofs.EqualLaws
import Vegeta.Proofs.EncodeCmdCut
import Vegeta.Extracted.Facts
namespace Vegeta.Props.C07
open Vegeta.Go Vegeta.Model.Codec Vegeta.Proofs.Codec

/-- `strconv.ParseUint(strconv.FormatUint(n, 10), 10, bits) = n` for every value of the type -/
theorem decimal_uint_parse_format (bits n : Nat) (hb : bits ≤ 64) (h : n < 2 ^ bits) :
    parseUint bits (fmtNat n) = .ok n := parseUint_fmtNat bits n hb h

/-- `strconv.ParseInt(strconv.FormatInt(i, 10), 10, 64) = i` for every int64 -/
theorem decimal_int_parse_format (i : Int) (h : inS64 i) : parseInt 64 (fmtInt i) = .ok i :=
  parseInt_fmtInt i h

/-- `base64.StdEncoding`: `DecodeString (EncodeToString b) = b` for every byte string -/
theorem base64_decode_encode (b : Bytes) (h : ∀ x ∈ b, x < 256) : b64Decode (b64Encode b) = .ok b :=
  b64Decode_b64Encode b h

/-- `csv.Reader.Read` after `csv.Writer.Write` returns the written fields and stops exactly at the end
of the record, for every record of at least two fields with arbitrary field contents (quotes, commas,
newlines, leading blanks, …).  `readLine`'s CR/LF normalisation is a separate step of the model
(`normCRLF`), not in this statement. -/
theorem csv_read_write (fs : List Bytes) (h2 : 2 ≤ fs.length) (rest : Bytes) :
    readRecord (writeRecord fs ++ rest) = .record fs rest := readRecord_writeRecord fs h2 rest

/-- `ReadMIMEHeader` after `Header.Write` (+ blank line) returns the same map, its entries in the key
order `Header.Write` emits (`sortKV`), for header maps as net/http yields them (`ReprHeaders`) -/
theorem mime_read_write (h : Header) (hr : ReprHeaders h) :
    readMIMEHeader (headerWrite h ++ [13, 10]) = .ok (sortKV h) := readMIMEHeader_headerWrite h hr

/-- easyjson: the lexer finds the end of a written string whatever its content, and unescaping gives
the text back when it is valid UTF-8 -/
theorem json_string_roundtrip (s rest : Bytes) (h : validUTF8 s = true) :
    fetchString (jsonEscape s ++ 34 :: rest) = some (jsonEscape s, rest) ∧ unescape (jsonEscape s) = some s :=
  ⟨fetchString_jsonEscape s rest, unescape_jsonEscape s h⟩

/-- `time.Time` as RFC 3339 text: parse ∘ format = id for every instant 1970-01-01 … 2200-12-31 at
nanosecond precision, in every zone of whole minutes (the quoted `MarshalJSON`/`UnmarshalJSON` forms:
`timeUnmarshal_timeMarshal`, Proofs/CodecRFC3339.lean) -/
theorem rfc3339_roundtrip (ns offMin : Int) (h0 : 0 ≤ ns) (h1 : ns < 7289654400000000000)
    (ho : offMin.natAbs < 1440) :
    ∃ b, fmtRFC3339 ns offMin = some b ∧ parseRFC3339 b = some ns ∧
      ∀ c ∈ b, 32 ≤ c ∧ c < 128 ∧ c ≠ 34 ∧ c ≠ 92 := parseRFC3339_fmtRFC3339 ns offMin h0 h1 ho

/-- what the CSV decoder returns is `Equal` to what was written (nil body ≡ empty body; sorted header
list ≡ the same map) -/
theorem csv_decoded_equal (r : Result) (hr : ReprCSVResult r) :
    (csvDecoded r).equal r = true ∧ r.equal (csvDecoded r) = true := csvDecoded_equal r hr

/-- **CSV: decode (encode rs) is `Equal` to rs, record by record, then end-of-stream**, for every sequence of results of the CSV
domain `ReprCSVResult` (texts without '\r', full numeric ranges, timestamps 1970–2200, any body,
nil/empty/multi-valued headers with canonical keys and values without control bytes). -/
theorem csv_roundtrip (rs : List Result) (hrs : ∀ r ∈ rs, ReprCSVResult r) :
    ∃ out, decodeCSV (encodeCSVAll rs) = (out, .eof) ∧ equalAll out rs = true :=
  csv_roundtrip_equal rs hrs

/-- the decoded list, explicitly -/
theorem csv_roundtrip_explicit (rs : List Result) (hrs : ∀ r ∈ rs, ReprCSVResult r) :
    decodeCSV (encodeCSVAll rs) = (rs.map csvDecoded, .eof) := decodeCSV_encodeCSVAll rs hrs

/-- **the independent reader of the documented twelve columns agrees with the decoder**, field by field -/
theorem spec_reader_agrees_csv (rs : List Result) (hrs : ∀ r ∈ rs, ReprCSVResult r) :
    Vegeta.Spec.Layout.specReadCSV (encodeCSVAll rs) = decodeCSV (encodeCSVAll rs) := by
  rw [specReadCSV_encodeCSVAll rs hrs, decodeCSV_encodeCSVAll rs hrs]

/-- Why '\r' is kept out of the CSV domain: the writer copies "\r\n" into a quoted field as it is and the
reader's line normalisation turns it into "\n", so a text containing "\r\n" does not survive the round
trip (a limitation of encoding/csv itself, documented there; not counted as a codec defect). Witness:
the record `["a\r\nb", ""]` reads back as `["a\nb", ""]`. -/
theorem csv_crlf_in_text_not_preserved :
    readRecord (normCRLF (writeRecord [[97, 13, 10, 98], []])) = .record [[97, 10, 98], []] [] := by decide +kernel

/-- **JSON, one record**: for every result of the JSON domain `ReprJSONResult` (valid UTF-8 texts, full
numeric ranges, timestamps 1970–2200, nil/empty/any body, nil/empty/any header map — in the key order
the map iteration happens to produce, which is the order of the association list) and every zone,
the encoder emits a line and the decoder returns exactly the result. -/
theorem json_roundtrip_record (offMin : Int) (ho : offMin.natAbs < 1440) (r : Result) (hr : ReprJSONResult r) :
    ∃ b, encodeJSON offMin r = some b ∧ decodeJSONLine b = .ok r :=
  (json_record offMin ho r hr).imp fun _ h => ⟨h.1, h.2.2⟩

/-- **JSON: decode (encode rs) = rs, then end-of-stream**, for every sequence of results of the JSON
domain (literally the same results, hence `Equal`). -/
theorem json_roundtrip (offMin : Int) (ho : offMin.natAbs < 1440) (rs : List Result)
    (hrs : ∀ r ∈ rs, ReprJSONResult r) :
    ∃ s, encodeJSONAll offMin rs = some s ∧ decodeJSON s = (rs, .eof) :=
  decodeJSON_encodeJSONAll offMin ho rs hrs

/-- **… for every iteration order of the header map**: Go iterates a map in random order, so the encoder
may emit the header keys in any permutation `h'` of the list `h`; whichever it is, the decoded result is
`Equal` to the original. -/
theorem json_roundtrip_any_key_order (offMin : Int) (ho : offMin.natAbs < 1440) (r : Result)
    (hr : ReprJSONResult r) (h h' : Header) (hh : r.headers = some h) (hp : h'.Perm h) :
    ∃ b out, encodeJSON offMin { r with headers := some h' } = some b ∧ decodeJSONLine b = .ok out ∧
      out.equal r = true := by
  have hn := (hr.headers h hh).1
  have hr' : ReprJSONResult { r with headers := some h' } :=
    { num := ⟨hr.num.seq, hr.num.code, hr.num.ts0, hr.num.ts1, hr.num.latency, hr.num.bytesOut, hr.num.bytesIn⟩
      attack := hr.attack, error := hr.error, method := hr.method, url := hr.url, body := hr.body
      headers := by
        intro x hx
        simp only [Option.some.injEq] at hx
        subst hx
        refine ⟨((hp.map (·.1)).nodup_iff).2 hn, ?_⟩
        intro kv hkv
        exact (hr.headers h hh).2 kv (hp.mem_iff.1 hkv) }
  obtain ⟨b, hb, hd⟩ := json_roundtrip_record offMin ho _ hr'
  refine ⟨b, _, hb, hd, ?_⟩
  simp only [Result.equal, hh, beq_self_eq_true, Bool.true_and, Bool.and_true]
  exact headerEqual_of_perm h' h hp hn

/-- **the independent reader of the documented member names and units agrees**: it reads every encoded
record of the JSON domain back to exactly the written result (so it agrees with the decoder, field by field) -/
theorem spec_reader_agrees_json (offMin : Int) (ho : offMin.natAbs < 1440) (r : Result) (hr : ReprJSONResult r) :
    ∃ b, encodeJSON offMin r = some b ∧ Vegeta.Spec.Layout.specReadJSONLine b = some r ∧ decodeJSONLine b = .ok r := by
  obtain ⟨b, hb, hs⟩ := specReadJSONLine_encodeJSON offMin r hr
    (parseRFC3339_fmtRFC3339 _ _ hr.num.ts0 hr.num.ts1 ho)
  obtain ⟨b', hb', hd⟩ := json_roundtrip_record offMin ho r hr
  rw [hb] at hb'; cases hb'
  exact ⟨b, hb, hs, hd⟩

/-! ### gob: the value encoding (Model/GobValue.lean) -/

section Gob
open Vegeta.Model.GobFrame Vegeta.Model.GobValue Vegeta.Proofs.Gob

/-- gob varints, zig-zag integers and length-prefixed strings / []byte round-trip, whatever follows -/
theorem gob_scalar_layers (n : Nat) (hn : n < 2 ^ 64) (i : Int) (hi : inS64 i) (b rest : Bytes)
    (hb : b.length < 2 ^ 64) :
    decUint (encodeUint n ++ rest) = some (n, rest) ∧ decInt (gInt i ++ rest) = some (i, rest) ∧
    decBytes (gBytes b ++ rest) = some (b, rest) :=
  ⟨decUint_encodeUint n hn rest, decInt_gInt i hi rest, decBytes_gBytes b rest hb⟩

/-- `time.Time`: `UnmarshalBinary (MarshalBinary t)` restores the instant in every zone (versions 1 and 2) -/
theorem gob_time_layer (z : Zone) (ts : Int) (b : Bytes)
    (hs : -9223372036854775808 ≤ ts / 1000000000 + unixToInternal ∧ ts / 1000000000 + unixToInternal < 9223372036854775808)
    (h : timeBinary z ts = some b) : decTimeBinary b = some ts := decTimeBinary_timeBinary z ts b hs h

/-- `map[string][]string` with distinct keys round-trips in the iteration order given -/
theorem gob_header_layer (h : Header) (rest : Bytes) (hn : h.length < 2 ^ 64) (hd : (h.map (·.1)).Nodup)
    (hk : ∀ kv ∈ h, kv.1.length < 2 ^ 64 ∧ kv.2.length < 2 ^ 64 ∧ ∀ v ∈ kv.2, v.length < 2 ^ 64) :
    decHeader (gHeader h ++ rest) = some (h, rest) := decHeader_gHeader h rest hn hd hk

/-- one value message decodes (into a zero `Result`) to the written result -/
theorem gob_value_roundtrip (z : Zone) (r : Result) (hz : ZoneOK z) (hr : ReprGobResult z r) :
    ∃ p, valuePayload z r = some p ∧ p.length < tooBig ∧ decValue p = some (gobDecoded r) :=
  decValue_valuePayload z r hz hr

/-- **gob: decode (encode rs) = rs, then end-of-stream**, for every sequence of results of the gob domain
`ReprGobResult` (arbitrary bytes in texts, body and header values; full numeric ranges; timestamps
1970–2200 in UTC or any zone `MarshalBinary` accepts; header maps with distinct keys in any iteration
order = list order; value message below gob's 2^33-byte limit): the stream is the four type-definition
messages followed by one value message per result, and the decoder returns results `Equal` to the
written ones, then io.EOF. -/
theorem gob_roundtrip (z : Zone) (rs : List Result) (hz : ZoneOK z) (hrs : ∀ r ∈ rs, ReprGobResult z r) :
    ∃ s out, encodeGobAll z rs = some s ∧ decodeGob s = (out, .eof) ∧ equalAll out rs = true :=
  gob_roundtrip_equal z rs hz hrs

/-- the decoded list, explicitly: every result as written, an empty body nil (`gobDecoded`) -/
theorem gob_roundtrip_explicit (z : Zone) (rs : List Result) (hz : ZoneOK z) (hrs : ∀ r ∈ rs, ReprGobResult z r) :
    ∃ s, encodeGobAll z rs = some s ∧ decodeGob s = (rs.map gobDecoded, .eof) :=
  decodeGob_encodeGobAll z rs hz hrs

/-- **… for every iteration order of the header map**: whichever permutation `h'` of the entries the
encoder happens to emit, the decoded result is `Equal` to the original -/
theorem gob_roundtrip_any_key_order (z : Zone) (hz : ZoneOK z) (r : Result) (h h' : Header)
    (hh : r.headers = some h) (hp : h'.Perm h) (hr' : ReprGobResult z { r with headers := some h' }) :
    ∃ p out, valuePayload z { r with headers := some h' } = some p ∧ decValue p = some out ∧ out.equal r = true := by
  obtain ⟨p, hp1, _, hp2⟩ := decValue_valuePayload z _ hz hr'
  refine ⟨p, _, hp1, hp2, ?_⟩
  have hn' : (h'.map (·.1)).Nodup := hr'.headers h' rfl
  have hn : (h.map (·.1)).Nodup := ((hp.map (·.1)).nodup_iff).1 hn'
  have hb := gobDecoded_body_getD r
  simp only [gobDecoded] at hb
  simp only [gobDecoded, Result.equal, hh, beq_self_eq_true, Bool.true_and, Bool.and_true, hb]
  exact headerEqual_of_perm h' h hp hn

end Gob

/-! ### `Result.Equal` / `headerEqual` as a relation (Proofs/EqualLaws.lean) -/

section EqualLaws
open Vegeta.Model.EncodeCmd Vegeta.Proofs.EncodeCmd

/-- **`Equal` looks at every field**: two results are `Equal` iff all scalar fields agree, the bodies are the
same byte string (nil = empty) and `headerEqual` holds; so a difference in any one field makes them unequal -/
theorem equal_field_by_field (a b : Result) : a.equal b = true ↔
    (a.attack = b.attack ∧ a.seq = b.seq ∧ a.code = b.code ∧ a.timestamp = b.timestamp ∧ a.latency = b.latency ∧
     a.bytesIn = b.bytesIn ∧ a.bytesOut = b.bytesOut ∧ a.error = b.error ∧ a.body.getD [] = b.body.getD [] ∧
     a.method = b.method ∧ a.url = b.url ∧ headerEqual a.headers b.headers = true) := equal_iff a b

/-- **value lists are compared element by element**: non-nil maps are equal iff they have the same number of
keys and every key of the first has exactly the same value list in the second -/
theorem header_equal_elementwise (h1 h2 : Header) :
    headerEqual (some h1) (some h2) = true ↔ h1.length = h2.length ∧ ∀ kv ∈ h1, headerGet h2 kv.1 = kv.2 :=
  headerEqual_iff h1 h2

/-- a nil header map equals only a nil one (nil ≠ empty); nil and empty bodies are equal -/
theorem equal_nil_vs_empty (r : Result) (h : HeadersOK r.headers) (hm : Header) :
    headerEqual none none = true ∧ headerEqual none (some hm) = false ∧ headerEqual (some hm) none = false ∧
    ({ r with headers := none } : Result).equal { r with headers := some [] } = false ∧
    ({ r with body := none } : Result).equal { r with body := some [] } = true ∧
    ({ r with body := some [] } : Result).equal { r with body := none } = true :=
  ⟨(headerEqual_nil hm).1, (headerEqual_nil hm).2.1, (headerEqual_nil hm).2.2, (equal_headers_nil_empty r).1,
   (equal_body_nil_empty r h).1, (equal_body_nil_empty r h).2⟩

/-- reflexive on Go maps (distinct keys) -/
theorem equal_reflexive (r : Result) (h : HeadersOK r.headers) : r.equal r = true := equal_refl r h

/-- symmetric on maps with distinct keys when every key of `a` has a value (`va`; `vb` is not needed) -/
theorem equal_symmetric (a b : Result) (ha : HeadersOK a.headers) (hb : HeadersOK b.headers)
    (va : ValuesNonEmpty a.headers) (vb : ValuesNonEmpty b.headers) (h : a.equal b = true) : b.equal a = true :=
  equal_symm a b ha hb va vb h

/-- transitive, so chains of conversions compose -/
theorem equal_transitive (a b c : Result) (va : ValuesNonEmpty a.headers) (h1 : a.equal b = true)
    (h2 : b.equal c = true) : a.equal c = true := equal_trans a b c va h1 h2

/-- **oddity of `headerEqual`** (modelled as the code is): a key with an EMPTY value list reads like a
missing key, so `Equal` is not symmetric there — {A:[x], B:[]} "equals" {A:[x], C:[y]} but not conversely.
Harmless for headers as net/http yields them (every key has a value); the harness's check avoids the corner. -/
theorem equal_not_symmetric_with_empty_value_lists :
    ∃ a b : Result, HeadersOK a.headers ∧ HeadersOK b.headers ∧ a.equal b = true ∧ b.equal a = false :=
  equal_not_symmetric_witness

theorem aux_headersOK_json (r : Result) (h : ReprJSONResult r) : HeadersOK r.headers :=
  fun x hx => (h.headers x hx).1

/-- the JSON round trip restated modulo `Equal` (it returns literally the same results) -/
theorem json_roundtrip_equal (offMin : Int) (ho : offMin.natAbs < 1440) (rs : List Result)
    (hrs : ∀ r ∈ rs, ReprJSONResult r) :
    ∃ s out, encodeJSONAll offMin rs = some s ∧ decodeJSON s = (out, .eof) ∧ equalAll out rs = true := by
  obtain ⟨s, hs, hd⟩ := json_roundtrip offMin ho rs hrs
  refine ⟨s, rs, hs, hd, ?_⟩
  have := equalAll_decodedBy .json .json rs (fun r hr => aux_headersOK_json r (hrs r hr))
  simpa [decodedBy] using this

/-! ### The `encode` command (Model/EncodeCmd.lean): the codecs' round trips composed, record by record
(which decoder the command picks and how it handles files is C08) -/

theorem aux_headersOK_for (c : Codec) (z : Vegeta.Model.GobValue.Zone) (r : Result) (h : ReprFor c z r) :
    HeadersOK r.headers := by
  cases c with
  | csv => exact fun x hx => (h.headers x hx).1.1
  | json => exact aux_headersOK_json r h.1
  | gob => exact fun x hx => h.1.headers x hx

/-- **what `vegeta encode` writes decodes to what was read, for every from/to pair and every stream**, however
heterogeneous (a sparse record after a full one, …): the command decodes each record into a fresh `Result` and
encodes it before reading the next, so it is a map over the records — the output decodes to the input's
records passed through the two decoders, which are `Equal` to the originals, then end-of-stream. -/
theorem encode_command_is_map (src dst : Codec) (zs zd : Vegeta.Model.GobValue.Zone) (rs : List Result)
    (hs : ∀ r ∈ rs, ReprFor src zs r) (hd : ∀ r ∈ rs, ReprFor dst zd (decodedBy src r)) :
    ∃ inp out, encodeAllWith src zs rs = some inp ∧ (encodeCmd src dst zd inp).2 = true ∧
      decodeWith dst (encodeCmd src dst zd inp).1 = (out, .eof) ∧
      out = rs.map (decodedBy dst ∘ decodedBy src) ∧ equalAll out rs = true := by
  obtain ⟨inp, h1, h2, h3⟩ := encodeCmd_complete src dst zs zd rs hs hd
  exact ⟨inp, _, h1, h2, h3, rfl, equalAll_decodedBy src dst rs (fun r hr => aux_headersOK_for src zs r (hs r hr))⟩

/-! non-vacuity -/
example : exB.equal exA = true :=
  equal_symmetric exA exB (by intro x hx; cases hx; decide +kernel) (by intro x hx; cases hx; decide +kernel)
    (by intro x hx; cases hx; decide +kernel) (by intro x hx; cases hx; decide +kernel) (by decide +kernel)
example : ∃ inp out, encodeAllWith .gob .utc [cmdExample] = some inp ∧ (encodeCmd .gob .csv .utc inp).2 = true ∧
    decodeWith .csv (encodeCmd .gob .csv .utc inp).1 = (out, .eof) ∧
    out = [cmdExample].map (decodedBy .csv ∘ decodedBy .gob) ∧ equalAll out [cmdExample] = true :=
  encode_command_is_map .gob .csv .utc .utc [cmdExample]
    (List.forall_mem_singleton.2 ⟨cmdExample_gob, trivial⟩)
    (List.forall_mem_singleton.2 cmdExample_csv)

end EqualLaws

/-! ### Documented layout: obligations on the regenerated source facts

`Vegeta.Extracted.*` is regenerated from /repo by `extract/c07.go` on every check run (go/ast):
the `[]string` literal of `NewCSVEncoder`, the `rec[i] → field` flow of `NewCSVDecoder`, the reader
configuration, the `Result` struct, the member names of the generated JSON code, and the numbered
column lists of the usage text in encode.go and of README.md. -/

/-- the twelve documented CSV columns, in the documented order -/
def docColumns : List Bytes := [
    [85, 110, 105, 120, 32, 116, 105, 109, 101, 115, 116, 97, 109, 112, 32, 105, 110, 32, 110, 97, 110, 111, 115, 101, 99, 111, 110, 100, 115, 32, 115, 105, 110, 99, 101, 32, 101, 112, 111, 99, 104],   -- Unix timestamp in nanoseconds since epoch
    [72, 84, 84, 80, 32, 115, 116, 97, 116, 117, 115, 32, 99, 111, 100, 101],   -- HTTP status code
    [82, 101, 113, 117, 101, 115, 116, 32, 108, 97, 116, 101, 110, 99, 121, 32, 105, 110, 32, 110, 97, 110, 111, 115, 101, 99, 111, 110, 100, 115],   -- Request latency in nanoseconds
    [66, 121, 116, 101, 115, 32, 111, 117, 116],   -- Bytes out
    [66, 121, 116, 101, 115, 32, 105, 110],   -- Bytes in
    [69, 114, 114, 111, 114],   -- Error
    [66, 97, 115, 101, 54, 52, 32, 101, 110, 99, 111, 100, 101, 100, 32, 114, 101, 115, 112, 111, 110, 115, 101, 32, 98, 111, 100, 121],   -- Base64 encoded response body
    [65, 116, 116, 97, 99, 107, 32, 110, 97, 109, 101],   -- Attack name
    [83, 101, 113, 117, 101, 110, 99, 101, 32, 110, 117, 109, 98, 101, 114, 32, 111, 102, 32, 114, 101, 113, 117, 101, 115, 116],   -- Sequence number of request
    [77, 101, 116, 104, 111, 100],   -- Method
    [85, 82, 76],   -- URL
    [66, 97, 115, 101, 54, 52, 32, 101, 110, 99, 111, 100, 101, 100, 32, 114, 101, 115, 112, 111, 110, 115, 101, 32, 104, 101, 97, 100, 101, 114, 115]   -- Base64 encoded response headers
  ]

/-- the `Result` field each documented column stands for, in the documented order -/
def docColumnFields : List Bytes := [
    [84, 105, 109, 101, 115, 116, 97, 109, 112],   -- Timestamp
    [67, 111, 100, 101],   -- Code
    [76, 97, 116, 101, 110, 99, 121],   -- Latency
    [66, 121, 116, 101, 115, 79, 117, 116],   -- BytesOut
    [66, 121, 116, 101, 115, 73, 110],   -- BytesIn
    [69, 114, 114, 111, 114],   -- Error
    [66, 111, 100, 121],   -- Body
    [65, 116, 116, 97, 99, 107],   -- Attack
    [83, 101, 113],   -- Seq
    [77, 101, 116, 104, 111, 100],   -- Method
    [85, 82, 76],   -- URL
    [72, 101, 97, 100, 101, 114, 115]   -- Headers
  ]

/-- conversions applied by the encoder per column (units: `UnixNano`, `Nanoseconds`, base64) -/
def encoderConversions : List (List Bytes) := [
    [[115, 116, 114, 99, 111, 110, 118, 46, 70, 111, 114, 109, 97, 116, 73, 110, 116], [85, 110, 105, 120, 78, 97, 110, 111]],   -- strconv.FormatInt ∘ UnixNano
    [[115, 116, 114, 99, 111, 110, 118, 46, 70, 111, 114, 109, 97, 116, 85, 105, 110, 116], [117, 105, 110, 116, 54, 52]],   -- strconv.FormatUint ∘ uint64
    [[115, 116, 114, 99, 111, 110, 118, 46, 70, 111, 114, 109, 97, 116, 73, 110, 116], [78, 97, 110, 111, 115, 101, 99, 111, 110, 100, 115]],   -- strconv.FormatInt ∘ Nanoseconds
    [[115, 116, 114, 99, 111, 110, 118, 46, 70, 111, 114, 109, 97, 116, 85, 105, 110, 116]],   -- strconv.FormatUint
    [[115, 116, 114, 99, 111, 110, 118, 46, 70, 111, 114, 109, 97, 116, 85, 105, 110, 116]],   -- strconv.FormatUint
    [],   -- (as is)
    [[98, 97, 115, 101, 54, 52, 46, 83, 116, 100, 69, 110, 99, 111, 100, 105, 110, 103, 46, 69, 110, 99, 111, 100, 101, 84, 111, 83, 116, 114, 105, 110, 103]],   -- base64.StdEncoding.EncodeToString
    [],   -- (as is)
    [[115, 116, 114, 99, 111, 110, 118, 46, 70, 111, 114, 109, 97, 116, 85, 105, 110, 116]],   -- strconv.FormatUint
    [],   -- (as is)
    [],   -- (as is)
    [[98, 97, 115, 101, 54, 52, 46, 83, 116, 100, 69, 110, 99, 111, 100, 105, 110, 103, 46, 69, 110, 99, 111, 100, 101, 84, 111, 83, 116, 114, 105, 110, 103], [104, 101, 97, 100, 101, 114, 66, 121, 116, 101, 115]]   -- base64.StdEncoding.EncodeToString ∘ headerBytes
  ]

/-- conversions applied by the decoder per column -/
def decoderConversions : List (List Bytes) := [
    [[115, 116, 114, 99, 111, 110, 118, 46, 80, 97, 114, 115, 101, 73, 110, 116], [116, 105, 109, 101, 46, 85, 110, 105, 120]],   -- strconv.ParseInt ∘ time.Unix
    [[115, 116, 114, 99, 111, 110, 118, 46, 80, 97, 114, 115, 101, 85, 105, 110, 116], [117, 105, 110, 116, 49, 54]],   -- strconv.ParseUint ∘ uint16
    [[115, 116, 114, 99, 111, 110, 118, 46, 80, 97, 114, 115, 101, 73, 110, 116], [116, 105, 109, 101, 46, 68, 117, 114, 97, 116, 105, 111, 110]],   -- strconv.ParseInt ∘ time.Duration
    [[115, 116, 114, 99, 111, 110, 118, 46, 80, 97, 114, 115, 101, 85, 105, 110, 116]],   -- strconv.ParseUint
    [[115, 116, 114, 99, 111, 110, 118, 46, 80, 97, 114, 115, 101, 85, 105, 110, 116]],   -- strconv.ParseUint
    [],   -- (as is)
    [[98, 97, 115, 101, 54, 52, 46, 83, 116, 100, 69, 110, 99, 111, 100, 105, 110, 103, 46, 68, 101, 99, 111, 100, 101, 83, 116, 114, 105, 110, 103]],   -- base64.StdEncoding.DecodeString
    [],   -- (as is)
    [[115, 116, 114, 99, 111, 110, 118, 46, 80, 97, 114, 115, 101, 85, 105, 110, 116]],   -- strconv.ParseUint
    [],   -- (as is)
    [],   -- (as is)
    [[116, 101, 120, 116, 112, 114, 111, 116, 111, 46, 78, 101, 119, 82, 101, 97, 100, 101, 114], [98, 117, 102, 105, 111, 46, 78, 101, 119, 82, 101, 97, 100, 101, 114], [98, 97, 115, 101, 54, 52, 46, 78, 101, 119, 68, 101, 99, 111, 100, 101, 114], [115, 116, 114, 105, 110, 103, 115, 46, 78, 101, 119, 82, 101, 97, 100, 101, 114], [112, 114, 46, 82, 101, 97, 100, 77, 73, 77, 69, 72, 101, 97, 100, 101, 114], [104, 116, 116, 112, 46, 72, 101, 97, 100, 101, 114]]   -- textproto.NewReader ∘ bufio.NewReader ∘ base64.NewDecoder ∘ strings.NewReader ∘ pr.ReadMIMEHeader ∘ http.Header
  ]

/-- the fields of `vegeta.Result` the model, the generators and the spec reader cover -/
def modelledFieldNames : List Bytes := [
    [65, 116, 116, 97, 99, 107],   -- Attack
    [83, 101, 113],   -- Seq
    [67, 111, 100, 101],   -- Code
    [84, 105, 109, 101, 115, 116, 97, 109, 112],   -- Timestamp
    [76, 97, 116, 101, 110, 99, 121],   -- Latency
    [66, 121, 116, 101, 115, 79, 117, 116],   -- BytesOut
    [66, 121, 116, 101, 115, 73, 110],   -- BytesIn
    [69, 114, 114, 111, 114],   -- Error
    [66, 111, 100, 121],   -- Body
    [77, 101, 116, 104, 111, 100],   -- Method
    [85, 82, 76],   -- URL
    [72, 101, 97, 100, 101, 114, 115]   -- Headers
  ]

def modelledFieldTypes : List Bytes := [
    [115, 116, 114, 105, 110, 103],   -- string
    [117, 105, 110, 116, 54, 52],   -- uint64
    [117, 105, 110, 116, 49, 54],   -- uint16
    [116, 105, 109, 101, 46, 84, 105, 109, 101],   -- time.Time
    [116, 105, 109, 101, 46, 68, 117, 114, 97, 116, 105, 111, 110],   -- time.Duration
    [117, 105, 110, 116, 54, 52],   -- uint64
    [117, 105, 110, 116, 54, 52],   -- uint64
    [115, 116, 114, 105, 110, 103],   -- string
    [91, 93, 98, 121, 116, 101],   -- []byte
    [115, 116, 114, 105, 110, 103],   -- string
    [115, 116, 114, 105, 110, 103],   -- string
    [104, 116, 116, 112, 46, 72, 101, 97, 100, 101, 114]   -- http.Header
  ]

/-- **The CSV columns are exactly the twelve documented ones in the documented order**: the column
list of the usage text (encode.go) and of README.md, the encoder's column expressions and the decoder's
`rec[i]` assignments name the same fields in the same order; the reader expects 12 fields per record.
(This is the obligation that catches "two columns swapped on both sides".) -/
theorem columns_match_documentation :
    Vegeta.Extracted.docCSVColumnsUsage = docColumns ∧ Vegeta.Extracted.docCSVColumnsReadme = docColumns ∧
    Vegeta.Extracted.csvEncFields = docColumnFields ∧ Vegeta.Extracted.csvDecFields = docColumnFields ∧
    Vegeta.Extracted.csvDecIndex = [0, 1, 2, 3, 4, 5, 6, 7, 8, 9, 10, 11] ∧
    Vegeta.Extracted.csvFieldsPerRecord = 12 ∧ Vegeta.Extracted.csvTrimLeadingSpace = true := by decide +kernel

/-- **… and in the documented units**: timestamp via `UnixNano` / `time.Unix(0, ·)`, latency via
`Nanoseconds` / `time.Duration(·)`, body and headers through base64, numbers in decimal -/
theorem columns_units_match_documentation :
    Vegeta.Extracted.csvEncCalls = encoderConversions ∧ Vegeta.Extracted.csvDecCalls = decoderConversions := by decide +kernel

/-- **Every field of `Result` is modelled** (a field added later changes the regenerated list and
breaks this obligation), with the Go types the model assumes -/
theorem result_fields_all_modelled :
    Vegeta.Extracted.resultFieldNames = modelledFieldNames ∧ Vegeta.Extracted.resultFieldTypes = modelledFieldTypes := by decide +kernel

/-- **The JSON objects use exactly the documented member names**: the json struct tags, the keys the
generated encoder writes (in this order), the keys the generated decoder accepts, the names in the
model and the names the spec reader looks for are the same twelve -/
theorem json_names_match_documentation :
    Vegeta.Extracted.resultFieldTags = [nAttack, nSeq, nCode, nTimestamp, nLatency, nBytesOut, nBytesIn, nError, nBody, nMethod, nURL, nHeaders] ∧
    Vegeta.Extracted.jsonEncKeys = Vegeta.Extracted.resultFieldTags ∧
    Vegeta.Extracted.jsonDecKeys = Vegeta.Extracted.resultFieldTags ∧
    (open Vegeta.Spec.Layout in [dAttack, dSeq, dCode, dTimestamp, dLatency, dBytesOut, dBytesIn, dError, dBody, dMethod, dURL, dHeaders]) =
      Vegeta.Extracted.resultFieldTags := by decide +kernel

/-! ### non-vacuity: concrete results inside the domains -/

example : ReprCSVResult exampleResult := exampleResult_repr
example : ReprJSONResult jsonExampleResult := jsonExampleResult_repr
example : ReprHeaders exampleHeader := by unfold ReprHeaders ReprKey ReprValue exampleHeader; decide +kernel
example : ∃ out, decodeCSV (encodeCSVAll [exampleResult, exampleResult]) = (out, .eof) ∧
    equalAll out [exampleResult, exampleResult] = true :=
  csv_roundtrip _ (by intro r hr; simp at hr; subst hr; exact exampleResult_repr)
example : ∃ s, encodeJSONAll 60 [jsonExampleResult] = some s ∧ decodeJSON s = ([jsonExampleResult], .eof) :=
  json_roundtrip 60 (by decide +kernel) _ (List.forall_mem_singleton.2 jsonExampleResult_repr)

end Vegeta.Props.C07
