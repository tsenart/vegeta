/-
C06 — Each result faithfully describes its HTTP exchange (model: `Vegeta.Model.Hit`).

`hit` ends in one of three forms (`aux_hit_cases`): no request, an error from `client.Do` (in both only
the error text is set), or `aux_finish` of the `max-body` prefix of what the body delivers, with a
`DrainedAndClosed` body log; the clauses of the property are read off these forms. The third rests on
the read loop: `pump` keeps `Shape` whatever the chunk sizes and the limit (`aux_pump`), so capture and
drain together deliver everything and see the terminal event (`aux_consume`).
The redirect clauses rest on `clientDo_drop`.
-/
import Vegeta.Proofs.HitRead
import Vegeta.Proofs.HitClient
import Vegeta.Extracted.Facts
namespace Vegeta.Props.C06
open Vegeta.Go Vegeta.Model.Hit

theorem aux_natCast_ne_neg_one (m : Nat) : (m : Int) ≠ -1 :=
  fun h => absurd (h ▸ Int.natCast_nonneg m) (by decide)

/-! ### The read loop `pump` keeps `Shape` -/

/-- Invariant of a body state: the log is `reads* terminal^k`, the delivered bytes plus the
pending ones make `total`, and once a terminal event was reported nothing is pending. -/
def Shape (total : Nat) (s : BodySt) (k : Nat) : Prop :=
  ∃ ns : List Nat, s.log = ns.map Ev.read ++ List.replicate k (termEv s.fails) ∧
    ns.sum + s.data.length = total ∧ (∀ n ∈ ns, 1 ≤ n) ∧ (1 ≤ k → s.data = [])

theorem aux_shape_init {s : BodySt} (h : s.log = []) : Shape s.data.length s 0 :=
  ⟨[], h, Nat.zero_add _, fun _ hn => (List.not_mem_nil hn).elim, fun h0 => absurd h0 (Nat.not_succ_le_zero 0)⟩

theorem aux_shape_read {total : Nat} {s s' : BodySt} {n : Nat} (h : Shape total s 0) (h1 : 1 ≤ n)
    (hle : n ≤ s.data.length) (hdata : s'.data = s.data.drop n) (hlog : s'.log = s.log ++ [.read n]) :
    Shape total s' 0 := by
  obtain ⟨ns, hl, hsum, hpos, _⟩ := h
  refine ⟨ns ++ [n], ?_, ?_, ?_, fun h => absurd h (Nat.not_succ_le_zero 0)⟩
  · rw [hlog, hl]
    simp only [List.replicate_zero, List.append_nil, List.map_append, List.map_cons, List.map_nil]
  · rw [hdata, List.length_drop, List.sum_append, List.sum_singleton, Nat.add_assoc,
      Nat.add_sub_cancel' hle]
    exact hsum
  · intro x hx
    rcases List.mem_append.mp hx with hx | hx
    · exact hpos x hx
    · rw [List.mem_singleton.mp hx]; exact h1

theorem aux_shape_term {total : Nat} {s s' : BodySt} {k : Nat} (h : Shape total s k) (hd : s.data = [])
    (hdata : s'.data = []) (hlog : s'.log = s.log ++ [termEv s.fails]) (hf : s'.fails = s.fails) :
    Shape total s' (k + 1) := by
  obtain ⟨ns, hl, hsum, hpos, _⟩ := h
  refine ⟨ns, ?_, by rw [hdata, ← hd]; exact hsum, hpos, fun _ => hdata⟩
  rw [hlog, hl, hf, List.append_assoc, List.replicate_succ']

/-- how many bytes a `pump` with limit `lim` takes from `len` pending bytes -/
def takeLim (lim : Option Nat) (len : Nat) : Nat :=
  match lim with
  | none => len
  | some n => min n len

theorem aux_takeLim_of_le {lim : Option Nat} {len : Nat} (h : ∀ w, lim = some w → len ≤ w) :
    takeLim lim len = len := by
  cases lim with
  | none => rfl
  | some w => exact Nat.min_eq_right (h w rfl)

theorem aux_takeLim_sub {lim : Option Nat} {n len : Nat} (hle : n ≤ len) (hw : ∀ w, lim = some w → n ≤ w) :
    n + takeLim (lim.map (· - n)) (len - n) = takeLim lim len := by
  cases lim with
  | none => exact Nat.add_sub_cancel' hle
  | some w =>
    show n + min (w - n) (len - n) = min w len
    rw [← Nat.add_min_add_left, Nat.add_sub_cancel' (hw w rfl), Nat.add_sub_cancel' hle]

/-- The read loop from `Shape total s k`, for all chunk sizes, limits and accumulators.  Conjuncts
(`k'`: terminal events logged afterwards): 1 the bytes returned are `acc` plus the first
`takeLim lim _` pending ones; 2 the rest stays pending; 3 `Shape total` again, with `k'`; 4 `k ≤ k'`;
5, 6 `fails`, `endWithData` unchanged; 7 an error return means a failing body and `1 ≤ k'`; 8 without
a limit `1 ≤ k'`, and the loop errs exactly when the body fails. -/
theorem aux_pump (total : Nat) : ∀ (fuel : Nat) (lim : Option Nat) (s : BodySt) (acc : Bytes) (k : Nat),
    s.data.length < fuel → Shape total s k →
    ∃ k', (pump fuel lim s acc).1.1 = acc ++ s.data.take (takeLim lim s.data.length) ∧
      (pump fuel lim s acc).2.data = s.data.drop (takeLim lim s.data.length) ∧
      Shape total (pump fuel lim s acc).2 k' ∧ k ≤ k' ∧
      (pump fuel lim s acc).2.fails = s.fails ∧
      (pump fuel lim s acc).2.endWithData = s.endWithData ∧
      ((pump fuel lim s acc).1.2 = true → s.fails = true ∧ 1 ≤ k') ∧
      (lim = none → 1 ≤ k' ∧ (pump fuel lim s acc).1.2 = s.fails) := by
  intro fuel
  induction fuel with
  | zero => intro lim s acc k h; exact absurd h (Nat.not_lt_zero _)
  | succ fuel ih =>
    intro lim s acc k hf hs
    by_cases h0 : lim = some 0
    · -- the limited reader answers EOF itself
      subst h0
      rw [pump_lim_zero, show takeLim (some 0) s.data.length = 0 from Nat.zero_min _]
      exact ⟨k, (List.append_nil acc).symm, rfl, hs, Nat.le_refl k, rfl, rfl,
        fun h => Bool.noConfusion h, fun h => absurd h (Option.some_ne_none 0)⟩
    by_cases hd : s.data = []
    · -- nothing pending: the terminal event is reported (again)
      rw [pump_done h0 (read_nil s lim hd)]
      exact ⟨k + 1, by rw [hd, List.take_nil], by rw [hd, List.drop_nil], aux_shape_term hs hd hd rfl rfl,
        Nat.le_succ k, rfl, rfl,
        fun h => ⟨h, Nat.succ_pos k⟩, fun _ => ⟨Nat.succ_pos k, rfl⟩⟩
    obtain ⟨hn1, hnle, hnw⟩ := readLen_bounds s lim h0 hd
    -- bytes are pending, so no terminal event was reported yet
    obtain rfl : k = 0 := Nat.eq_zero_of_not_pos fun hpos => hs.elim fun _ h => hd (h.2.2.2 hpos)
    by_cases hlast : s.readLen lim = s.data.length ∧ s.endWithData = true
    · -- all pending bytes are delivered together with the terminal event; the limit allowed them
      rw [pump_done h0 (read_last s lim hd hlast.1 hlast.2),
        aux_takeLim_of_le fun w hw => hlast.1 ▸ hnw w hw, List.take_length, List.drop_length]
      refine ⟨1, rfl, rfl, ?_, Nat.zero_le 1, rfl, rfl, fun h => ⟨h, Nat.le_refl 1⟩,
        fun _ => ⟨Nat.le_refl 1, rfl⟩⟩
      have hmid : Shape total
          { s with data := s.data.drop (s.readLen lim), log := s.log ++ [.read (s.readLen lim)] } 0 :=
        aux_shape_read hs hn1 hnle rfl rfl
      exact aux_shape_term hmid (by rw [hlast.1]; exact List.drop_length) rfl (by simp) rfl
    · -- some bytes are delivered, the loop goes on with the rest under the reduced limit
      rw [pump_more h0 (read_part s lim hd hlast), List.length_take_of_le hnle,
        ← aux_takeLim_sub hnle hnw, List.take_add, List.drop_drop.symm]
      obtain ⟨k', h1, h2, h3, -, h5, h6, h7, h8⟩ :=
        ih (lim.map (· - s.readLen lim))
          { s with data := s.data.drop (s.readLen lim), chunks := s.chunks.tail,
                   log := s.log ++ [.read (s.readLen lim)] }
          (acc ++ s.data.take (s.readLen lim)) 0
          (by show (s.data.drop _).length < fuel
              rw [List.length_drop]
              exact Nat.lt_of_lt_of_le (Nat.sub_lt (Nat.lt_of_lt_of_le hn1 hnle) hn1) (Nat.le_of_lt_succ hf))
          (aux_shape_read hs hn1 hnle rfl rfl)
      refine ⟨k', ?_, ?_, h3, Nat.zero_le k', h5, h6, h7, fun hl => h8 (by rw [hl]; rfl)⟩
      · rw [h1, List.append_assoc, List.length_drop]
      · rw [h2, List.length_drop]

/-! ### Capture and drain: `consume` -/

/-- the bytes the response body can deliver before it ends (EOF or read error) -/
def avail (r : Resp) : Bytes :=
  match r.failAfter with
  | some k => r.body.take k
  | none => r.body

/-- the `max-body` prefix -/
def capture (maxBody : Int) (b : Bytes) : Bytes :=
  if maxBody ≥ 0 then b.take maxBody.toNat else b

theorem aux_avail_prefix (r : Resp) : avail r <+: r.body := by
  unfold avail; split
  · exact List.take_prefix _ _
  · exact List.prefix_refl _

theorem aux_capture_prefix (maxBody : Int) (b : Bytes) : capture maxBody b <+: b := by
  unfold capture; split
  · exact List.take_prefix _ _
  · exact List.prefix_refl _

theorem aux_take_takeLim (maxBody : Int) (b : Bytes) :
    b.take (takeLim (if maxBody ≥ 0 then some maxBody.toNat else none) b.length) = capture maxBody b := by
  unfold capture
  split
  · exact (List.take_eq_take_min ..).symm
  · exact List.take_length

/-- The log of a body that was read to its end and closed: reads of at least one byte each that
deliver `total` bytes, then the terminal event (`t`) reported at least once, then `Close`. -/
def DrainedAndClosed (total : Nat) (t : Ev) (log : List Ev) : Prop :=
  ∃ (ns : List Nat) (k : Nat), 1 ≤ k ∧ log = ns.map Ev.read ++ List.replicate k t ++ [Ev.close] ∧
    ns.sum = total ∧ ∀ n ∈ ns, 1 ≤ n

theorem aux_shape_closed {total : Nat} {s : BodySt} {k : Nat} (h : Shape total s k) (hk : 1 ≤ k) :
    DrainedAndClosed total (termEv s.fails) (s.log ++ [Ev.close]) := by
  obtain ⟨ns, hlog, hsum, hpos, hnil⟩ := h
  refine ⟨ns, k, hk, by rw [hlog], ?_, hpos⟩
  rw [hnil hk] at hsum
  exact hsum

theorem aux_ofResp_shape (r : Resp) (chunks : List Nat) :
    Shape (avail r).length (BodySt.ofResp r chunks) 0 ∧ (BodySt.ofResp r chunks).data = avail r ∧
    (BodySt.ofResp r chunks).fails = r.failAfter.isSome := by
  unfold BodySt.ofResp avail
  cases r.failAfter <;> exact ⟨aux_shape_init rfl, rfl, rfl⟩

/-- The end of `consume`: `failed` says whether a `Read` (in `ReadAll` or in the drain) reported the
error, `log` are the events on the body before the deferred `Close`. -/
def aux_finish (res0 : Result) (req : RequestSeen) (r : Resp) (body : Bytes) (failed : Bool) (log : List Ev) : Out :=
  { res := { res0 with
      bytesOut := if req.contentLength ≠ -1 then (wrapU64 req.contentLength).toNat else res0.bytesOut,
      body := body, bytesIn := body.length,
      code := if failed then res0.code else toUint16 r.status,
      error := if failed then r.readErr else
        if toUint16 r.status < 200 ∨ toUint16 r.status ≥ 400 then r.statusText else [],
      headers := if failed then res0.headers else some r.header },
    req := some req, obtained := true, bodyLog := log ++ [.close], stopped := false }

theorem aux_consume_eq (cfg : Cfg) (res0 : Result) (req : RequestSeen) (r : Resp) (chunks : List Nat) :
    consume cfg res0 req r chunks =
      let s0 := BodySt.ofResp r chunks
      let p1 := pump (s0.data.length + 1) (if cfg.maxBody ≥ 0 then some cfg.maxBody.toNat else none) s0 []
      let p2 := pump (s0.data.length + 1) none p1.2 []
      if p1.1.2 then aux_finish res0 req r p1.1.1 true p1.2.log else aux_finish res0 req r p1.1.1 p2.1.2 p2.2.log := by
  unfold consume
  dsimp only
  generalize pump _ _ (BodySt.ofResp r chunks) [] = p1
  obtain ⟨⟨body, e1⟩, s1⟩ := p1
  cases e1 with
  | true => rfl
  | false =>
    dsimp only
    generalize pump _ none s1 [] = p2
    obtain ⟨⟨_, e2⟩, s2⟩ := p2
    cases e2 <;> rfl

theorem aux_consume (cfg : Cfg) (res0 : Result) (req : RequestSeen) (r : Resp) (chunks : List Nat) :
    ∃ log, DrainedAndClosed (avail r).length (termEv r.failAfter.isSome) (log ++ [.close]) ∧
      consume cfg res0 req r chunks =
        aux_finish res0 req r (capture cfg.maxBody (avail r)) r.failAfter.isSome log := by
  obtain ⟨hsh0, hd0, hf0⟩ := aux_ofResp_shape r chunks
  rw [aux_consume_eq]
  dsimp only
  generalize BodySt.ofResp r chunks = s0 at *
  obtain ⟨k1, a1, a2, a3, -, a5, -, a7, -⟩ :=
    aux_pump (avail r).length (s0.data.length + 1) (if cfg.maxBody ≥ 0 then some cfg.maxBody.toNat else none)
      s0 [] 0 (Nat.lt_succ_self _) hsh0
  rw [hf0] at a5
  generalize pump (s0.data.length + 1) (if cfg.maxBody ≥ 0 then some cfg.maxBody.toNat else none) s0 [] = p1 at *
  rw [hd0, List.nil_append, aux_take_takeLim] at a1
  obtain ⟨k2, -, -, b3, -, b5, -, -, b8⟩ :=
    aux_pump (avail r).length (s0.data.length + 1) none p1.2 [] k1
      (by rw [a2, List.length_drop]; exact Nat.lt_succ_of_le (Nat.sub_le _ _)) a3
  obtain ⟨hk2, he2⟩ := b8 rfl
  generalize pump (s0.data.length + 1) none p1.2 [] = p2 at *
  cases h1 : p1.1.2 with
  | true =>
    -- `ReadAll` failed: the error was reported to it
    obtain ⟨hfl, hk1⟩ := a7 h1
    exact ⟨p1.2.log, a5 ▸ aux_shape_closed a3 hk1, by rw [a1, ← hf0, hfl]; rfl⟩
  | false => exact ⟨p2.2.log, (b5.trans a5) ▸ aux_shape_closed b3 hk2, by rw [a1, he2, a5]; rfl⟩

/-! ### The three forms in which `hit` ends -/

/-- the request `hit` hands to `client.Do`: the target's request plus the injected headers -/
def inject (cfg : Cfg) (seq : Nat) (req0 : RequestSeen) : RequestSeen :=
  { req0 with
    header := hSet (if cfg.name ≠ [] then hSet req0.header keyAttack cfg.name else req0.header) keySeq (Duration.fmtNat seq),
    transferEncoding := if cfg.chunked then req0.transferEncoding ++ [teChunked] else req0.transferEncoding }

/-- the result before anything happened: attack name, sequence number, target method and URL -/
def base (t : Target) (cfg : Cfg) (seq : Nat) : Result :=
  { (Result.zero cfg.name seq) with method := t.method, url := t.url }

def aux_unanswered (res0 : Result) (req : Option RequestSeen) (e : Bytes) : Out :=
  { res := { res0 with error := e }, req := req, obtained := false, bodyLog := [], stopped := false }

theorem aux_hit_cases (t : Target) (u : UrlInfo) (cfg : Cfg) (seq : Nat) (ex : Exchange) :
    (request t u = .error u.errText ∧ hit t u cfg seq ex = aux_unanswered (base t cfg seq) none u.errText) ∨
    request t u = .ok (built t u) ∧
      ((∃ text, clientDo cfg.redirects 1 ex.hops ex.final = .err text ∧
        hit t u cfg seq ex = aux_unanswered (base t cfg seq) (some (inject cfg seq (built t u))) text) ∨
       ∃ r log, clientDo cfg.redirects 1 ex.hops ex.final = .resp r ∧
        DrainedAndClosed (avail r).length (termEv r.failAfter.isSome) (log ++ [.close]) ∧
        hit t u cfg seq ex = aux_finish (base t cfg seq) (inject cfg seq (built t u)) r
          (capture cfg.maxBody (avail r)) r.failAfter.isSome log) := by
  unfold hit
  rcases request_cases t u with h | h
  · rw [h]; exact Or.inl ⟨rfl, rfl⟩
  · rw [h]
    refine Or.inr ⟨rfl, ?_⟩
    dsimp only
    cases clientDo cfg.redirects 1 ex.hops ex.final with
    | err text => exact Or.inl ⟨text, rfl, rfl⟩
    | resp r =>
      obtain ⟨log, hlog, he⟩ := aux_consume cfg (base t cfg seq) (inject cfg seq (built t u)) r ex.chunks
      exact Or.inr ⟨r, log, rfl, hlog, he⟩

theorem aux_hit_answered {t : Target} {u : UrlInfo} {cfg : Cfg} {ex : Exchange} {req0 : RequestSeen} {r : Resp}
    (seq : Nat) (h : request t u = .ok req0) (hd : clientDo cfg.redirects 1 ex.hops ex.final = .resp r) :
    ∃ log, DrainedAndClosed (avail r).length (termEv r.failAfter.isSome) (log ++ [.close]) ∧
      hit t u cfg seq ex = aux_finish (base t cfg seq) (inject cfg seq (built t u)) r
        (capture cfg.maxBody (avail r)) r.failAfter.isSome log := by
  rcases aux_hit_cases t u cfg seq ex with ⟨h', -⟩ | ⟨-, ⟨_, hd', -⟩ | ⟨r', log, hd', hlog, he⟩⟩
  · rw [h] at h'; cases h'
  · rw [hd] at hd'; cases hd'
  · cases hd.symm.trans hd'
    exact ⟨log, hlog, he⟩

/-! ### Completed and failed exchanges, and the error text of each -/

/-- `r` is one of the responses of the exchange -/
def Obtainable (ex : Exchange) (r : Resp) : Prop :=
  ex.final = .response r ∨ ∃ h ∈ ex.hops, h.resp = r

/-- Texts supplied by the outside world are non-empty: the `http.NewRequest` error, the
`*url.Error` of a transport failure, the status line text of every response (a real
transport always includes the three status digits) and the body read error. -/
def WF (u : UrlInfo) (ex : Exchange) : Prop :=
  u.errText ≠ [] ∧ (∀ t, ex.final = .transportErr t → t ≠ []) ∧
  (∀ r, Obtainable ex r → r.statusText ≠ [] ∧ r.readErr ≠ [])

/-- The exchange completed: the request could be built, `client.Do` returned the response `r`
and its body ended with EOF. -/
def Completed (t : Target) (u : UrlInfo) (cfg : Cfg) (ex : Exchange) (r : Resp) : Prop :=
  (∃ req0, request t u = .ok req0) ∧ clientDo cfg.redirects 1 ex.hops ex.final = .resp r ∧ r.failAfter = none

/-- The exchange failed: request construction, transport error / redirect policy, or body read error. -/
def Failed (t : Target) (u : UrlInfo) (cfg : Cfg) (ex : Exchange) : Prop :=
  (∃ e, request t u = .error e) ∨
  (∃ text, clientDo cfg.redirects 1 ex.hops ex.final = .err text) ∨
  (∃ r, clientDo cfg.redirects 1 ex.hops ex.final = .resp r ∧ r.failAfter.isSome = true)

theorem aux_do_err_ne_nil {u : UrlInfo} {cfg : Cfg} {ex : Exchange} (hwf : WF u ex) {text : Bytes}
    (hd : clientDo cfg.redirects 1 ex.hops ex.final = .err text) : text ≠ [] := by
  rcases (clientDo_sound cfg.redirects ex.final ex.hops 1).2 text hd with h | ⟨p, h⟩
  · exact hwf.2.1 text h
  · rw [h]; exact List.append_ne_nil_of_right_ne_nil p (stopText_ne_nil _)

theorem aux_do_resp_obtainable {cfg : Cfg} {ex : Exchange} {r : Resp}
    (hd : clientDo cfg.redirects 1 ex.hops ex.final = .resp r) : Obtainable ex r :=
  (clientDo_sound cfg.redirects ex.final ex.hops 1).1 r hd

/-- "an error text that is empty exactly when the exchange completed with a status in [200,400)",
under `WF u ex`: the error and status texts supplied from outside are non-empty. -/
theorem err_empty_iff_completed_2xx_3xx (t : Target) (u : UrlInfo) (cfg : Cfg) (seq : Nat) (ex : Exchange)
    (hwf : WF u ex) :
    (hit t u cfg seq ex).res.error = [] ↔
      ∃ r, Completed t u cfg ex r ∧ 200 ≤ toUint16 r.status ∧ toUint16 r.status < 400 := by
  rcases aux_hit_cases t u cfg seq ex with ⟨h, he⟩ | ⟨h, ⟨text, hd, he⟩ | ⟨r, log, hd, -, he⟩⟩
  · rw [he]
    refine ⟨fun h' => absurd h' hwf.1, ?_⟩
    rintro ⟨r, ⟨⟨req0, hr⟩, _⟩, _⟩; rw [h] at hr; cases hr
  · rw [he]
    refine ⟨fun h' => absurd h' (aux_do_err_ne_nil hwf hd), ?_⟩
    rintro ⟨r, ⟨_, hr, _⟩, _⟩; rw [hd] at hr; cases hr
  · obtain ⟨hst, hre⟩ := hwf.2.2 r (aux_do_resp_obtainable hd)
    have huniq : ∀ r', Completed t u cfg ex r' → r' = r := fun r' hc =>
      (DoResult.resp.inj (hc.2.1.symm.trans hd))
    rw [he]
    cases hfa : r.failAfter with
    | some k =>
      refine ⟨fun h' => absurd h' hre, ?_⟩
      rintro ⟨r', hc, _⟩
      rw [← huniq r' hc, hc.2.2] at hfa; cases hfa
    | none =>
      show (if toUint16 r.status < 200 ∨ toUint16 r.status ≥ 400 then r.statusText else []) = [] ↔ _
      rw [ite_eq_right_iff]
      constructor
      · intro hn
        exact ⟨r, ⟨⟨_, h⟩, hd, hfa⟩, Nat.le_of_not_lt fun h1 => hst (hn (Or.inl h1)),
          Nat.lt_of_not_le fun h2 => hst (hn (Or.inr h2))⟩
      · rintro ⟨r', hc, h1, h2⟩ hbad
        rw [huniq r' hc] at h1 h2
        exact (hbad.elim (Nat.not_lt.mpr h1) (Nat.not_le.mpr h2)).elim

/-- "an exchange that failed (transport error, redirect limit, body read error) always has a
non-empty error and never a success status", under `WF u ex`.  `Failed` also counts a request that
could not be built. -/
theorem failed_has_error_and_no_success_code (t : Target) (u : UrlInfo) (cfg : Cfg) (seq : Nat) (ex : Exchange)
    (hwf : WF u ex) (hf : Failed t u cfg ex) :
    (hit t u cfg seq ex).res.error ≠ [] ∧
    ¬ (200 ≤ (hit t u cfg seq ex).res.code ∧ (hit t u cfg seq ex).res.code < 400) := by
  -- on every failing path the code stays 0
  have hcode : ¬ (200 ≤ (base t cfg seq).code ∧ (base t cfg seq).code < 400) := fun h => Nat.not_succ_le_zero 199 h.1
  rcases aux_hit_cases t u cfg seq ex with ⟨-, he⟩ | ⟨h, ⟨text, hd, he⟩ | ⟨r, log, hd, -, he⟩⟩
  · rw [he]; exact ⟨hwf.1, hcode⟩
  · rw [he]; exact ⟨aux_do_err_ne_nil hwf hd, hcode⟩
  · have hfa : r.failAfter.isSome = true := by
      rcases hf with ⟨e, hr⟩ | ⟨text, hr⟩ | ⟨r', hr, hfa⟩
      · rw [h] at hr; cases hr
      · rw [hd] at hr; cases hr
      · rw [hd] at hr; cases hr; exact hfa
    rw [he, hfa]
    exact ⟨(hwf.2.2 r (aux_do_resp_obtainable hd)).2, hcode⟩

/-! ### What the result carries -/

/-- "the result carries the target's method and URL" (on every path), and the attack name and
sequence number it was started with -/
theorem result_carries_method_url (t : Target) (u : UrlInfo) (cfg : Cfg) (seq : Nat) (ex : Exchange) :
    (hit t u cfg seq ex).res.method = t.method ∧ (hit t u cfg seq ex).res.url = t.url ∧
    (hit t u cfg seq ex).res.attack = cfg.name ∧ (hit t u cfg seq ex).res.seq = seq := by
  rcases aux_hit_cases t u cfg seq ex with ⟨-, he⟩ | ⟨-, ⟨_, -, he⟩ | ⟨_, _, -, -, he⟩⟩
  all_goals rw [he]; exact ⟨rfl, rfl, rfl, rfl⟩

/-- "the final status code, the response headers": a completed exchange carries the status
(as `uint16`) and the header map of the response `client.Do` returned. -/
theorem completed_carries_code_and_headers (t : Target) (u : UrlInfo) (cfg : Cfg) (seq : Nat) (ex : Exchange)
    (r : Resp) (hc : Completed t u cfg ex r) :
    (hit t u cfg seq ex).res.code = toUint16 r.status ∧ (hit t u cfg seq ex).res.headers = some r.header := by
  obtain ⟨⟨req0, h⟩, hd, hn⟩ := hc
  obtain ⟨log, -, he⟩ := aux_hit_answered seq h hd
  rw [he, hn]; exact ⟨rfl, rfl⟩

/-- for statuses a server can send the conversion to `uint16` is the identity -/
theorem status_in_range_unchanged (st : Int) (h : 0 ≤ st ∧ st < 65536) : (toUint16 st : Int) = st := by
  rw [toUint16, Int.emod_eq_of_lt h.1 h.2, Int.toNat_of_nonneg h.1]

/-- "the first max-body bytes of the body (all of it when unlimited)": whenever `client.Do`
returned a response, also when reading it failed midway, the captured body is exactly the
`max-body` prefix of the bytes the body delivered. -/
theorem body_is_prefix (t : Target) (u : UrlInfo) (cfg : Cfg) (seq : Nat) (ex : Exchange) (req0 : RequestSeen) (r : Resp)
    (h : request t u = .ok req0) (hd : clientDo cfg.redirects 1 ex.hops ex.final = .resp r) :
    (hit t u cfg seq ex).res.body = capture cfg.maxBody (avail r) ∧
    (cfg.maxBody < 0 → (hit t u cfg seq ex).res.body = avail r) ∧
    (0 ≤ cfg.maxBody → (hit t u cfg seq ex).res.body = (avail r).take cfg.maxBody.toNat) ∧
    (r.failAfter = none → avail r = r.body) ∧
    (hit t u cfg seq ex).res.body <+: r.body := by
  obtain ⟨log, -, he⟩ := aux_hit_answered seq h hd
  rw [he]
  refine ⟨rfl, ?_, ?_, ?_, ?_⟩
  · intro hm; exact if_neg (Int.not_le.mpr hm)
  · intro hm; exact if_pos hm
  · intro hn; unfold avail; rw [hn]
  · exact (aux_capture_prefix _ _).trans (aux_avail_prefix r)

/-! ### Byte counts

"bytes-in equal to the captured length and bytes-out equal to the request body length", for
every response: `BytesOut` is assigned before the body is read and `BytesIn` right after
`io.ReadAll`, before the early returns on a read error (fix bc20399, DESIGN §8 #7). -/

/-- bytes-in equals the captured length on EVERY path: completed exchanges, body read errors
(in `ReadAll` or in the drain, after any number of captured bytes), and the paths without a
response (both are 0). -/
theorem bytes_in_eq_len_body (t : Target) (u : UrlInfo) (cfg : Cfg) (seq : Nat) (ex : Exchange) :
    (hit t u cfg seq ex).res.bytesIn = (hit t u cfg seq ex).res.body.length := by
  rcases aux_hit_cases t u cfg seq ex with ⟨-, he⟩ | ⟨-, ⟨_, -, he⟩ | ⟨_, _, -, -, he⟩⟩
  all_goals rw [he]; rfl

/-- bytes-out equals the request body length on every path after a response was obtained —
completed, read error, drain error (the request body is shorter than 2^64 bytes). -/
theorem bytes_out_eq_len_request_body (t : Target) (u : UrlInfo) (cfg : Cfg) (seq : Nat) (ex : Exchange)
    (req0 : RequestSeen) (r : Resp) (h : request t u = .ok req0)
    (hd : clientDo cfg.redirects 1 ex.hops ex.final = .resp r) (hlen : t.body.length < two64) :
    (hit t u cfg seq ex).res.bytesOut = t.body.length := by
  obtain ⟨log, -, he⟩ := aux_hit_answered seq h hd
  rw [he]
  show (if (t.body.length : Int) ≠ -1 then (wrapU64 (t.body.length : Int)).toNat else 0) = _
  rw [if_pos (aux_natCast_ne_neg_one _), wrapU64_id ⟨Int.natCast_nonneg _, Int.ofNat_lt.mpr hlen⟩, Int.toNat_natCast]

/-- a response whose 11-byte body fails after 5 bytes, for a POST with a 3-byte body: the input on
which both counts stayed 0 before fix bc20399 -/
def witnessTarget : Target := { method := [80, 79, 83, 84], url := [104, 116, 116, 112, 58, 47, 47, 97, 47], body := [1, 2, 3], header := [] }
def witnessUrl : UrlInfo := { ok := true, str := [104, 116, 116, 112, 58, 47, 47, 97, 47], host := [97], errText := [101] }
def witnessCfg : Cfg := { maxBody := -1, chunked := false, redirects := some 10, name := [] }
def witnessExchange : Exchange :=
  { hops := [], chunks := [4],
    final := .response { status := 200, statusText := [50, 48, 48, 32, 79, 75], header := [],
                         body := [104, 101, 108, 108, 111, 32, 119, 111, 114, 108, 100],
                         failAfter := some 5, readErr := [114, 101, 115, 101, 116], endWithData := false } }

example : (hit witnessTarget witnessUrl witnessCfg 0 witnessExchange).res.body.length = 5 ∧
    (hit witnessTarget witnessUrl witnessCfg 0 witnessExchange).res.bytesIn = 5 ∧
    (hit witnessTarget witnessUrl witnessCfg 0 witnessExchange).res.bytesOut = 3 := by decide +kernel

-- a read error that only shows in the drain (max-body 2 < failure point 5)
example : (hit witnessTarget witnessUrl { witnessCfg with maxBody := 2 } 0 witnessExchange).res.body.length = 2 ∧
    (hit witnessTarget witnessUrl { witnessCfg with maxBody := 2 } 0 witnessExchange).res.bytesIn = 2 ∧
    (hit witnessTarget witnessUrl { witnessCfg with maxBody := 2 } 0 witnessExchange).res.bytesOut = 3 ∧
    (hit witnessTarget witnessUrl { witnessCfg with maxBody := 2 } 0 witnessExchange).res.error = [114, 101, 115, 101, 116] := by decide +kernel

/-- bytes-out does not depend on the redirects followed: it is the length of the target's body
(shorter than 2^64 bytes). -/
theorem bytes_out_independent_of_redirects (t : Target) (u : UrlInfo) (cfg : Cfg) (seq seq' : Nat) (ex ex' : Exchange)
    (req0 : RequestSeen) (r r' : Resp) (h : request t u = .ok req0)
    (hd : clientDo cfg.redirects 1 ex.hops ex.final = .resp r)
    (hd' : clientDo cfg.redirects 1 ex'.hops ex'.final = .resp r') (hlen : t.body.length < two64) :
    (hit t u cfg seq ex).res.bytesOut = (hit t u cfg seq' ex').res.bytesOut := by
  rw [bytes_out_eq_len_request_body t u cfg seq ex req0 r h hd hlen,
      bytes_out_eq_len_request_body t u cfg seq' ex' req0 r' h hd' hlen]

/-! ### The request that reaches the transport -/

theorem aux_req_seen {t : Target} {u : UrlInfo} {cfg : Cfg} {seq : Nat} {ex : Exchange} {rq : RequestSeen}
    (hrq : (hit t u cfg seq ex).req = some rq) : rq = inject cfg seq (built t u) := by
  rcases aux_hit_cases t u cfg seq ex with ⟨-, he⟩ | ⟨-, ⟨_, -, he⟩ | ⟨_, _, -, -, he⟩⟩ <;> rw [he] at hrq
  · cases hrq
  · exact (Option.some.inj hrq).symm
  · exact (Option.some.inj hrq).symm

/-- "The request that reaches the transport has the target's method, URL, body and headers
with their original letter case (a Host header also sets the request host)":
whenever a request reaches the transport it has the target's method (GET for the empty
method), the URL as parsed, the target's body (no body at all when it is empty, and the
content length is its length), every header entry of the target byte for byte (key case and
all values, except entries under the two injected names), nothing else besides the two
injected entries, and the first value of the exact key `Host`, when non-empty, as host. -/
theorem request_preserves_target (t : Target) (u : UrlInfo) (cfg : Cfg) (seq : Nat) (ex : Exchange) (rq : RequestSeen)
    (hrq : (hit t u cfg seq ex).req = some rq) :
    rq.method = (if t.method.isEmpty then methodGet else t.method) ∧
    rq.url = u.str ∧
    rq.body = (if t.body.length ≠ 0 then some t.body else none) ∧
    rq.contentLength = t.body.length ∧
    rq.host = (if hGet t.header keyHost ≠ [] then hGet t.header keyHost else u.host) ∧
    (∀ e ∈ t.header, e.1 ≠ keySeq → (e.1 ≠ keyAttack ∨ cfg.name = []) → e ∈ rq.header) ∧
    (∀ e ∈ rq.header, e ∈ t.header ∨ e = (keySeq, [Duration.fmtNat seq]) ∨ (cfg.name ≠ [] ∧ e = (keyAttack, [cfg.name]))) ∧
    (∀ k, k ≠ keySeq → (k ≠ keyAttack ∨ cfg.name = []) → hLookup rq.header k = hLookup t.header k) ∧
    rq.transferEncoding = (if cfg.chunked then [teChunked] else []) := by
  have hhdr : (inject cfg seq (built t u)).header =
      hSet (if cfg.name ≠ [] then hSet t.header keyAttack cfg.name else t.header) keySeq (Duration.fmtNat seq) := rfl
  rw [aux_req_seen hrq, hhdr]
  refine ⟨rfl, rfl, rfl, rfl, rfl, ?_, ?_, ?_, rfl⟩
  · intro e he hs ha
    refine (mem_hSet _ keySeq _ e).1 ?_ hs
    by_cases hn : cfg.name ≠ []
    · rw [if_pos hn]; exact (mem_hSet _ keyAttack _ e).1 he (ha.resolve_right hn)
    · rw [if_neg hn]; exact he
  · intro e he
    rcases (mem_hSet _ keySeq _ e).2 he with h' | h'
    · by_cases hn : cfg.name ≠ []
      · rw [if_pos hn] at h'
        exact ((mem_hSet _ keyAttack _ e).2 h').imp id fun h'' => Or.inr ⟨hn, h''⟩
      · rw [if_neg hn] at h'; exact Or.inl h'
    · exact Or.inr (Or.inl h')
  · intro k hs ha
    rw [lookup_hSet, if_neg (Ne.symm hs)]
    by_cases hn : cfg.name ≠ []
    · rw [if_pos hn, lookup_hSet, if_neg (Ne.symm (ha.resolve_right hn))]
    · rw [if_neg hn]

/-- "plus the attack-name and sequence-number headers that match the result": the request
carries `X-Vegeta-Seq` with exactly the decimal rendering of the result's sequence number and,
when the attack has a name, `X-Vegeta-Attack` with exactly the result's attack name. -/
theorem request_has_attack_and_seq_headers (t : Target) (u : UrlInfo) (cfg : Cfg) (seq : Nat) (ex : Exchange) (rq : RequestSeen)
    (hrq : (hit t u cfg seq ex).req = some rq) :
    hLookup rq.header keySeq = some [Duration.fmtNat (hit t u cfg seq ex).res.seq] ∧
    ((hit t u cfg seq ex).res.attack ≠ [] → hLookup rq.header keyAttack = some [(hit t u cfg seq ex).res.attack]) := by
  obtain ⟨_, _, hat, hsq⟩ := result_carries_method_url t u cfg seq ex
  rw [hat, hsq, aux_req_seen hrq]
  refine ⟨(lookup_hSet ..).trans (if_pos rfl), fun hn => ?_⟩
  show hLookup (hSet (if cfg.name ≠ [] then _ else _) keySeq _) keyAttack = _
  rw [lookup_hSet, if_neg (by decide), if_pos hn, lookup_hSet, if_pos rfl]

/-- "headers with their original letter case": `Target.Request` copies the header map entry by
entry by plain map assignment — same keys byte for byte (no canonicalisation), same values in
the same order; the request's URL, body and length come from the target alone. -/
theorem target_request_copies_headers_verbatim (t : Target) (u : UrlInfo) (req0 : RequestSeen) (h : request t u = .ok req0) :
    req0.header = t.header ∧ req0.transferEncoding = [] ∧ req0.contentLength = t.body.length := by
  rw [request_ok h]; exact ⟨rfl, rfl, rfl⟩

/-- only the exact key `Host` sets the request host: a target without that key (it may well have
`host` or `HOST`) keeps the URL's host -/
theorem host_only_from_exact_key (t : Target) (u : UrlInfo) (req0 : RequestSeen) (h : request t u = .ok req0)
    (hk : hLookup t.header keyHost = none) : req0.host = u.host := by
  have hget : hGet t.header keyHost = [] := by unfold hGet; rw [hk]
  rw [request_ok h]
  show (if hGet t.header keyHost ≠ [] then _ else _) = _
  rw [if_neg (fun hne => hne hget)]

example : hLookup [(([104, 111, 115, 116] : Bytes), [[120]])] keyHost = none := by decide +kernel   -- "host" is not "Host"

/-- the header map handed to the transport, exactly: for an unnamed attack and a target that
does not itself use the sequence header's name, the target's entries untouched, then the one
injected entry -/
theorem request_header_exact (t : Target) (u : UrlInfo) (cfg : Cfg) (seq : Nat) (ex : Exchange) (rq : RequestSeen)
    (hrq : (hit t u cfg seq ex).req = some rq) (hname : cfg.name = []) (hk : hLookup t.header keySeq = none) :
    rq.header = t.header ++ [(keySeq, [Duration.fmtNat seq])] := by
  rw [aux_req_seen hrq]
  show hSet (if cfg.name ≠ [] then _ else t.header) keySeq (Duration.fmtNat seq) = _
  rw [if_neg (fun hne => hne hname)]
  exact hSet_absent t.header keySeq _ hk

/-! ### The events on the response body -/

/-- "The response body is always read to its end and closed, also when it is truncated by
max-body or fails midway": whenever `client.Do` returned a response — whatever the chunk
sizes, the max-body setting, and whether the stream ends with EOF or an error after k bytes —
the events on its body are: reads that deliver every byte the body has, then the terminal
event (EOF, or the error) at least once, then exactly one `Close`, nothing after it.
When no response was obtained `hit` touches no body. -/
theorem body_drained_and_closed (t : Target) (u : UrlInfo) (cfg : Cfg) (seq : Nat) (ex : Exchange) :
    (∀ req0 r, request t u = .ok req0 → clientDo cfg.redirects 1 ex.hops ex.final = .resp r →
      (hit t u cfg seq ex).obtained = true ∧
      DrainedAndClosed (avail r).length (termEv r.failAfter.isSome) (hit t u cfg seq ex).bodyLog) ∧
    ((hit t u cfg seq ex).obtained = false → (hit t u cfg seq ex).bodyLog = []) := by
  constructor
  · intro req0 r h hd
    obtain ⟨log, hlog, he⟩ := aux_hit_answered seq h hd
    rw [he]; exact ⟨rfl, hlog⟩
  · rcases aux_hit_cases t u cfg seq ex with ⟨-, he⟩ | ⟨-, ⟨_, -, he⟩ | ⟨_, _, -, -, he⟩⟩ <;> rw [he]
    · exact fun _ => rfl
    · exact fun _ => rfl
    · exact fun h => Bool.noConfusion h

/-! ### Sample exchanges -/

/-- a well-formed exchange: one redirect hop, then a 404 with a body -/
def sampleExchange : Exchange :=
  { hops := [{ resp := { status := 302, statusText := [51, 48, 50], header := [([76], [[47]])], body := [1, 2],
                         failAfter := none, readErr := [101], endWithData := true },
               stopPrefix := [71, 101, 116, 32] }],
    final := .response { status := 404, statusText := [52, 48, 52], header := [], body := [1, 2, 3, 4, 5],
                         failAfter := none, readErr := [101], endWithData := false },
    chunks := [2, 0, 7] }

example : WF witnessUrl sampleExchange := by
  refine ⟨by decide, ?_, ?_⟩
  · intro t h; cases h
  · intro r h
    rcases h with h | ⟨hp, hm, he⟩
    · injection h with h; subst h; exact ⟨by decide, by decide⟩
    · simp [sampleExchange] at hm; subst hm; subst he; exact ⟨by decide, by decide⟩

example : ∃ r, Completed witnessTarget witnessUrl witnessCfg sampleExchange r ∧ toUint16 r.status = 404 :=
  ⟨_, ⟨⟨_, rfl⟩, rfl, rfl⟩, rfl⟩

example : Failed witnessTarget witnessUrl witnessCfg witnessExchange := Or.inr (Or.inr ⟨_, rfl, rfl⟩)

example : Failed witnessTarget witnessUrl { witnessCfg with redirects := some 0 } sampleExchange :=
  Or.inr (Or.inl ⟨_, rfl⟩)

-- the witness really is a body read error after 5 captured bytes of 11, with max-body unlimited
example : (hit witnessTarget witnessUrl witnessCfg 0 witnessExchange).res.error = [114, 101, 115, 101, 116] ∧
    (hit witnessTarget witnessUrl witnessCfg 0 witnessExchange).res.code = 0 ∧
    (hit witnessTarget witnessUrl witnessCfg 0 witnessExchange).bodyLog = [.read 4, .read 1, .err, .close] := by decide +kernel

-- truncation by max-body with an error status: body captured up to the limit, rest drained, closed
example : (hit witnessTarget witnessUrl { witnessCfg with maxBody := 2 } 7 sampleExchange).res.body = [1, 2] ∧
    (hit witnessTarget witnessUrl { witnessCfg with maxBody := 2 } 7 sampleExchange).res.bytesIn = 2 ∧
    (hit witnessTarget witnessUrl { witnessCfg with maxBody := 2 } 7 sampleExchange).res.error = [52, 48, 52] ∧
    (hit witnessTarget witnessUrl { witnessCfg with maxBody := 2 } 7 sampleExchange).bodyLog =
      [.read 2, .read 1, .read 2, .eof, .close] := by decide +kernel

/-! ### Redirects -/

/-- what `client.Do` returns when no (further) redirect is in the way -/
def finalResult : Final → DoResult
  | .transportErr t => .err t
  | .response r => .resp r

theorem aux_clientDo_nil (policy : Option Int) (via : Nat) (fin : Final) :
    clientDo policy via [] fin = finalResult fin := by
  cases fin <;> rfl

theorem aux_clientDo_limit {policy : Option Int} {m : Nat} (hf : ∀ j, j < m → decision policy (j + 1) = .follow)
    (hs : decision policy (m + 1) = .stop) (hops : List Hop) (fin : Final) :
    (hops.length ≤ m → clientDo policy 1 hops fin = finalResult fin) ∧
    (∀ h, hops[m]? = some h → clientDo policy 1 hops fin = .err (h.stopPrefix ++ stopText policy)) := by
  rw [clientDo_drop policy fin hops 1 m hf]
  refine ⟨fun hl => by rw [List.drop_eq_nil_of_le hl, aux_clientDo_nil], fun h hh => ?_⟩
  obtain ⟨hlt, rfl⟩ := List.getElem?_eq_some_iff.mp hh
  rw [List.drop_eq_getElem_cons hlt, clientDo_cons, hs]

/-- `Redirects(NoFollow)`: the first redirect response is returned as the result of the
exchange: with a 3xx status and a body ending in EOF it is `Completed`, so (under `WF`) its error
text is empty by `err_empty_iff_completed_2xx_3xx`. -/
theorem redirect_nofollow_returns_first_response (h : Hop) (hs : List Hop) (fin : Final) (via : Nat) :
    clientDo (some noFollow) via (h :: hs) fin = .resp h.resp := by
  rw [clientDo_cons]; rfl

/-- `Redirects(n)`, n ≥ 0: up to n redirects are followed and the final answer of the
transport is the outcome; the (n+1)-th redirect response makes `client.Do` fail with
"stopped after n redirects" (prefixed by the client's `url.Error` text). -/
theorem redirect_limit (n : Nat) (hops : List Hop) (fin : Final) :
    (hops.length ≤ n → clientDo (some (n : Int)) 1 hops fin = clientDo (some (n : Int)) 1 [] fin) ∧
    (∀ h, hops[n]? = some h → clientDo (some (n : Int)) 1 hops fin = .err (h.stopPrefix ++ stoppedText n)) := by
  rw [aux_clientDo_nil]
  exact aux_clientDo_limit (fun _ hj => decision_follow (aux_natCast_ne_neg_one n) (Int.ofNat_le.mpr hj))
    (decision_stop (aux_natCast_ne_neg_one n) (Int.ofNat_lt.mpr (Nat.lt_succ_self n))) hops fin

/-- `Redirects(n)`, for EVERY integer `n` and every chain of redirect responses (net/http calls
`CheckRedirect` with `len(via)` = number of requests made so far, 1 at the first redirect):
* no redirect: the transport's final answer;
* `n = NoFollow` (-1): the first redirect response is the result;
* `n ≥ 0`: a chain of at most `n` redirects is followed to the final answer, a longer one fails at
  its `(n+1)`-th response with "stopped after n redirects";
* `n < -1`: the first redirect already fails (with "stopped after n redirects", n negative). -/
theorem redirect_outcome (n : Int) (hops : List Hop) (fin : Final) :
    (hops = [] → clientDo (some n) 1 hops fin = finalResult fin) ∧
    (n = noFollow → ∀ h hs, hops = h :: hs → clientDo (some n) 1 hops fin = .resp h.resp) ∧
    (0 ≤ n → (hops.length : Int) ≤ n → clientDo (some n) 1 hops fin = finalResult fin) ∧
    (0 ≤ n → ∀ h, hops[n.toNat]? = some h → clientDo (some n) 1 hops fin = .err (h.stopPrefix ++ stoppedText n)) ∧
    (n < noFollow → ∀ h hs, hops = h :: hs → clientDo (some n) 1 hops fin = .err (h.stopPrefix ++ stoppedText n)) := by
  refine ⟨?_, ?_, ?_, ?_, ?_⟩
  · intro h; subst h; exact aux_clientDo_nil _ _ _
  · intro hn h hs hh; subst hn; subst hh; exact redirect_nofollow_returns_first_response h hs fin 1
  · intro h0 hl
    obtain ⟨m, rfl⟩ := Int.eq_ofNat_of_zero_le h0
    exact ((redirect_limit m hops fin).1 (Int.ofNat_le.mp hl)).trans (aux_clientDo_nil ..)
  · intro h0
    obtain ⟨m, rfl⟩ := Int.eq_ofNat_of_zero_le h0
    exact (redirect_limit m hops fin).2
  · intro hn h hs hh; subst hh
    exact (aux_clientDo_limit (fun j hj => absurd hj (Nat.not_lt_zero j))
      (decision_stop (Int.ne_of_lt hn) (Int.lt_trans hn (by decide))) (h :: hs) fin).2 h rfl

/-- Without the `Redirects` option net/http's own policy applies, which stops when
`len(via) >= 10`: it follows only NINE redirects — one fewer than `Redirects(10)`, although both
fail with the text "stopped after 10 redirects". (The command always applies `Redirects`.) -/
theorem redirect_default_policy (hops : List Hop) (fin : Final) :
    (hops.length ≤ 9 → clientDo none 1 hops fin = finalResult fin) ∧
    (∀ h, hops[9]? = some h → clientDo none 1 hops fin = .err (h.stopPrefix ++ stoppedText 10)) :=
  aux_clientDo_limit (fun _ hj => decision_default_follow (Nat.succ_lt_succ hj)) rfl hops fin

/-- the difference in one line: a chain of exactly ten redirects -/
example (hops : List Hop) (fin : Final) (h : hops.length = 10) :
    clientDo (some 10) 1 hops fin = finalResult fin ∧ ∃ t, clientDo none 1 hops fin = .err t := by
  refine ⟨((redirect_limit 10 hops fin).1 (Nat.le_of_eq h)).trans (aux_clientDo_nil _ _ _), ?_⟩
  have hl : 9 < hops.length := h ▸ Nat.lt_succ_self 9
  exact ⟨_, (redirect_default_policy hops fin).2 hops[9] (List.getElem?_eq_getElem hl)⟩

/-- A chain of at most `n` redirects ends in the final response: when the request could be built,
with `Redirects(n)`, `n ≥ 0`, at most `n` hops and a final body ending in EOF, the exchange is
`Completed` with that response (so the theorems on completed exchanges apply). -/
theorem redirect_chain_within_limit_completes (t : Target) (u : UrlInfo) (cfg : Cfg) (ex : Exchange) (n : Int) (r : Resp)
    (req0 : RequestSeen) (hreq : request t u = .ok req0) (hcfg : cfg.redirects = some n) (h0 : 0 ≤ n)
    (hl : (ex.hops.length : Int) ≤ n) (hfin : ex.final = .response r) (hbody : r.failAfter = none) :
    Completed t u cfg ex r := by
  refine ⟨⟨req0, hreq⟩, ?_, hbody⟩
  rw [hcfg, (redirect_outcome n ex.hops ex.final).2.2.1 h0 hl, hfin]; rfl

/-- A chain of `n+1` hops fails: with `Redirects(n)`, `n ≥ 0`, a chain longer than `n` makes the
exchange `Failed` (see `failed_has_error_and_no_success_code`), and `hit` never sees a response body. -/
theorem redirect_chain_beyond_limit_fails (t : Target) (u : UrlInfo) (cfg : Cfg) (seq : Nat) (ex : Exchange) (n : Int)
    (hcfg : cfg.redirects = some n) (h0 : 0 ≤ n) (hl : n < (ex.hops.length : Int)) :
    Failed t u cfg ex ∧ ((hit t u cfg seq ex).obtained = false) := by
  obtain ⟨m, rfl⟩ := Int.eq_ofNat_of_zero_le h0
  have hdo := (redirect_limit m ex.hops ex.final).2 _ (List.getElem?_eq_getElem (Int.ofNat_lt.mp hl))
  rw [← hcfg] at hdo
  refine ⟨Or.inr (Or.inl ⟨_, hdo⟩), ?_⟩
  rcases aux_hit_cases t u cfg seq ex with ⟨-, he⟩ | ⟨-, ⟨_, -, he⟩ | ⟨_, _, hd, -, -⟩⟩
  · rw [he]; rfl
  · rw [he]; rfl
  · rw [hdo] at hd; cases hd

/-- the command's default (`-redirects` not given: `Redirects(10)` IS applied): ten redirects are
followed, the eleventh fails -/
theorem cli_default_follows_ten (f : AttackFlags) (hf : f.redirects = 10) (hops : List Hop) (fin : Final) :
    (hops.length ≤ 10 → clientDo (cmdCfg f).redirects 1 hops fin = finalResult fin) ∧
    (∀ h, hops[10]? = some h → clientDo (cmdCfg f).redirects 1 hops fin = .err (h.stopPrefix ++ stoppedText 10)) := by
  rw [show (cmdCfg f).redirects = some 10 from congrArg some hf]
  exact ⟨fun hl => ((redirect_limit 10 hops fin).1 hl).trans (aux_clientDo_nil _ _ _), (redirect_limit 10 hops fin).2⟩

example : (cmdCfg {}).redirects = some 10 ∧ (cmdCfg {}).maxBody = -1 ∧ (cmdCfg {}).name = [] := by decide +kernel

/-! ### Declared length; responses without a body -/

/-- `hit` never looks at `Response.ContentLength`: whatever length the transport declares
(unknown, exact, or — for HEAD — the length of an entity that is not sent), the outcome is the same. -/
theorem result_independent_of_declared_length (cfg : Cfg) (res0 : Result) (req : RequestSeen) (r : Resp) (chunks : List Nat) (d : Int) :
    consume cfg res0 req { r with declared := d } chunks = consume cfg res0 req r chunks := rfl

/-- The answer to a HEAD request (also 204/304): no body is delivered, and reading it does not
fail, although a length may be declared. The exchange completes: empty captured body, bytes-in 0, the response's code and
headers, error by the status alone; the body is still read to EOF and closed. -/
theorem bodyless_response_completes (cfg : Cfg) (res0 : Result) (req : RequestSeen) (r : Resp) (chunks : List Nat)
    (hb : r.body = []) (hf : r.failAfter = none) :
    let o := consume cfg res0 req r chunks
    o.res.body = [] ∧ o.res.bytesIn = 0 ∧ o.res.code = toUint16 r.status ∧ o.res.headers = some r.header ∧
    o.res.error = (if toUint16 r.status < 200 ∨ toUint16 r.status ≥ 400 then r.statusText else []) ∧
    DrainedAndClosed 0 Ev.eof o.bodyLog := by
  obtain ⟨log, hlog, he⟩ := aux_consume cfg res0 req r chunks
  have hav : avail r = [] := by rw [avail, hf, hb]
  rw [hav, hf] at hlog
  rw [he, hav, List.prefix_nil.mp (aux_capture_prefix cfg.maxBody []), hf]
  exact ⟨rfl, rfl, rfl, rfl, rfl, hlog⟩

example : (consume witnessCfg (base witnessTarget witnessCfg 0) (inject witnessCfg 0
      { method := [72, 69, 65, 68], url := [], host := [], body := none, contentLength := 0, transferEncoding := [], header := [] })
    { status := 200, statusText := [50, 48, 48], header := [], body := [], failAfter := none, readErr := [101],
      endWithData := false, declared := 1000 } []).bodyLog = [.eof, .eof, .close] := by decide +kernel

/-! ### A failing targeter; successive hits of one attack -/

/-- a failing targeter: the attack is stopped, the result carries the error, no request is made -/
theorem targeter_error_stops_attack (cfg : Cfg) (seq : Nat) (e : Bytes) :
    (hitNoTarget cfg seq e).stopped = true ∧ (hitNoTarget cfg seq e).res.error = e ∧
    (hitNoTarget cfg seq e).req = none ∧ (hitNoTarget cfg seq e).res.code = 0 := ⟨rfl, rfl, rfl, rfl⟩

/-- Calls of `hit` on one attack are independent of each other except for the sequence counter:
the i-th call (from 0) behaves exactly like a single hit with sequence number
`(start + i) mod 2^64` — result, request (incl. its `X-Vegeta-Seq`), body handling. The counter
`start` is a `uint64`: `start < 2^64`. -/
theorem hit_sequence (cfg : Cfg) : ∀ (calls : List Call) (start i : Nat) (c : Call), start < two64 → calls[i]? = some c →
    (hitMany cfg start calls)[i]? = some (callOut cfg ((start + i) % two64) c) ∧
    (hitMany cfg start calls).length = calls.length := by
  intro calls
  induction calls with
  | nil => intro start i c _ h; cases h
  | cons a r ih =>
    intro start i c hs h
    refine ⟨?_, hitMany_length cfg _ _⟩
    cases i with
    | zero =>
      cases h
      show some (callOut cfg start a) = _
      rw [Nat.add_zero, Nat.mod_eq_of_lt hs]
    | succ i =>
      -- the tail starts from `(start + 1) mod 2^64`
      have := (ih ((start + 1) % two64) i c (Nat.mod_lt _ (Nat.lt_of_le_of_lt (Nat.zero_le _) hs)) h).1
      rw [Nat.mod_add_mod, Nat.add_right_comm] at this
      exact this

/-- the sequence number wraps like the `uint64` it is -/
example : ((hitMany witnessCfg (two64 - 1) [.noTarget [101], .noTarget [101]]).map (·.res.seq)) = [two64 - 1, 0] := by decide +kernel

/-! ### facts regenerated from the source (go/ast)

The statements the model of `hit`, `Redirects`, `Target.Request` and of the command's wiring was
written from; they break (and force the model to be revisited) when that code changes shape —
e.g. when the read path starts consulting `Response.ContentLength`, or `Redirects` special-cases
a value. -/

/-- the constants and the three cases of the `CheckRedirect` closure; the option does nothing
else than remember `n` and install that closure -/
theorem facts_redirect_policy :
    Vegeta.Extracted.c06DefaultRedirects = [49, 48] ∧ Vegeta.Extracted.c06NoFollow = [45, 49] ∧
    Vegeta.Extracted.c06RedirectsOptionStmts = [ [97, 46, 114, 101, 100, 105, 114, 101, 99, 116, 115, 32, 61, 32, 110], [97, 46, 99, 108, 105, 101, 110, 116, 46, 67, 104, 101, 99, 107, 82, 101, 100, 105, 114, 101, 99, 116, 32, 61, 32, 102, 117, 110, 99] ] ∧
    Vegeta.Extracted.c06RedirectCases =
      [ [110, 32, 61, 61, 32, 78, 111, 70, 111, 108, 108, 111, 119, 32, 61, 62, 32, 114, 101, 116, 117, 114, 110, 32, 104, 116, 116, 112, 46, 69, 114, 114, 85, 115, 101, 76, 97, 115, 116, 82, 101, 115, 112, 111, 110, 115, 101],   -- n == NoFollow => return http.ErrUseLastResponse
        [110, 32, 60, 32, 108, 101, 110, 40, 118, 105, 97, 41, 32, 61, 62, 32, 114, 101, 116, 117, 114, 110, 32, 102, 109, 116, 46, 69, 114, 114, 111, 114, 102, 40, 34, 115, 116, 111, 112, 112, 101, 100, 32, 97, 102, 116, 101, 114, 32, 37, 100, 32, 114, 101, 100, 105, 114, 101, 99, 116, 115, 34, 44, 32, 110, 41],   -- n < len(via) => return fmt.Errorf("stopped after %d redirects", n)
        [100, 101, 102, 97, 117, 108, 116, 32, 61, 62, 32, 114, 101, 116, 117, 114, 110, 32, 110, 105, 108] ]   -- default => return nil
    := ⟨rfl, rfl, rfl, rfl⟩

/-- `hit` after `client.Do`: statement by statement what `consume` models, and no mention of the
response's `ContentLength` -/
theorem facts_hit_read_path :
    Vegeta.Extracted.c06HitResponseContentLengthMentions = 0 ∧
    Vegeta.Extracted.c06HitReadPath =
      [ [105, 102, 32, 101, 114, 114, 32, 33, 61, 32, 110, 105, 108, 32, 123, 32, 114, 101, 116, 117, 114, 110, 32, 38, 114, 101, 115, 32, 125],   -- if err != nil { return &res }
        [100, 101, 102, 101, 114, 32, 114, 46, 66, 111, 100, 121, 46, 67, 108, 111, 115, 101, 40, 41],   -- defer r.Body.Close()
        [98, 111, 100, 121, 32, 58, 61, 32, 105, 111, 46, 82, 101, 97, 100, 101, 114, 40, 114, 46, 66, 111, 100, 121, 41],   -- body := io.Reader(r.Body)
        [105, 102, 32, 97, 46, 109, 97, 120, 66, 111, 100, 121, 32, 62, 61, 32, 48, 32, 123, 32, 98, 111, 100, 121, 32, 61, 32, 105, 111, 46, 76, 105, 109, 105, 116, 82, 101, 97, 100, 101, 114, 40, 114, 46, 66, 111, 100, 121, 44, 32, 97, 46, 109, 97, 120, 66, 111, 100, 121, 41, 32, 125],   -- if a.maxBody >= 0 { body = io.LimitReader(r.Body, a.maxBody) }
        [105, 102, 32, 114, 101, 113, 46, 67, 111, 110, 116, 101, 110, 116, 76, 101, 110, 103, 116, 104, 32, 33, 61, 32, 45, 49, 32, 123, 32, 114, 101, 115, 46, 66, 121, 116, 101, 115, 79, 117, 116, 32, 61, 32, 117, 105, 110, 116, 54, 52, 40, 114, 101, 113, 46, 67, 111, 110, 116, 101, 110, 116, 76, 101, 110, 103, 116, 104, 41, 32, 125],   -- if req.ContentLength != -1 { res.BytesOut = uint64(req.ContentLength) }
        [114, 101, 115, 46, 66, 111, 100, 121, 44, 32, 101, 114, 114, 32, 61, 32, 105, 111, 46, 82, 101, 97, 100, 65, 108, 108, 40, 98, 111, 100, 121, 41],   -- res.Body, err = io.ReadAll(body)
        [114, 101, 115, 46, 66, 121, 116, 101, 115, 73, 110, 32, 61, 32, 117, 105, 110, 116, 54, 52, 40, 108, 101, 110, 40, 114, 101, 115, 46, 66, 111, 100, 121, 41, 41],   -- res.BytesIn = uint64(len(res.Body))
        [105, 102, 32, 101, 114, 114, 32, 33, 61, 32, 110, 105, 108, 32, 123, 32, 114, 101, 116, 117, 114, 110, 32, 38, 114, 101, 115, 32, 125, 32, 101, 108, 115, 101, 32, 105, 102, 32, 95, 44, 32, 101, 114, 114, 32, 61, 32, 105, 111, 46, 67, 111, 112, 121, 40, 105, 111, 46, 68, 105, 115, 99, 97, 114, 100, 44, 32, 114, 46, 66, 111, 100, 121, 41, 59, 32, 101, 114, 114, 32, 33, 61, 32, 110, 105, 108, 32, 123, 32, 114, 101, 116, 117, 114, 110, 32, 38, 114, 101, 115, 32, 125],   -- if err != nil { return &res } else if _, err = io.Copy(io.Discard, r.Body); err != nil { return &res }
        [105, 102, 32, 114, 101, 115, 46, 67, 111, 100, 101, 32, 61, 32, 117, 105, 110, 116, 49, 54, 40, 114, 46, 83, 116, 97, 116, 117, 115, 67, 111, 100, 101, 41, 59, 32, 114, 101, 115, 46, 67, 111, 100, 101, 32, 60, 32, 50, 48, 48, 32, 124, 124, 32, 114, 101, 115, 46, 67, 111, 100, 101, 32, 62, 61, 32, 52, 48, 48, 32, 123, 32, 114, 101, 115, 46, 69, 114, 114, 111, 114, 32, 61, 32, 114, 46, 83, 116, 97, 116, 117, 115, 32, 125],   -- if res.Code = uint16(r.StatusCode); res.Code < 200 || res.Code >= 400 { res.Error = r.Status }
        [114, 101, 115, 46, 72, 101, 97, 100, 101, 114, 115, 32, 61, 32, 114, 46, 72, 101, 97, 100, 101, 114],   -- res.Headers = r.Header
        [114, 101, 116, 117, 114, 110, 32, 38, 114, 101, 115] ]   -- return &res
    := ⟨rfl, rfl⟩

/-- `Target.Request`: nil body for an empty one, header entries copied under their own keys, the
exact key `Host` overriding the host -/
theorem facts_target_request :
    Vegeta.Extracted.c06TargetRequestStmts =
      [ [105, 102, 32, 108, 101, 110, 40, 116, 46, 66, 111, 100, 121, 41, 32, 33, 61, 32, 48, 32, 123, 32, 98, 111, 100, 121, 32, 61, 32, 98, 121, 116, 101, 115, 46, 78, 101, 119, 82, 101, 97, 100, 101, 114, 40, 116, 46, 66, 111, 100, 121, 41, 32, 125],   -- if len(t.Body) != 0 { body = bytes.NewReader(t.Body) }
        [105, 102, 32, 101, 114, 114, 32, 33, 61, 32, 110, 105, 108, 32, 123, 32, 114, 101, 116, 117, 114, 110, 32, 110, 105, 108, 44, 32, 101, 114, 114, 32, 125],   -- if err != nil { return nil, err }
        [114, 97, 110, 103, 101, 32, 116, 46, 72, 101, 97, 100, 101, 114],   -- range t.Header
        [114, 101, 113, 46, 72, 101, 97, 100, 101, 114, 91, 107, 93, 32, 61, 32, 109, 97, 107, 101, 40, 91, 93, 115, 116, 114, 105, 110, 103, 44, 32, 108, 101, 110, 40, 118, 115, 41, 41],   -- req.Header[k] = make([]string, len(vs))
        [99, 111, 112, 121, 40, 114, 101, 113, 46, 72, 101, 97, 100, 101, 114, 91, 107, 93, 44, 32, 118, 115, 41],   -- copy(req.Header[k], vs)
        [105, 102, 32, 104, 111, 115, 116, 32, 58, 61, 32, 114, 101, 113, 46, 72, 101, 97, 100, 101, 114, 46, 71, 101, 116, 40, 34, 72, 111, 115, 116, 34, 41, 59, 32, 104, 111, 115, 116, 32, 33, 61, 32, 34, 34, 32, 123, 32, 114, 101, 113, 46, 72, 111, 115, 116, 32, 61, 32, 104, 111, 115, 116, 32, 125] ]   -- if host := req.Header.Get("Host"); host != "" { req.Host = host }
    := by decide +kernel

/-- the command: `Redirects`, `MaxBody`, `ChunkedBody` are always applied with the flag values, the
attack is named by `-name`, and the flags default to 10 redirects, unlimited body, not chunked,
no name (`cmdCfg`, `AttackFlags`) -/
theorem facts_command_wiring :
    Vegeta.Extracted.c06CommandWiring =
      [ [82, 101, 100, 105, 114, 101, 99, 116, 115, 40, 111, 112, 116, 115, 46, 114, 101, 100, 105, 114, 101, 99, 116, 115, 41],   -- Redirects(opts.redirects)
        [77, 97, 120, 66, 111, 100, 121, 40, 111, 112, 116, 115, 46, 109, 97, 120, 66, 111, 100, 121, 41],   -- MaxBody(opts.maxBody)
        [67, 104, 117, 110, 107, 101, 100, 66, 111, 100, 121, 40, 111, 112, 116, 115, 46, 99, 104, 117, 110, 107, 101, 100, 41] ]   -- ChunkedBody(opts.chunked)
    ∧ Vegeta.Extracted.c06CommandAttackName = [111, 112, 116, 115, 46, 110, 97, 109, 101] ∧
    Vegeta.Extracted.c06DefaultMaxBody = [105, 110, 116, 54, 52, 40, 45, 49, 41] ∧
    Vegeta.Extracted.c06CommandFlagDefaults =
      [ [110, 97, 109, 101, 32, 38, 111, 112, 116, 115, 46, 110, 97, 109, 101, 32, 34, 34],   -- name &opts.name ""
        [99, 104, 117, 110, 107, 101, 100, 32, 38, 111, 112, 116, 115, 46, 99, 104, 117, 110, 107, 101, 100, 32, 102, 97, 108, 115, 101],   -- chunked &opts.chunked false
        [114, 101, 100, 105, 114, 101, 99, 116, 115, 32, 38, 111, 112, 116, 115, 46, 114, 101, 100, 105, 114, 101, 99, 116, 115, 32, 118, 101, 103, 101, 116, 97, 46, 68, 101, 102, 97, 117, 108, 116, 82, 101, 100, 105, 114, 101, 99, 116, 115],   -- redirects &opts.redirects vegeta.DefaultRedirects
        [109, 97, 120, 45, 98, 111, 100, 121, 32, 118, 101, 103, 101, 116, 97, 46, 68, 101, 102, 97, 117, 108, 116, 77, 97, 120, 66, 111, 100, 121] ]   -- max-body vegeta.DefaultMaxBody
    := ⟨rfl, rfl, rfl, rfl⟩

end Vegeta.Props.C06
