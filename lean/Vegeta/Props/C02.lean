/-
C02 — Every started hit yields exactly one result and the attack ends cleanly.
Theorems about every reachable state of the attack transition system (Model/Attack.lean):
all interleavings of pacer ticks, completions, consumption, Stop calls, pacer-stop decisions
and targeter errors; any initial/max worker counts; no depth bound.  Then: accepted conformance
traces, the old two-step `Stop`, a witness run, source facts, the CLI's result pump (`Model/Pump`).
-/
import Vegeta.Proofs.AttackInv
import Vegeta.Proofs.AttackLive
import Vegeta.Proofs.AttackAcceptSound
import Vegeta.Model.Pump
import Vegeta.Extracted.Facts
namespace Vegeta.Props.C02
open Vegeta.Model.Attack Vegeta.Proofs.Attack

variable {w m d : Nat} {s : St}

/-- **Sequence numbers are exactly 0..n-1**: the hits that started carry the sequence numbers
`0, 1, …, seq-1`, one each, in order of assignment. -/
theorem seq_exactly_range (h : Reachable w m d s) : s.hits.map (·.seq) = List.range s.seq :=
  (core_reachable h).seqs

/-- **At most one result per started hit, nothing for a hit that never started**: the delivered
sequence numbers contain no duplicate, and each belongs to a hit that started (`< seq`); that none
is missing at the close is `closed_only_after_all_delivered`. -/
theorem delivered_nodup_and_started (h : Reachable w m d s) :
    s.delivered.Nodup ∧ ∀ i ∈ s.delivered, i < s.seq := by
  refine ⟨(deliv_reachable h).nodup, fun i hi => ?_⟩
  obtain ⟨hh, he, _⟩ := ((deliv_reachable h).mem i).mp hi
  rw [(core_reachable h).seqlen]
  exact (List.getElem?_eq_some_iff.mp he).1

/-- **The channel is closed only after every in-flight hit has delivered its result**: once the
results channel is closed every worker has exited, no hit is pending anywhere, the ticks channel
is closed, and the delivered sequence numbers are exactly `0..seq-1` (no gap). -/
theorem closed_only_after_all_delivered (h : Reachable w m d s) (hc : s.resultsClosed = true) :
    s.exited = s.nworkers ∧ s.starting = 0 ∧ s.idle = 0 ∧ s.got = 0 ∧ s.cs = none ∧ s.ticksClosed = true ∧
    ∀ i, i < s.seq → i ∈ s.delivered := by
  have c := core_reachable h
  have haw := c.afterWait_of_closed hc
  obtain ⟨hst, hidle, hgot, hcs, hb⟩ := c.quiet haw
  refine ⟨c.ex haw, hst, hidle, hgot, ?_, ?_, fun i hi => ?_⟩
  · cases hcs' : s.cs with
    | none => rfl
    | some t => simp [csN, hcs'] at hcs
  · rw [c.tc]; cases hp : s.pc <;> rw [hp] at haw <;> first | rfl | cases haw
  · rw [c.seqlen] at hi
    exact ((deliv_reachable h).mem i).mpr ⟨s.hits[i], List.getElem?_eq_getElem hi,
      by simpa using List.countP_eq_zero.mp hb _ (List.getElem_mem hi)⟩

/-- **No send on a closed channel, no double close**: the panic state is unreachable, so the
results channel is closed at most once and no worker ever sends after the close. -/
theorem never_panics (h : Reachable w m d s) : s.panicked = false := (core_reachable h).np

/-- **No goroutine of the attack is left behind**: in a terminal state every worker goroutine
that was ever started has exited and nothing is in flight. -/
theorem terminal_all_exited (h : Reachable w m d s) (hd : s.pc = .done) :
    s.exited = s.nworkers ∧ s.starting + s.idle + s.got + csN s + busyHits s = 0 ∧
    s.resultsClosed = true ∧ s.ticksClosed = true ∧ s.stopClosed = true := by
  have c := core_reachable h
  have haw : afterWait s.pc = true := hd ▸ rfl
  have := c.quiet haw
  exact ⟨c.ex haw, by omega, c.rc_at hd, c.tc_at hd, done_stopped h hd⟩

/-- **Among all Stop calls exactly one reports that it initiated the stop** (external calls,
the calls made by workers whose targeter failed, and the attack's own deferred call alike),
whatever their interleaving. -/
theorem stop_exactly_one_true (h : Reachable w m d s) (hne : s.stopReturns ≠ []) :
    s.stopReturns.count true = 1 := by
  have dl := deliv_reachable h
  rw [dl.stop1, dl.stopc hne]; rfl

/-- The stop channel is closed exactly when some Stop call has reported that it closed it. -/
theorem stop_closed_iff_called (h : Reachable w m d s) : s.stopClosed = true ↔ s.stopReturns.count true = 1 := by
  have dl := deliv_reachable h
  rw [dl.stop1]; by_cases hc : s.stopClosed <;> simp [hc]

/-- **Once the main loop has left its loop (pacer stop, deadline, targeter failure or Stop seen)
the attack ends**: (1) until the terminal state some goroutine of the attack or the consumer
always has an enabled step; (2) every such step strictly decreases a natural-number measure, so
any run of the attack's goroutines from that point has at most `mu s` steps (clock and external
Stop steps are not in such a run; they leave `mu` alone: `env_step_keeps_mu`).  Under the sole assumption that enabled goroutines are
eventually scheduled and the caller keeps receiving, the channel is closed and `done` reached. -/
theorem closing_terminates (h : Reachable w m d s) (hcl : closing s.pc = true) :
    (s.pc ≠ .done → ∃ l s', isEnv l = false ∧ step s l = some s') ∧
    (∀ ls s', (∀ l ∈ ls, isEnv l = false) → run s ls = some s' → ls.length + mu s' ≤ mu s) :=
  ⟨fun hnd => closing_not_stuck s (core_reachable h) hcl hnd,
   fun ls s' hall hr => closing_run_bounded ls s s' h hcl hall hr⟩

/-- **A raised stop is seen at the next send**: with the stop channel closed the main loop, when
it reaches its `select`, can take the stop branch and cannot add a worker. -/
theorem stop_seen_at_send (hpc : s.pc = .trySend ∨ s.pc = .blockSend) (hst : s.stopClosed = true) :
    (∃ s', step s .seeStop = some s' ∧ s'.pc = .closeTicks) ∧ step s .spawn = none :=
  ⟨⟨_, step_iff.mpr (.seeStop hpc hst), rfl⟩, by simp [step, hst]⟩

/-! #### the conformance check composes with the theorems -/

/-- **What the controlled-schedule check establishes**: when the Lean acceptor accepts a trace
recorded on the real `Attack` (the driver answers `ok`), the initial observation and every
observation after a command equal the observable projection (`obsOf`) of some *reachable* state —
a state of which every theorem of this file, of C03, C04 and C05 holds. -/
theorem conformance_accepts_only_reachable (workers maxW : Nat) (o0 : Obs) (tr : List (Cmd × CmdObs × Obs))
    (h : acceptRun workers maxW o0 tr = none) :
    (∃ s, Reachable workers maxW 0 s ∧ obsOf s false = o0) ∧
    ∀ x ∈ tr, ∃ s sc, Reachable workers maxW 0 s ∧ obsOf s sc = x.2.2 :=
  acceptRun_explained workers maxW o0 tr h

/-- … in particular an accepted trace never shows a delivered sequence number twice (`Nodup` only). -/
theorem accepted_trace_delivers_started_hits_once (workers maxW : Nat) (o0 : Obs) (tr : List (Cmd × CmdObs × Obs))
    (h : acceptRun workers maxW o0 tr = none) : ∀ x ∈ tr, x.2.2.delivered.Nodup := by
  intro x hx
  obtain ⟨s, sc, hr, ho⟩ := (acceptRun_explained workers maxW o0 tr h).2 x hx
  rw [← ho]
  exact List.pairwise_reverse.mpr ((delivered_nodup_and_started hr).1.imp Ne.symm)

/-! #### the shape `Stop` had before the repair: check, then close — two callers can both win -/

/-- old `Stop`: `select { case <-stopch: return false; default: once.Do(close); return true }`
as its two steps; `pending` = callers that passed the `default` branch and have not returned. -/
structure OldStop where
  closed  : Bool
  pending : Nat
  returns : List Bool
  deriving DecidableEq

inductive OldLbl | check | finish

def oldStep (s : OldStop) : OldLbl → Option OldStop
  | .check => if s.closed then some { s with returns := false :: s.returns } else some { s with pending := s.pending + 1 }
  | .finish => if s.pending > 0 then some { s with pending := s.pending - 1, closed := true, returns := true :: s.returns } else none

/-- With the old two-step shape two concurrent callers both return `true`. -/
theorem stop_old_shape_counterexample :
    ((oldStep ⟨false, 0, []⟩ .check).bind (oldStep · .check) |>.bind (oldStep · .finish) |>.bind (oldStep · .finish))
      = some ⟨true, 0, [true, true]⟩ := by decide

/-! #### non-vacuity: a reachable state with two hits in flight, one blocked send and a Stop -/

def demoTrace : List Lbl :=
  [.ready, .paceWait 0, .wake, .tick, .csEnter, .csLeave, .paceWait 5, .advance 5, .wake, .spawn, .ready, .tick,
   .csEnter, .csLeave, .enter 0, .leave 0, .finish 0, .stop, .paceWait 0, .wake, .seeStop, .closeTicks,
   .deliver 0, .finish 1, .deliver 1, .exit, .exit, .wgDone, .closeResults, .finalStop]

theorem aux_run_reachable (w m d : Nat) : ∀ (ls : List Lbl) (s s' : St), Reachable w m d s → run s ls = some s' → Reachable w m d s' := by
  intro ls
  induction ls with
  | nil => intro s s' h hr; simp [run] at hr; subst hr; exact h
  | cons l ls ih =>
    intro s s' h hr
    simp only [run] at hr
    split at hr
    · rename_i s1 hs1; exact ih s1 s' (Reachable.step l h hs1) hr
    · cases hr

example : (run (init 1 2 0) demoTrace).map (fun s => (s.pc, s.delivered, s.stopReturns, s.exited, s.resultsClosed, s.panicked))
    = some (.done, [1, 0], [false, true], 2, true, false) := by decide

example : Reachable 1 2 0 ((run (init 1 2 0) (demoTrace.take 18)).getD default) ∧
    ((run (init 1 2 0) (demoTrace.take 18)).map (fun s => (inFlight s, s.stopReturns))) = some (2, [true]) := by
  refine ⟨?_, by decide⟩
  cases h : run (init 1 2 0) (demoTrace.take 18) with
  | none => exact absurd h (by decide)
  | some s' => exact aux_run_reachable 1 2 0 _ _ _ Reachable.init h

/-! #### source fact (binding): `Stop` has the shape the model's atomic `stop` step assumes -/

def bytesOf (s : String) : List Nat := s.toUTF8.toList.map (·.toNat)

/-- `Stop` is: a local flag; `once.Do(func(){ close(stopch); flag = true })`; `return flag`.
The return value is decided inside the `sync.Once` function, so callers are serialised and
exactly the closing call reports `true` — which is what `doStop` models as one step. -/
theorem facts_stop_shape : Vegeta.Extracted.stopShape =
    [[97, 115, 115, 105, 103, 110, 32, 115, 116, 111, 112, 112, 101, 100],  -- assign stopped
     [111, 110, 99, 101, 46, 68, 111, 123, 99, 97, 108, 108, 32, 99, 108, 111, 115, 101, 59, 97, 115, 115, 105, 103, 110, 32, 115, 116, 111, 112, 112, 101, 100, 125],  -- once.Do{call close;assign stopped}
     [114, 101, 116, 117, 114, 110]] := rfl  -- return

/-! #### source facts (binding): the shape of `Attack` the transition system assumes -/

/-- Both channels of an attack are unbuffered (`results unbuffered`, `ticks unbuffered`): a tick handed over is a
tick a worker holds (the model's `tick` step moves a worker from `idle` to `got` in the same step — there is no room
for a released hit other than a worker's hands), and a result delivered is a result the consumer has taken. -/
theorem facts_attack_channels : Vegeta.Extracted.attackChans =
    [[114, 101, 115, 117, 108, 116, 115, 32, 117, 110, 98, 117, 102, 102, 101, 114, 101, 100],  -- results unbuffered
     [116, 105, 99, 107, 115, 32, 117, 110, 98, 117, 102, 102, 101, 114, 101, 100]] := rfl  -- ticks unbuffered

/-- The deferred end of the main goroutine is `close(ticks); wg.Wait(); close(results); a.Stop()` in this order — the
model's `closeTicks → waitWG → closeResults → finalStop → done`. -/
theorem facts_attack_deferred : Vegeta.Extracted.attackDeferred =
    [[99, 108, 111, 115, 101, 32, 116, 105, 99, 107, 115],  -- close ticks
     [87, 97, 105, 116],  -- Wait
     [99, 108, 111, 115, 101, 32, 114, 101, 115, 117, 108, 116, 115],  -- close results
     [83, 116, 111, 112]] := rfl  -- Stop

/-- Every worker goroutine is announced to the WaitGroup by exactly one `wg.Add(1)` immediately before its
`go a.attack(…)` (`wg.Add(1) => go attack` for the initial pool, `workers++; wg.Add(1) => go attack` on demand), and
these are the only `Add` calls in `Attack`: the WaitGroup counts exactly the goroutines started — the model's
`nworkers`, which `wgDone` compares with `exited`. -/
theorem facts_attack_spawn_sites : Vegeta.Extracted.attackSpawnSites =
    [[119, 103, 46, 65, 100, 100, 40, 49, 41, 32, 61, 62, 32, 103, 111, 32, 97, 116, 116, 97, 99, 107],  -- wg.Add(1) => go attack
     [119, 111, 114, 107, 101, 114, 115, 43, 43, 59, 32, 119, 103, 46, 65, 100, 100, 40, 49, 41, 32, 61, 62, 32, 103, 111, 32, 97, 116, 116, 97, 99, 107]] ∧ Vegeta.Extracted.attackWaitGroupAdds = 2 := ⟨rfl, rfl⟩  -- workers++; wg.Add(1) => go attack

/-! #### the CLI result pump (`processAttack`, attack.go) -/

/-- Written so far: `0 … k-1` of the arrived results, all of them while still running. -/
def PumpInv (p : Vegeta.Model.Pump.St) : Prop :=
  ∃ k, p.encoded = (List.range k).reverse ∧ k ≤ p.arrived ∧ (p.ret = .running → k = p.arrived)

theorem aux_pump_step (p : Vegeta.Model.Pump.St) (ev : Vegeta.Model.Pump.Ev) (h : PumpInv p) :
    PumpInv (Vegeta.Model.Pump.step p ev) := by
  obtain ⟨k, hk, hle, hrun⟩ := h
  unfold Vegeta.Model.Pump.step
  split
  · exact ⟨k, hk, hle, hrun⟩
  · have hka : k = p.arrived := hrun (Decidable.not_not.mp ‹_›)
    split
    · exact ⟨k, hk, hle, fun _ => hka⟩
    · split
      · exact ⟨k, hk, hle, nofun⟩
      · exact ⟨k, hk, hle, fun _ => hka⟩
    · exact ⟨k, hk, hle, nofun⟩
    · split
      · exact ⟨k, hk, Nat.le_succ_of_le hle, nofun⟩
      · exact ⟨k + 1, by rw [List.range_succ, List.reverse_append, hk, hka]; rfl, Nat.succ_le_succ hle,
          fun _ => congrArg (· + 1) hka⟩

open Vegeta.Model.Pump in
/-- **The pump writes every result that arrives while it is running exactly once and in order**:
whatever the script of arrivals, signals, closes and encode failures, the written sequence
numbers are `0, 1, …, k-1` for some `k ≤` number of arrivals (newest first in the model), and
while the pump is still running nothing that arrived is missing (`k` = number of arrivals). -/
theorem pump_encodes_each_result_once_in_order (evs : List Ev) : PumpInv (runScript evs) := by
  have gen : ∀ (evs : List Ev) (p : Vegeta.Model.Pump.St), PumpInv p → PumpInv (evs.foldl Vegeta.Model.Pump.step p) := by
    intro evs
    induction evs with
    | nil => intro p h; exact h
    | cons ev evs ih => intro p h; exact ih _ (aux_pump_step p ev h)
  exact gen evs Vegeta.Model.Pump.init ⟨0, rfl, Nat.le_refl _, fun _ => rfl⟩

open Vegeta.Model.Pump in
/-- **A first signal keeps draining** (the attack is stopped, results keep being written);
**a second signal ends the pump.** -/
theorem pump_two_stage_signal :
    (runScript [.r, .s, .r, .r]).ret = .running ∧ (runScript [.r, .s, .r, .r]).encoded = [2, 1, 0] ∧
    (runScript [.r, .s, .r, .r]).stopClosed = true ∧
    (runScript [.r, .s, .s, .r]).ret = .nil ∧ (runScript [.r, .s, .s, .r]).encoded = [0] := by decide

end Vegeta.Props.C02
