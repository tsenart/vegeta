/-
C17 — The plot shows every result exactly once, whatever the arrival order.
`Downsample` keeps a short series, rejects a longer one at thresholds 1 and 2, else returns exactly
`threshold` points with the first and last (`count ≤ 2^50`); `Plot.Add` in any arrival order ends in
the same series; `Plot.data` returns a row per point, sorted by x.  End to end the store is assumed
`Lossless` and the series inside its limits (`msDomain`).  Command and attack are instances.
-/
import Vegeta.Model.LTTB
import Vegeta.Model.Plot
import Vegeta.Proofs.Downsample
import Vegeta.Proofs.PlotOrder
import Vegeta.Proofs.PlotSort
import Vegeta.Proofs.Buckets
import Vegeta.Proofs.PlotWF
import Vegeta.Extracted.Facts
import Vegeta.Props.C13
import Vegeta.Props.C02
import Vegeta.Props.C05
namespace Vegeta.Props.C17
open Vegeta.Go Vegeta.Model.LTTB Vegeta.Model.Plot
open Vegeta.Proofs.PlotOrder (Canon specSeries specPts t0 prevOf)
open Vegeta.Proofs.Downsample (fetch_nonneg downsample_unsampled length_drop loop_spec getLast_tail assemble)

/-! ### `Downsample`: unchanged, rejected, or exactly `threshold` points -/

/-- "at or below the threshold, or with threshold 0, it is unchanged": a series of exactly
`count` points comes back as it is. -/
theorem downsample_identity (count threshold : Int) (pts : List Point)
    (hlen : (pts.length : Int) = count) (h : threshold ≥ count ∨ threshold = 0) :
    downsample count threshold pts = .ok pts := by
  rw [downsample_unsampled count threshold pts (by omega) h, List.take_of_length_le (by omega)]

/-- "a longer series with a threshold of 1 or 2 is rejected", for every threshold below 3 that is
not 0 (negative ones included) and any points: the decision depends on `count` and `threshold`
only. -/
theorem downsample_rejects_below_3 (count threshold : Int) (pts : List Point)
    (hlong : count > threshold) (h0 : threshold ≠ 0) (h3 : threshold < 3) :
    downsample count threshold pts = .error eThreshold := by
  unfold downsample
  have h1 : ¬ (threshold ≥ count ∨ threshold = 0) := by omega
  rw [if_neg h1, if_pos h3]

/-- "a longer series with a threshold of 1 or 2 is rejected with an error rather than
mis-sampled" (for any points whatsoever). -/
theorem downsample_rejects_1_2 (count threshold : Int) (pts : List Point)
    (hlong : count > threshold) (h12 : threshold = 1 ∨ threshold = 2) :
    downsample count threshold pts = .error eThreshold :=
  downsample_rejects_below_3 count threshold pts hlong (by omega) (by omega)

/--
The sampled case under an explicit bucket hypothesis (no bound on `count`): for every series
`pts` of `count` points with arbitrary float values and `3 ≤ threshold < count`, if
`bucketsOK count threshold` — the decidable statement, evaluated with the same bit-exact float
arithmetic as the code, that the first fetch asks for ≥ 2 points and every bucket fetch returns
≥ 1 point — then `Downsample` neither panics nor fails and returns exactly `threshold` points
forming a subsequence of the input that starts with its first and ends with its last point.
`buckets_ok` discharges the hypothesis for every `count ≤ 2^50`; see `downsample_exact`.
-/
theorem downsample_exact_of_bucketsOK (count threshold : Int) (pts : List Point)
    (hlen : (pts.length : Int) = count) (h3 : 3 ≤ threshold) (hlt : threshold < count)
    (hok : bucketsOK count threshold = true) :
    ∃ out, downsample count threshold pts = .ok out ∧ (out.length : Int) = threshold ∧
      out.Sublist pts ∧ out.head? = pts.head? ∧ out.getLast? = pts.getLast? := by
  subst hlen
  have h1 : ¬ (threshold ≥ (pts.length : Int) ∨ threshold = 0) := by omega
  have h2 : ¬ threshold < 3 := by omega
  unfold bucketsOK at hok
  simp only [Bool.and_eq_true, decide_eq_true_eq] at hok
  obtain ⟨hf0, hloop⟩ := hok
  -- the loop makes `k` turns; the first fetch asks for `g + 2` points: the first point and a
  -- first bucket of `g + 1`
  obtain ⟨k, rfl⟩ : ∃ k : Nat, threshold = (k : Int) + 2 := ⟨(threshold - 2).toNat, by omega⟩
  have hk : ((k : Int) + 2 - 2).toNat = k := by omega
  generalize hsz : bucketSize (pts.length : Int) (↑k + 2) = size at hf0 hloop
  obtain ⟨g, hg⟩ : ∃ g : Nat, firstFetch size = ((g + 2 : Nat) : Int) :=
    ⟨(firstFetch size - 2).toNat, by omega⟩
  rw [hk, hg, ← length_drop] at hloop
  unfold downsample
  rw [if_neg h1, if_neg h2]
  simp only []
  rw [hsz, hk, hg, fetch_nonneg _ _ (Int.natCast_nonneg _), Int.toNat_natCast]
  clear h1 h2 h3 hf0 hg hk hsz
  match pts, hlt, hloop with
  | [], hlt, _ | [_], hlt, _ => simp only [List.length_cons, List.length_nil] at hlt; omega
  | p0 :: p1 :: rest, _, hloop =>
    simp only [List.drop_succ_cons] at hloop
    obtain ⟨ss, pre, cur', rem', hl, hss, hc', hsplit, hsub, hle⟩ :=
      loop_spec size k 0 p0 (p1 :: rest.take g) (rest.drop g) (List.cons_ne_nil _ _) hloop
    rw [List.cons_append, List.take_append_drop, List.append_assoc] at hsplit
    have hcnt : rem'.length + ss.length ≤ rest.length := by
      rw [hss]; exact Nat.le_trans hle (by rw [List.length_drop]; exact Nat.sub_le _ _)
    obtain ⟨l, hl'⟩ := Option.isSome_iff_exists.mp
      (List.getLast?_isSome.mpr fun h => hc' (List.append_eq_nil_iff.mp h).1)
    -- the tail fetch returns everything that is left
    have hn : 0 ≤ ((p0 :: p1 :: rest).length : Int) - ((p0 :: ss).length : Int) := by
      simp only [List.length_cons]; omega
    have htake : rem'.take (((p0 :: p1 :: rest).length : Int) - ((p0 :: ss).length : Int)).toNat = rem' :=
      List.take_of_length_le (by simp only [List.length_cons]; omega)
    refine ⟨p0 :: ss ++ [l], ?_, ?_, ?_⟩
    · simp only [List.take_succ_cons, List.drop_succ_cons, hl]
      rw [fetch_nonneg _ _ hn]
      simp only []
      rw [htake, getLast_tail, hl']
    · simp only [List.length_append, List.length_cons, List.length_nil, hss]; omega
    · rw [hsplit]; exact assemble p0 l ss pre _ hsub hl'

/-- **The bucket arithmetic never produces an empty bucket**: for every pair
`3 ≤ threshold < count ≤ 2^50`, computing `size = float64(count-2)/float64(threshold-2)`,
`int(1+size)` and `int(float64(i)*size)` in IEEE-754 binary64 (round to nearest even, as the
code does), the first fetch asks for at least 2 points, every `hi − lo` is at least 1, and at
least one point is left for every bucket fetch.  (Proof: `Vegeta.Proofs.Rounding` characterises
`int(fl(x))` as `⌊x + 2^-(K+1)⌋` with `K` the scaling exponent of `x`; consecutive products
`float64(j)·size` differ by `size ≥ 1`, and the half-unit added by the rounding is not smaller
for the larger product; `1 + size` is not rounded up to an integer and `(threshold−2)·size`
stays below `count − 1` because the quotient is within half a unit in the last place.) -/
theorem buckets_ok (count threshold : Int) (h3 : 3 ≤ threshold) (hlt : threshold < count)
    (hc : count ≤ 1125899906842624) : bucketsOK count threshold = true :=
  Vegeta.Proofs.Buckets.bucketsOK_general count threshold h3 hlt hc

/--
"A series longer than the threshold is reduced to exactly threshold points that form a
subsequence of the original and include its first and last points": for every series `pts` of
`count` points with arbitrary float values (NaN, ±Inf, equal x, … included) and every
`3 ≤ threshold < count`, `Downsample` does not panic, returns no error, and its output has
exactly `threshold` points, is a sublist of `pts`, starts with the first and ends with the last
point of `pts`.

Bound: `count ≤ 2^50 = 1 125 899 906 842 624` points (16 PiB of points; beyond that the float
quotient `size` loses the two guard bits the rounding argument uses — there
`downsample_exact_of_bucketsOK` still applies to every pair whose bucket condition holds).
-/
theorem downsample_exact (count threshold : Int) (pts : List Point)
    (hlen : (pts.length : Int) = count) (h3 : 3 ≤ threshold) (hlt : threshold < count)
    (hc : count ≤ 1125899906842624) :
    ∃ out, downsample count threshold pts = .ok out ∧ (out.length : Int) = threshold ∧
      out.Sublist pts ∧ out.head? = pts.head? ∧ out.getLast? = pts.getLast? :=
  downsample_exact_of_bucketsOK count threshold pts hlen h3 hlt (buckets_ok count threshold h3 hlt hc)

/-- no panic in any of the three cases above (`h0` is not needed: negative thresholds are rejected) -/
theorem downsample_never_panics (count threshold : Int) (pts : List Point)
    (hlen : (pts.length : Int) = count) (h0 : 0 ≤ threshold) (hc : count ≤ 1125899906842624) :
    downsample count threshold pts ≠ .panic := by
  by_cases h1 : threshold ≥ count ∨ threshold = 0
  · rw [downsample_identity count threshold pts hlen h1]
    nofun
  · by_cases h2 : threshold < 3
    · rw [downsample_rejects_1_2 count threshold pts (by omega) (by omega)]
      nofun
    · obtain ⟨out, h, _⟩ := downsample_exact count threshold pts hlen (by omega) (by omega) hc
      rw [h]
      nofun

/-! non-vacuity / cross-check of the general theorem against kernel evaluation of the floats -/
def bucketsTable (lo hi : Nat) : Bool :=
  (List.range' lo (hi - lo)).all fun c => (List.range' 3 (c - 3)).all fun t => bucketsOK (c : Int) (t : Int)

set_option maxRecDepth 100000 in
example : bucketsTable 4 10 = true := by decide +kernel
example : bucketsOK 64 33 = true := by decide +kernel
example : downsample 5 3 [⟨⟨0⟩, ⟨0⟩⟩, ⟨F64.ofNat 1, F64.ofNat 5⟩, ⟨F64.ofNat 2, F64.ofNat 1⟩, ⟨F64.ofNat 3, F64.ofNat 9⟩, ⟨F64.ofNat 4, F64.ofNat 2⟩]
    = .ok [⟨⟨0⟩, ⟨0⟩⟩, ⟨F64.ofNat 3, F64.ofNat 9⟩, ⟨F64.ofNat 4, F64.ofNat 2⟩] := by decide +kernel

/-! ### any arrival order ends in the same series -/

/-- the series of attack `a` and label `l` held by the plot -/
def seriesOf (p : Plot) (a l : Bytes) : Option TimeSeries :=
  (plotLookup p a).bind (fun ls => seriesLookup ls.series l)

/--
"For any attack's results presented in any arrival order … the plotted data contain exactly one
point per result at x = time since the attack's first request … with millisecond resolution, and
y = its latency in milliseconds, split into per-attack OK and ERROR series".

`canon a` lists the results of attack `a` in sequence order (`Canon`: sequence numbers
0, 1, 2, … and time stamps non-decreasing in the sequence number, which is property C05).
`rs` is *any* arrival order: an arbitrary interleaving of arbitrary permutations of the attacks'
results.  Then no `Add` fails or panics, and the series of attack `a` and label `l` exists iff
some result of `a` carries label `l`, and it holds exactly the points
`(ms since the time stamp of a's sequence number 0, latency in ms)` of the results of `a`
labelled `l`, one per result, in sequence order — the same value for every arrival order, in
particular the one of the in-order run (`arrival_orders_agree`).
-/
theorem arrival_order_irrelevant (canon : Bytes → List Result) (rs : List Result)
    (hc : ∀ a, Canon a (canon a))
    (hperm : ∀ a, (rs.filter (fun r => r.attack == a)).Perm (canon a)) :
    ∃ p, Plot.addAll [] rs = .ok p ∧
      ∀ a l, seriesOf p a l =
        if (∃ r ∈ canon a, r.label = l) then some (specSeries a (t0 (canon a)) (canon a) l) else none := by
  have hone := fun a => Vegeta.Proofs.PlotOrder.one_attack a (canon a) _ (hc a) (hperm a)
  obtain ⟨p, hp, hlook⟩ := Vegeta.Proofs.PlotOrder.plot_addAll_split rs []
    (fun a => (hone a).imp fun _ h => h.1)
  refine ⟨p, hp, ?_⟩
  intro a l
  obtain ⟨ls, hrun, _, _, hser⟩ := hone a
  unfold seriesOf
  rw [hlook a ls hrun]
  by_cases hex : ∃ r ∈ rs, r.attack = a
  · rw [if_pos hex]
    exact hser l
  · -- no result of `a` has arrived, so `canon a` is empty
    have hnil : canon a = [] := by
      have hp' := hperm a
      rw [List.filter_eq_nil_iff.mpr (fun x hx hxa => hex ⟨x, hx, beq_iff_eq.mp hxa⟩)] at hp'
      exact hp'.symm.eq_nil
    rw [if_neg hex, if_neg (by rw [hnil]; simp)]
    rfl

/-- Two arrival orders of the same results end in the same series (so every arrival order
agrees with the in-order run, which is one of them). -/
theorem arrival_orders_agree (canon : Bytes → List Result) (rs₁ rs₂ : List Result)
    (hc : ∀ a, Canon a (canon a))
    (h₁ : ∀ a, (rs₁.filter (fun r => r.attack == a)).Perm (canon a))
    (h₂ : ∀ a, (rs₂.filter (fun r => r.attack == a)).Perm (canon a)) :
    ∃ p₁ p₂, Plot.addAll [] rs₁ = .ok p₁ ∧ Plot.addAll [] rs₂ = .ok p₂ ∧
      ∀ a l, seriesOf p₁ a l = seriesOf p₂ a l := by
  obtain ⟨p₁, e₁, s₁⟩ := arrival_order_irrelevant canon rs₁ hc h₁
  obtain ⟨p₂, e₂, s₂⟩ := arrival_order_irrelevant canon rs₂ hc h₂
  exact ⟨p₁, p₂, e₁, e₂, fun a l => by rw [s₁, s₂]⟩

/-- "exactly one point per result", stated of `specPts` (the points `arrival_order_irrelevant` gives a
series): the `k`-th point belongs to the `k`-th result with that label. -/
theorem one_point_per_result (began : Int) (cs : List Result) (l : Bytes) :
    (specPts began cs l).length = (cs.filter (fun r => r.label == l)).length ∧
    ∀ (k : Nat) (r : Result), (cs.filter (fun r => r.label == l))[k]? = some r →
      (specPts began cs l)[k]? = some (msSince r.ts began, latencyMs r.latency) := by
  unfold specPts
  refine ⟨by simp, ?_⟩
  intro k r h
  rw [List.getElem?_map, h]; rfl

/-- "x = time since the attack's first request … with millisecond resolution": for a time stamp
not before the first request (and a difference inside the `Duration` range, 292 years) the
stored x is `⌊(t − t₀) / 1 ms⌋`. -/
theorem x_is_whole_milliseconds (began t : Int) (h0 : began ≤ t) (h1 : t - began ≤ maxInt64) :
    (msSince t began : Int) = (t - began) / 1000000 :=
  Vegeta.Proofs.PlotOrder.msSince_eq_floor began t h0 h1

/-- With `ErrorLabeler` the sort key `attack+label` determines the series: the order that
`sort.Slice` (not stable) gives the series is determined, as the model assumes. -/
theorem series_keys_unique (a₁ a₂ l₁ l₂ : Bytes)
    (h₁ : l₁ = labelOK ∨ l₁ = labelERROR) (h₂ : l₂ = labelOK ∨ l₂ = labelERROR)
    (h : a₁ ++ l₁ = a₂ ++ l₂) : a₁ = a₂ ∧ l₁ = l₂ := by
  have hlast := congrArg List.getLast? h
  rcases h₁ with h₁ | h₁ <;> rcases h₂ with h₂ | h₂ <;> subst h₁ <;> subst h₂
  · exact ⟨List.append_cancel_right h, rfl⟩
  -- "OK" and "ERROR" end in different bytes, `K` and `R`
  · simp [labelOK, labelERROR, List.getLast?_append] at hlast
  · simp [labelOK, labelERROR, List.getLast?_append] at hlast
  · exact ⟨List.append_cancel_right h, rfl⟩

/-! ### `Plot.data`: rows sorted by x, one per point of every series handed over -/

theorem aux_data_of_rows (store : Store) (p : Plot) (threshold : Int) (raw : List (List F64))
    (h : rowsFrom store threshold (allSeries p).length 0 (allSeries p) = .ok raw) :
    Plot.data store p threshold = .ok (sortBy rowLt raw, dataLabels (allSeries p)) := by
  unfold Plot.data
  simp only [h]

theorem aux_data_ok (store : Store) (p : Plot) (threshold : Int) (rows : List (List F64))
    (labels : List Bytes) (h : Plot.data store p threshold = .ok (rows, labels)) :
    ∃ raw, rowsFrom store threshold (allSeries p).length 0 (allSeries p) = .ok raw ∧
      rows = sortBy rowLt raw ∧ labels = dataLabels (allSeries p) := by
  unfold Plot.data at h
  simp only [] at h
  split at h
  · rename_i raw hraw
    cases h
    exact ⟨raw, hraw, rfl, rfl⟩
  · cases h
  · cases h

/-- "sorted by x": in the rows of `Plot.data` no later row has a smaller x than an earlier one
(for every plot state, threshold and store). -/
theorem rows_sorted_by_x (store : Store) (p : Plot) (threshold : Int) (rows : List (List F64))
    (labels : List Bytes) (h : Plot.data store p threshold = .ok (rows, labels)) :
    rows.Pairwise (fun a b => rowLt b a = false) := by
  obtain ⟨raw, _, rfl, _⟩ := aux_data_ok store p threshold rows labels h
  exact Vegeta.Proofs.PlotSort.sortBy_sorted rowLt (fun _ => Vegeta.Proofs.PlotSort.lt_irrefl _)
    (fun _ _ _ => Vegeta.Proofs.PlotSort.lt_trans _ _ _) raw

/-- the rows of the series from index `i` on: every (down-sampled) point of series `j` as a row
`[x, NaN, …, y at column j+1, …, NaN]` -/
def seriesRows (store : Store) (threshold : Int) (n : Nat) : Nat → List TimeSeries → List (List F64)
  | _, [] => []
  | i, s :: rest =>
    (match downsample (s.pts.length : Int) threshold (seriesPoints store s) with
      | .ok ps => ps.map (mkRow n i)
      | _ => []) ++ seriesRows store threshold n (i+1) rest

theorem aux_rowsFrom (store : Store) (threshold : Int) (n : Nat) :
    ∀ (ss : List TimeSeries) (i : Nat) (rows : List (List F64)),
      rowsFrom store threshold n i ss = .ok rows → rows = seriesRows store threshold n i ss := by
  intro ss
  induction ss with
  | nil => intro i rows h; simp [rowsFrom] at h; simp [seriesRows, h]
  | cons s rest ih =>
    intro i rows h
    unfold rowsFrom at h
    unfold seriesRows
    split at h
    · rename_i ps hps
      split at h
      · rename_i rs hrs
        cases h
        rw [hps, ih (i+1) rs hrs]
      all_goals cases h
    all_goals cases h

/-- The rows are exactly the (down-sampled) points of the series, one row per point, NaN-padded
— nothing is lost or duplicated by the final sort — and the labels name the series in
`attack+label` order. -/
theorem rows_are_the_series_points (store : Store) (p : Plot) (threshold : Int)
    (rows : List (List F64)) (labels : List Bytes)
    (h : Plot.data store p threshold = .ok (rows, labels)) :
    rows.Perm (seriesRows store threshold (allSeries p).length 0 (allSeries p)) ∧
    labels = dataLabels (allSeries p) := by
  obtain ⟨raw, hraw, rfl, rfl⟩ := aux_data_ok store p threshold rows labels h
  rw [← aux_rowsFrom store threshold _ _ _ _ hraw]
  exact ⟨Vegeta.Proofs.PlotSort.sortBy_perm rowLt raw, rfl⟩

/-- "split into per-attack OK and ERROR series": after successful `Add`s a series is handed to
`Plot.data` iff it is found under an attack name and a label (membership only, not multiplicity),
in non-decreasing `attack+label` order. -/
theorem series_shown_are_the_label_series (rs : List Result) (p : Plot)
    (h : Plot.addAll [] rs = .ok p) :
    (∀ s, s ∈ allSeries p ↔ ∃ a l, seriesOf p a l = some s) ∧
    (allSeries p).Pairwise (fun a b => bytesLt (seriesKey b) (seriesKey a) = false) :=
  ⟨fun s => Vegeta.Proofs.PlotWF.allSeries_mem p
      (Vegeta.Proofs.PlotWF.addAll_wf rs [] p Vegeta.Proofs.PlotWF.empty_wf h) s,
   Vegeta.Proofs.PlotWF.allSeries_sorted p⟩

theorem aux_plot_and_series (canon : Bytes → List Result) (rs : List Result)
    (hc : ∀ a, Canon a (canon a))
    (hperm : ∀ a, (rs.filter (fun r => r.attack == a)).Perm (canon a)) :
    ∃ p, Plot.addAll [] rs = .ok p ∧
      (∀ a l, seriesOf p a l =
        if (∃ r ∈ canon a, r.label = l) then some (specSeries a (t0 (canon a)) (canon a) l) else none) ∧
      (∀ s, s ∈ allSeries p ↔
        ∃ a l, (∃ r ∈ canon a, r.label = l) ∧ s = specSeries a (t0 (canon a)) (canon a) l) := by
  obtain ⟨p, hp, hser⟩ := arrival_order_irrelevant canon rs hc hperm
  obtain ⟨hmem, _⟩ := series_shown_are_the_label_series rs p hp
  refine ⟨p, hp, hser, fun s => ?_⟩
  rw [hmem s]
  refine exists_congr fun a => exists_congr fun l => ?_
  rw [hser a l, Option.ite_none_right_eq_some, Option.some.injEq, eq_comm (a := s)]

theorem aux_series_limits (canon : Bytes → List Result) (p : Plot)
    (hiff : ∀ s, s ∈ allSeries p ↔
      ∃ a l, (∃ r ∈ canon a, r.label = l) ∧ s = specSeries a (t0 (canon a)) (canon a) l)
    (hdom : ∀ a l, msDomain ((specPts (t0 (canon a)) (canon a) l).map (·.1)) = true)
    (hsize : ∀ a, ((canon a).length : Int) ≤ 1125899906842624) :
    ∀ s ∈ allSeries p, msDomain (s.pts.map (·.1)) = true ∧ (s.pts.length : Int) ≤ 1125899906842624 := by
  intro s hs
  obtain ⟨a, l, _, rfl⟩ := (hiff s).mp hs
  refine ⟨hdom a l, Int.le_trans (Int.ofNat_le.mpr ?_) (hsize a)⟩
  show (specPts (t0 (canon a)) (canon a) l).length ≤ _
  unfold specPts
  rw [List.length_map]
  exact List.length_filter_le _ _

/-- `Downsample` refuses a series of `len` points at threshold `th` -/
def rejects (th : Int) (len : Nat) : Bool := decide (th ≠ 0) && decide (th < (len : Int)) && decide (th < 3)

theorem aux_rejects_iff (th : Int) (len : Nat) :
    rejects th len = true ↔ th ≠ 0 ∧ th < (len : Int) ∧ th < 3 := by
  simp only [rejects, Bool.and_eq_true, decide_eq_true_eq, and_assoc]

/-- the rows before the final sort when no series is sampled: every point of every series -/
def allRows (store : Store) (n : Nat) : Nat → List TimeSeries → List (List F64)
  | _, [] => []
  | i, s :: rest => ((seriesPoints store s).take s.pts.length).map (mkRow n i) ++ allRows store n (i+1) rest

theorem aux_rowsFrom_below_3 (store : Store) (th : Int) (h3 : th < 3) (n : Nat) :
    ∀ (ss : List TimeSeries) (i : Nat),
      rowsFrom store th n i ss =
        if ss.any (fun s => rejects th s.pts.length) then .error eThreshold else .ok (allRows store n i ss) := by
  intro ss
  induction ss with
  | nil => intro i; rfl
  | cons s rest ih =>
    intro i
    unfold rowsFrom
    by_cases hr : rejects th s.pts.length = true
    · have hr' := (aux_rejects_iff _ _).mp hr
      rw [downsample_rejects_below_3 _ th _ hr'.2.1 hr'.1 h3, List.any_cons, hr, Bool.true_or, if_pos rfl]
    · have hid : th ≥ (s.pts.length : Int) ∨ th = 0 := by
        rw [aux_rejects_iff] at hr
        by_cases h0 : th = 0
        · exact Or.inr h0
        · exact Or.inl (Int.not_lt.mp (fun hlt => hr ⟨h0, hlt, h3⟩))
      rw [downsample_unsampled _ th _ (Int.natCast_nonneg _) hid, Int.toNat_natCast, ih (i+1),
        List.any_cons, Bool.not_eq_true _ |>.mp hr, Bool.false_or]
      simp only []
      by_cases hany : (rest.any fun s => rejects th s.pts.length) = true
      · rw [if_pos hany, if_pos hany]
      · rw [if_neg hany, if_neg hany]
        rfl

/--
**The outcome of `Plot.data` for a threshold below 3, both directions, any plot state, any store**
("a longer series with a threshold of 1 or 2 is rejected with an error rather than mis-sampled";
"at or below the threshold, or with threshold 0, it is unchanged" — thresholds 1 and 2 included):
the plot is rejected iff SOME series — whichever, first, last or in between in `attack+label`
order — is longer than a non-zero threshold; otherwise `data` succeeds with every point of every
series.  The error of any one series is the outcome of the whole call.
-/
theorem data_outcome_below_3 (store : Store) (p : Plot) (th : Int) (h3 : th < 3) :
    Plot.data store p th =
      if (allSeries p).any (fun s => rejects th s.pts.length) then .error eThreshold
      else .ok (sortBy rowLt (allRows store (allSeries p).length 0 (allSeries p)), dataLabels (allSeries p)) := by
  unfold Plot.data
  simp only []
  rw [aux_rowsFrom_below_3 store th h3]
  by_cases hany : ((allSeries p).any fun s => rejects th s.pts.length) = true
  · simp only [hany, ↓reduceIte]
  · simp only [hany, Bool.false_eq_true, ↓reduceIte]

/-- With threshold 0 (no down-sampling) `Plot.data` never fails, whatever the store returns. -/
theorem data_threshold_zero_ok (store : Store) (p : Plot) :
    ∃ rows labels, Plot.data store p 0 = .ok (rows, labels) := by
  rw [data_outcome_below_3 store p 0 (by decide), if_neg]
  · exact ⟨_, _, rfl⟩
  · simp [rejects]

/-! ### the store inside its limits; the first sentence end to end (threshold 0) -/

theorem aux_gaps_shift (bound : Nat) : ∀ (rest : List Nat) (t : Nat),
    gapsBelow bound (t + 1) (rest.map (· + 1)) = gapsBelow bound t rest := by
  intro rest
  induction rest with
  | nil => intro t; rfl
  | cons t' rest ih =>
    intro t
    simp only [List.map_cons, gapsBelow, ih, Nat.add_sub_add_right, Nat.add_le_add_iff_right]

theorem aux_tszDomain_shift (ms : List Nat) : tszDomain (ms.map (· + 1)) = msDomain ms := by
  cases ms with
  | nil => rfl
  | cons t rest =>
    simp only [List.map_cons, tszDomain, msDomain, aux_gaps_shift, Nat.zero_lt_succ, decide_true,
      Bool.true_and]

/-- Inside the store's limits the iterator hands back the pushed points: the points `Plot.data`
works on are the series' points with x converted from ms to seconds (the shift by one that keeps
stored time stamps positive cancels). -/
theorem points_of_lossless_store (store : Store) (hl : Lossless store) (s : TimeSeries)
    (hd : msDomain (s.pts.map (·.1)) = true) :
    seriesPoints store s = s.pts.map (fun (t, v) => ⟨msToSeconds t, v⟩) := by
  have hdom : tszDomain ((s.pts.map shiftUp).map (·.1)) = true := by
    rw [← hd, ← aux_tszDomain_shift, List.map_map, List.map_map]
    rfl
  unfold seriesPoints
  split
  · rename_i h
    rw [List.isEmpty_iff.mp h]
    rfl
  · rw [hl _ hdom, List.map_map]
    exact List.map_congr_left fun ⟨t, v⟩ _ => by simp [shiftUp, unshift]

/-- the rows the property asks for: every point of every series, x in seconds, NaN-padded -/
def expectedRows (n : Nat) : Nat → List TimeSeries → List (List F64)
  | _, [] => []
  | i, s :: rest =>
    s.pts.map (fun (tv : Nat × F64) => mkRow n i ⟨msToSeconds tv.1, tv.2⟩) ++ expectedRows n (i+1) rest

theorem aux_seriesRows_zero (store : Store) (hl : Lossless store) (n : Nat) :
    ∀ (ss : List TimeSeries) (i : Nat), (∀ s ∈ ss, msDomain (s.pts.map (·.1)) = true) →
      seriesRows store 0 n i ss = expectedRows n i ss := by
  intro ss
  induction ss with
  | nil => intro i _; rfl
  | cons s rest ih =>
    intro i hd
    unfold seriesRows expectedRows
    rw [ih (i+1) (fun s' hs' => hd s' (List.mem_cons_of_mem _ hs'))]
    have hp := points_of_lossless_store store hl s (hd s (by simp))
    have hlen : ((seriesPoints store s).length : Int) = (s.pts.length : Int) := by rw [hp]; simp
    rw [downsample_identity _ 0 _ hlen (Or.inr rfl), hp]
    simp only [List.map_map]
    rfl

/--
**First sentence of the property, end to end** (threshold 0; store `Lossless`, and `msDomain`:
consecutive points of one series less than 2^31 ms ≈ 24.8 days apart — a series may begin any time
after the attack did): in any arrival order `Plot.data` succeeds, its rows are sorted by x and are
a permutation of `expectedRows`, per point of every series in `allSeries p` one row
`[seconds since the attack's first request at ms resolution, NaN, …, latency in ms, …, NaN]`;
a series is in `allSeries p` iff it is the `specSeries` of an (attack, label) pair that occurs
(membership only; the order is in `series_shown_are_the_label_series`).
-/
theorem plot_shows_every_result_once (canon : Bytes → List Result) (rs : List Result)
    (hc : ∀ a, Canon a (canon a))
    (hperm : ∀ a, (rs.filter (fun r => r.attack == a)).Perm (canon a))
    (store : Store) (hl : Lossless store)
    (hdom : ∀ a l, msDomain ((specPts (t0 (canon a)) (canon a) l).map (·.1)) = true) :
    ∃ p rows labels, Plot.addAll [] rs = .ok p ∧ Plot.data store p 0 = .ok (rows, labels) ∧
      rows.Pairwise (fun a b => rowLt b a = false) ∧
      rows.Perm (expectedRows (allSeries p).length 0 (allSeries p)) ∧
      labels = dataLabels (allSeries p) ∧
      (∀ s, s ∈ allSeries p ↔
        ∃ a l, (∃ r ∈ canon a, r.label = l) ∧ s = specSeries a (t0 (canon a)) (canon a) l) := by
  obtain ⟨p, hp, _, hiff⟩ := aux_plot_and_series canon rs hc hperm
  obtain ⟨rows, labels, hdata⟩ := data_threshold_zero_ok store p
  obtain ⟨hperm', hlabels⟩ := rows_are_the_series_points store p 0 rows labels hdata
  refine ⟨p, rows, labels, hp, hdata, rows_sorted_by_x store p 0 rows labels hdata, ?_, hlabels, hiff⟩
  rw [← aux_seriesRows_zero store hl _ _ 0 ?_]
  · exact hperm'
  · intro s hs
    obtain ⟨a, l, _, hs'⟩ := (hiff s).mp hs
    rw [hs']
    exact hdom a l

/-! ### both sentences end to end -/

/-- the points of a series as `timeSeries.iter` hands them to `Downsample` -/
def toPoints (s : TimeSeries) : List Point := s.pts.map (fun (tv : Nat × F64) => ⟨msToSeconds tv.1, tv.2⟩)

/-- what the property allows `sel` to be for a series with points `pts` and threshold `th`:
all points when `th = 0` or the series is not longer than `th`; otherwise exactly `th` points
forming a sublist of `pts` that starts with its first and ends with its last point -/
def Selected (th : Int) (pts sel : List Point) : Prop :=
  if th = 0 ∨ th ≥ (pts.length : Int) then sel = pts
  else (sel.length : Int) = th ∧ sel.Sublist pts ∧ sel.head? = pts.head? ∧ sel.getLast? = pts.getLast?

/-- one selection per series, in the series' order -/
def SelectedAll (th : Int) : List TimeSeries → List (List Point) → Prop
  | [], [] => True
  | s :: ss, sel :: sels => Selected th (toPoints s) sel ∧ SelectedAll th ss sels
  | _, _ => False

/-- rows of the selections: every selected point of series `j` as a NaN-padded row -/
def rowsOfSel (n : Nat) : Nat → List (List Point) → List (List F64)
  | _, [] => []
  | i, ps :: rest => ps.map (mkRow n i) ++ rowsOfSel n (i+1) rest

theorem aux_downsample_selected (th : Int) (hth : th = 0 ∨ 3 ≤ th) (pts : List Point)
    (h50 : (pts.length : Int) ≤ 1125899906842624) :
    ∃ sel, downsample (pts.length : Int) th pts = .ok sel ∧ Selected th pts sel := by
  by_cases hid : th = 0 ∨ th ≥ (pts.length : Int)
  · simp only [Selected, if_pos hid]
    exact ⟨pts, downsample_identity _ th pts rfl hid.symm, rfl⟩
  · simp only [Selected, if_neg hid]
    exact downsample_exact _ th pts rfl (by omega) (by omega) h50

theorem aux_rows_selected (store : Store) (hl : Lossless store) (th : Int) (hth : th = 0 ∨ 3 ≤ th) (n : Nat) :
    ∀ (ss : List TimeSeries) (i : Nat),
      (∀ s ∈ ss, msDomain (s.pts.map (·.1)) = true ∧ (s.pts.length : Int) ≤ 1125899906842624) →
      ∃ sels, SelectedAll th ss sels ∧ rowsFrom store th n i ss = .ok (rowsOfSel n i sels) := by
  intro ss
  induction ss with
  | nil => intro i _; exact ⟨[], trivial, rfl⟩
  | cons s rest ih =>
    intro i hd
    obtain ⟨sels, hsel, hrows⟩ := ih (i+1) (fun s' hs' => hd s' (List.mem_cons_of_mem _ hs'))
    obtain ⟨hdom, hlen50⟩ := hd s List.mem_cons_self
    have hp : seriesPoints store s = toPoints s := points_of_lossless_store store hl s hdom
    have hlen : (toPoints s).length = s.pts.length := List.length_map _
    obtain ⟨sel, hsd, hsl⟩ := aux_downsample_selected th hth (toPoints s) (by rw [hlen]; exact hlen50)
    rw [hlen] at hsd
    refine ⟨sel :: sels, ⟨hsl, hsel⟩, ?_⟩
    unfold rowsFrom
    rw [hp, hsd, hrows]
    rfl

/-- for thresholds ≥ 3 (or 0) `Plot.data` never returns an error (store inside its limits,
series of at most 2^50 points): no series is ever rejected -/
theorem data_ok_from_3 (store : Store) (hl : Lossless store) (p : Plot) (th : Int) (hth : th = 0 ∨ 3 ≤ th)
    (hdom : ∀ s ∈ allSeries p, msDomain (s.pts.map (·.1)) = true ∧ (s.pts.length : Int) ≤ 1125899906842624) :
    ∃ rows labels, Plot.data store p th = .ok (rows, labels) := by
  obtain ⟨sels, _, hrows⟩ := aux_rows_selected store hl th hth (allSeries p).length (allSeries p) 0 hdom
  exact ⟨_, _, aux_data_of_rows store p th _ hrows⟩

/--
**Both sentences of the property, end to end, as one theorem** (store `Lossless`, series inside
its limits and of at most 2^50 points; threshold 0 or ≥ 3): in any arrival order `Plot.data`
succeeds; its rows are sorted by x and are — up to the order of rows with equal x — the NaN-padded
rows of one selection `sel` per series of `allSeries p` (membership in it as in
`plot_shows_every_result_once`), where for a series longer than
the threshold `sel` has exactly `threshold` points, is a sublist of the series' points and
contains its first and last point, and otherwise (also with threshold 0) `sel` is all points of
the series: one point per result at (seconds since the attack's first request at ms resolution,
latency in ms).
-/
theorem plot_downsampled_end_to_end (canon : Bytes → List Result) (rs : List Result)
    (hc : ∀ a, Canon a (canon a))
    (hperm : ∀ a, (rs.filter (fun r => r.attack == a)).Perm (canon a))
    (store : Store) (hl : Lossless store)
    (hdom : ∀ a l, msDomain ((specPts (t0 (canon a)) (canon a) l).map (·.1)) = true)
    (hsize : ∀ a, ((canon a).length : Int) ≤ 1125899906842624)
    (th : Int) (hth : th = 0 ∨ 3 ≤ th) :
    ∃ p rows labels sels, Plot.addAll [] rs = .ok p ∧ Plot.data store p th = .ok (rows, labels) ∧
      rows.Pairwise (fun a b => rowLt b a = false) ∧
      SelectedAll th (allSeries p) sels ∧
      rows.Perm (rowsOfSel (allSeries p).length 0 sels) ∧
      labels = dataLabels (allSeries p) ∧
      (∀ s, s ∈ allSeries p ↔
        ∃ a l, (∃ r ∈ canon a, r.label = l) ∧ s = specSeries a (t0 (canon a)) (canon a) l) := by
  obtain ⟨p, hp, _, hiff⟩ := aux_plot_and_series canon rs hc hperm
  obtain ⟨sels, hsel, hrows⟩ := aux_rows_selected store hl th hth (allSeries p).length (allSeries p) 0
    (aux_series_limits canon p hiff hdom hsize)
  have hdata := aux_data_of_rows store p th _ hrows
  refine ⟨p, _, _, sels, hp, hdata, rows_sorted_by_x store p th _ _ hdata, hsel,
    Vegeta.Proofs.PlotSort.sortBy_perm rowLt _, rfl, hiff⟩

/-! ### the `plot` command -/

open Vegeta.Model.RoundRobin in
/-- **The command's data block is `Plot.data` of the decoded records**: for well-formed result
files (any number ≥ 1, any lengths) the command decodes — through the round-robin decoder of C13 —
a list `decoded` that is a permutation of the concatenation of the files and keeps each file's own
order, adds its records in that order, and renders `Plot.data` of the resulting plot; an `Add`
error is returned as it is.  (`fuel`: bound on the number of decode calls, only a device of the
model; `hw`: the decoder's `uint64` rotation counter does not wrap.) -/
theorem plot_command_is_fold (store : Store) (th : Int) (inputs : List (List Result)) (fuel : Nat)
    (hn : 0 < inputs.length) (hfuel : inputs.flatten.length < fuel)
    (hw : 0 + inputs.length * fuel < two64) :
    ∃ decoded, decoded.Perm inputs.flatten ∧ (∀ l ∈ inputs, l.Sublist decoded) ∧
      plotCommand store th fuel (ofInputs inputs) =
        (match Plot.addAll [] decoded with
         | .ok p => Plot.data store p th
         | .error e => .error e
         | .panic => .panic) := by
  obtain ⟨out, s', hd, hperm⟩ := Vegeta.Props.C13.rr_output_perm_concat inputs 0 fuel hn hfuel hw
  obtain ⟨out2, s2, hd2, hsub⟩ := Vegeta.Props.C13.rr_each_input_sublist inputs 0 fuel hn hfuel hw
  rw [hd] at hd2
  have e : out2 = out := by cases hd2; rfl
  subst e
  refine ⟨out2.map (·.2), hperm, hsub, ?_⟩
  unfold plotCommand
  have hi : RR.init (ofInputs inputs) = ⟨ofInputs inputs, 0⟩ := rfl
  rw [hi, hd]
  simp only [↓reduceIte]
  cases Plot.addAll [] (out2.map (·.2)) <;> rfl

open Vegeta.Model.RoundRobin in
/-- **Several files**: however the results are split over files and ordered inside them — provided
the union holds every attack's records completely — the command succeeds with the conclusions of
`plot_downsampled_end_to_end` for some plot `p` (that `p` is the plot of the decoded records:
`plot_command_is_fold`). -/
theorem plot_files_equal_union (canon : Bytes → List Result) (inputs : List (List Result)) (fuel : Nat)
    (hn : 0 < inputs.length) (hfuel : inputs.flatten.length < fuel)
    (hw : 0 + inputs.length * fuel < two64)
    (hc : ∀ a, Canon a (canon a))
    (hunion : ∀ a, (inputs.flatten.filter (fun r => r.attack == a)).Perm (canon a))
    (store : Store) (hl : Lossless store)
    (hdom : ∀ a l, msDomain ((specPts (t0 (canon a)) (canon a) l).map (·.1)) = true)
    (hsize : ∀ a, ((canon a).length : Int) ≤ 1125899906842624)
    (th : Int) (hth : th = 0 ∨ 3 ≤ th) :
    ∃ p rows labels sels, plotCommand store th fuel (ofInputs inputs) = .ok (rows, labels) ∧
      rows.Pairwise (fun a b => rowLt b a = false) ∧
      SelectedAll th (allSeries p) sels ∧
      rows.Perm (rowsOfSel (allSeries p).length 0 sels) ∧
      labels = dataLabels (allSeries p) ∧
      (∀ s, s ∈ allSeries p ↔
        ∃ a l, (∃ r ∈ canon a, r.label = l) ∧ s = specSeries a (t0 (canon a)) (canon a) l) := by
  obtain ⟨decoded, hperm, _, hcmd⟩ := plot_command_is_fold store th inputs fuel hn hfuel hw
  obtain ⟨p, rows, labels, sels, hp, hdata, h1, h2, h3, h4, h5⟩ :=
    plot_downsampled_end_to_end canon decoded hc
      (fun a => (hperm.filter _).trans (hunion a)) store hl hdom hsize th hth
  refine ⟨p, rows, labels, sels, ?_, h1, h2, h3, h4, h5⟩
  rw [hcmd, hp]
  exact hdata

/-! ### the results an attack delivers -/

abbrev AHit := Vegeta.Model.Attack.Hit
abbrev ASt := Vegeta.Model.Attack.St
abbrev AReachable := Vegeta.Model.Attack.Reachable

/-- The result the attack delivers for a hit, as the plot sees it: attack name `name`, the hit's
sequence number, `Timestamp = began + ts`, `Latency = fin − ts` (the deferred measurement), and a
label that is free (`lbl seq`: whether the hit ended in an error is not decided by the attack's
transition system). -/
def hitResult (name : Bytes) (began : Int) (lbl : Nat → Bytes) (h : AHit) : Result :=
  { attack := name, seq := h.seq, ts := began + (h.ts : Int),
    latency := ((h.fin.getD h.ts : Nat) : Int) - (h.ts : Int), label := lbl h.seq }

/-- the results of all started hits, in sequence order -/
def attackResults (name : Bytes) (began : Int) (lbl : Nat → Bytes) (s : ASt) : List Result :=
  s.hits.map (hitResult name began lbl)

/-- the results the consumer has received, in delivery order (oldest first) -/
def deliveredResults (name : Bytes) (began : Int) (lbl : Nat → Bytes) (s : ASt) : List Result :=
  s.delivered.reverse.map (fun i => hitResult name began lbl (s.hits[i]?.getD default))

/-- the family of in-order result lists of a plot fed by one attack -/
def aux_attackCanon (name : Bytes) (cs : List Result) (a : Bytes) : List Result := if a = name then cs else []

theorem aux_attackCanon_cases {P : Bytes → List Result → Prop} (name : Bytes) (cs : List Result)
    (hcs : P name cs) (hnil : ∀ a, P a []) (a : Bytes) : P a (aux_attackCanon name cs a) := by
  unfold aux_attackCanon
  split
  · rename_i e; exact e ▸ hcs
  · exact hnil a

theorem aux_filter_attack (rs : List Result) (name : Bytes) (h : ∀ r ∈ rs, r.attack = name) (a : Bytes) :
    rs.filter (fun r => r.attack == a) = if a = name then rs else [] := by
  split
  · rename_i e
    exact List.filter_eq_self.mpr (fun r hr => by rw [h r hr, e]; exact beq_self_eq_true _)
  · rename_i e
    exact List.filter_eq_nil_iff.mpr (fun r hr hra => e ((beq_iff_eq.mp hra).symm.trans (h r hr)))

theorem aux_attackResults_get (name : Bytes) (began : Int) (lbl : Nat → Bytes) (s : ASt) (i : Nat)
    (r : Result) (hr : (attackResults name began lbl s)[i]? = some r) :
    ∃ hh, s.hits[i]? = some hh ∧ hitResult name began lbl hh = r := by
  unfold attackResults at hr
  rw [List.getElem?_map] at hr
  exact Option.map_eq_some_iff.mp hr

/-- **The results of any reachable attack state are in the plot theorem's domain** (C02: the
`i`-th started hit has sequence number `i`; C05: time stamps do not decrease with the sequence
number) — any number of workers, any interleaving. -/
theorem attack_results_canon {w m d : Nat} {s : ASt} (h : AReachable w m d s)
    (name : Bytes) (began : Int) (lbl : Nat → Bytes) : Canon name (attackResults name began lbl s) := by
  refine ⟨?_, ?_, ?_⟩
  · intro r hr
    obtain ⟨hh, _, rfl⟩ := List.mem_map.mp hr
    rfl
  · intro i r hr
    obtain ⟨hh, hi, rfl⟩ := aux_attackResults_get name began lbl s i r hr
    exact Vegeta.Props.C05.index_is_seq h i hh hi
  · intro i j r r' hij hr hr'
    obtain ⟨hh, hi, rfl⟩ := aux_attackResults_get name began lbl s i r hr
    obtain ⟨hh', hj, rfl⟩ := aux_attackResults_get name began lbl s j r' hr'
    show began + (hh.ts : Int) ≤ began + (hh'.ts : Int)
    rcases Nat.lt_or_eq_of_le hij with hlt | rfl
    · have := Vegeta.Props.C05.seq_lt_imp_ts_le h i j hh hh' hlt hi hj
      omega
    · rw [hi] at hj
      cases hj
      exact Int.le_refl _

theorem aux_map_range_getD {β} (hs : List AHit) (f : AHit → β) :
    (List.range hs.length).map (fun i => f (hs[i]?.getD default)) = hs.map f := by
  apply List.ext_getElem (by simp)
  intro i h1 h2
  rw [List.getElem_map, List.getElem_map, List.getElem_range,
    List.getElem?_eq_getElem (by simpa using h2), Option.getD_some]

/-- **Once the results channel is closed** (`s.resultsClosed`, in particular in the terminal state
`pc = done`) **the results the consumer received are exactly the results of all started hits**,
each once (C02 `closed_only_after_all_delivered`, `delivered_nodup_and_started`): the delivery
order is a permutation of the sequence order. -/
theorem delivered_is_perm_of_all {w m d : Nat} {s : ASt} (h : AReachable w m d s)
    (hclosed : s.resultsClosed = true) (name : Bytes) (began : Int) (lbl : Nat → Bytes) :
    (deliveredResults name began lbl s).Perm (attackResults name began lbl s) := by
  obtain ⟨hnd, hlt⟩ := Vegeta.Props.C02.delivered_nodup_and_started h
  obtain ⟨_, _, _, _, _, _, hall⟩ := Vegeta.Props.C02.closed_only_after_all_delivered h hclosed
  have hlen : s.seq = s.hits.length := (Vegeta.Proofs.Attack.core_reachable h).seqlen
  have hp : s.delivered.reverse.Perm (List.range s.hits.length) := by
    refine (List.perm_ext_iff_of_nodup ((List.reverse_perm _).nodup_iff.mpr hnd) List.nodup_range).mpr fun i => ?_
    rw [List.mem_reverse, List.mem_range, ← hlen]
    exact ⟨hlt i, hall i⟩
  unfold deliveredResults attackResults
  rw [← aux_map_range_getD s.hits (hitResult name began lbl)]
  exact hp.map _

/--
**The plot of any attack** (composition of C02, C05 and C17).  Take any reachable state `s` of the
attack's transition system — any initial and maximal worker counts, any duration, any interleaving
of pacer, workers, consumer, `Stop` calls and clock — and present the results of all its started
hits to the plot in ANY arrival order `rs` (a permutation of the sequence order).  Once the results
channel has been closed (`s.resultsClosed = true`; this covers the terminal state `pc = done`) the
attack's own delivery order is such an `rs`, by `delivered_is_perm_of_all`; the theorem itself does
not ask for the channel to be closed.  Then, with no further hypothesis on the results, the
conclusions of `plot_downsampled_end_to_end` hold for `rs`.  The remaining
hypotheses concern only the store (`Lossless`, consecutive points of a series < 2^31 ms apart)
and the size bound of `downsample_exact`.  For states in which hits are still in flight see
`plot_of_attack_in_progress`.
-/
theorem plot_of_any_attack {w m d : Nat} {s : ASt} (h : AReachable w m d s)
    (name : Bytes) (began : Int) (lbl : Nat → Bytes) (rs : List Result)
    (hrs : rs.Perm (attackResults name began lbl s))
    (store : Store) (hl : Lossless store)
    (hdom : ∀ l, msDomain ((specPts (t0 (attackResults name began lbl s)) (attackResults name began lbl s) l).map (·.1)) = true)
    (hsize : (s.hits.length : Int) ≤ 1125899906842624)
    (th : Int) (hth : th = 0 ∨ 3 ≤ th) :
    ∃ p rows labels sels, Plot.addAll [] rs = .ok p ∧ Plot.data store p th = .ok (rows, labels) ∧
      rows.Pairwise (fun a b => rowLt b a = false) ∧
      SelectedAll th (allSeries p) sels ∧
      rows.Perm (rowsOfSel (allSeries p).length 0 sels) ∧
      labels = dataLabels (allSeries p) ∧
      (∀ sr, sr ∈ allSeries p ↔
        ∃ l, (∃ r ∈ attackResults name began lbl s, r.label = l) ∧
          sr = specSeries name (t0 (attackResults name began lbl s)) (attackResults name began lbl s) l) := by
  have hcan := attack_results_canon h name began lbl
  generalize hcs : attackResults name began lbl s = cs at *
  have hattack : ∀ r ∈ rs, r.attack = name := fun r hr => hcan.attack r (hrs.mem_iff.mp hr)
  obtain ⟨p, rows, labels, sels, h1, h2, h3, h4, h5, h6, h7⟩ :=
    plot_downsampled_end_to_end (aux_attackCanon name cs) rs
      (aux_attackCanon_cases (P := Canon) name cs hcan Vegeta.Proofs.PlotOrder.canon_nil)
      (by intro a; rw [aux_filter_attack rs name hattack a]; unfold aux_attackCanon; split
          · exact hrs
          · exact List.Perm.refl _)
      store hl
      (fun a l => aux_attackCanon_cases (P := fun _ cs' => msDomain ((specPts (t0 cs') cs' l).map (·.1)) = true)
        name cs (hdom l) (fun _ => rfl) a)
      (aux_attackCanon_cases (P := fun _ cs' => ((cs'.length : Nat) : Int) ≤ 1125899906842624) name cs
        (by rw [← hcs]; simp only [attackResults, List.length_map]; exact hsize) (fun _ => by simp))
      th hth
  refine ⟨p, rows, labels, sels, h1, h2, h3, h4, h5, h6, ?_⟩
  intro sr
  rw [h7 sr]
  constructor
  · rintro ⟨a, l, hex, hs⟩
    unfold aux_attackCanon at hex hs
    by_cases e : a = name
    · simp only [e, ↓reduceIte] at hex hs; exact ⟨l, hex, hs⟩
    · simp only [e, ↓reduceIte] at hex; obtain ⟨r, hr, _⟩ := hex; simp at hr
  · rintro ⟨l, hex, hs⟩
    refine ⟨name, l, ?_, ?_⟩ <;> simp only [aux_attackCanon, ↓reduceIte]
    · exact hex
    · exact hs

theorem aux_delivered_hit {w m d : Nat} {s : ASt} (h : AReachable w m d s) (i : Nat) (hi : i ∈ s.delivered)
    (name : Bytes) (began : Int) (lbl : Nat → Bytes) :
    ∃ hh, s.hits[i]? = some hh ∧ hh.seq = i ∧
      (attackResults name began lbl s)[i]? = some (hitResult name began lbl hh) := by
  obtain ⟨hh, he, _⟩ := ((Vegeta.Proofs.Attack.deliv_reachable h).mem i).mp hi
  refine ⟨hh, he, Vegeta.Props.C05.index_is_seq h i hh he, ?_⟩
  unfold attackResults
  rw [List.getElem?_map, he]; rfl

theorem aux_delivered_seqs {w m d : Nat} {s : ASt} (h : AReachable w m d s)
    (name : Bytes) (began : Int) (lbl : Nat → Bytes) :
    (deliveredResults name began lbl s).map (·.seq) = s.delivered.reverse := by
  unfold deliveredResults
  rw [List.map_map]
  have : ∀ i ∈ s.delivered.reverse,
      ((fun r : Result => r.seq) ∘ fun i => hitResult name began lbl (s.hits[i]?.getD default)) i = id i := by
    intro i hi
    obtain ⟨hh, he, hs, _⟩ := aux_delivered_hit h i (List.mem_reverse.mp hi) name began lbl
    simp [he, hitResult, hs]
  rw [List.map_congr_left this, List.map_id]

/--
**The plot of an attack that is still running** (any reachable state, hits in flight or not yet
consumed).  Present the results delivered so far in any arrival order `rs`.  Then no `Add` fails,
and with `k` the first sequence number that has not been delivered: the plot's series hold exactly
the results with sequence numbers below `k` (one point each, in sequence order), and the
delivered results with larger sequence numbers — the tail behind the gap — sit in the re-ordering
buffer, to be released when the missing results arrive.
-/
theorem plot_of_attack_in_progress {w m d : Nat} {s : ASt} (h : AReachable w m d s)
    (name : Bytes) (began : Int) (lbl : Nat → Bytes) (rs : List Result)
    (hrs : rs.Perm (deliveredResults name began lbl s)) :
    ∃ p ls, Plot.addAll [] rs = .ok p ∧ (rs ≠ [] → plotLookup p name = some ls) ∧
      (∀ i, i < ls.seq → i ∈ s.delivered) ∧ ls.seq ∉ s.delivered ∧
      (∀ l, seriesLookup ls.series l =
        if l ∈ rs.map (·.label) then
          some (specSeries name (t0 (attackResults name began lbl s)) ((attackResults name began lbl s).take ls.seq) l)
        else none) ∧
      (∀ i, bufLookup ls.buf i =
        if i ∈ s.delivered ∧ ls.seq ≤ i then
          ((attackResults name began lbl s)[i]?).map Vegeta.Proofs.PlotOrder.pt
        else none) := by
  have hcan := attack_results_canon h name began lbl
  -- every arrived result is the canonical result of its (delivered) sequence number
  have hmem : ∀ r ∈ rs, (attackResults name began lbl s)[r.seq]? = some r ∧ r.attack = name := by
    intro r hr
    obtain ⟨i, hi, rfl⟩ := List.mem_map.mp (hrs.mem_iff.mp hr)
    obtain ⟨hh, he, hs, hc⟩ := aux_delivered_hit h i (List.mem_reverse.mp hi) name began lbl
    rw [he, Option.getD_some]
    exact ⟨by rw [show (hitResult name began lbl hh).seq = i from hs]; exact hc, rfl⟩
  have hseqs : (rs.map (fun r : Result => r.seq)).Perm s.delivered.reverse := by
    rw [← aux_delivered_seqs h name began lbl]; exact hrs.map _
  have hnd : (rs.map (fun r : Result => r.seq)).Nodup := by
    rw [hseqs.nodup_iff, (List.reverse_perm _).nodup_iff]
    exact (Vegeta.Props.C02.delivered_nodup_and_started h).1
  obtain ⟨ls, hls, hp, hmex⟩ :=
    Vegeta.Proofs.PlotOrder.addAllLS_new name _ hcan rs (fun r hr => (hmem r hr).1) hnd
  have hS : ∀ i, i ∈ (rs.map (fun r : Result => r.seq)).reverse ↔ i ∈ s.delivered := by
    intro i
    rw [List.mem_reverse, hseqs.mem_iff, List.mem_reverse]
  -- the plot routes everything to the one attack
  have hrun : ∀ a, Vegeta.Proofs.PlotOrder.attackRun [] rs a
      = .ok (if a = name then ls else LabeledSeries.new) := by
    intro a
    unfold Vegeta.Proofs.PlotOrder.attackRun
    rw [aux_filter_attack rs name (fun r hr => (hmem r hr).2) a]
    by_cases e : a = name
    · rw [if_pos e, if_pos e]; exact hls
    · rw [if_neg e, if_neg e]; rfl
  obtain ⟨p, hpp, hlook⟩ := Vegeta.Proofs.PlotOrder.plot_addAll_split rs [] (fun a => ⟨_, hrun a⟩)
  refine ⟨p, ls, hpp, ?_, ?_, ?_, ?_, ?_⟩
  · intro hne
    rw [hlook name _ (hrun name), if_pos rfl, if_pos]
    cases rs with
    | nil => exact absurd rfl hne
    | cons r rest => exact ⟨r, List.mem_cons_self, (hmem r List.mem_cons_self).2⟩
  · intro i hi; exact (hS i).mp (hp.below i hi)
  · intro hc; exact hmex ((hS _).mpr hc)
  · intro l
    simp only [hp.series l, List.mem_reverse]
  · intro i
    simp only [hp.buf i, hS i]

/-- non-vacuity: a reachable terminal state of the attack (C02's demonstration trace: two hits,
a spawned second worker, an external Stop) whose results were delivered out of sequence order -/
example : ∃ s : ASt, AReachable 1 2 0 s ∧ s.resultsClosed = true ∧ s.delivered = [1, 0] ∧ s.hits.length = 2 := by
  have hd : (Vegeta.Model.Attack.run (Vegeta.Model.Attack.init 1 2 0) Vegeta.Props.C02.demoTrace).map
      (fun s => (s.resultsClosed, s.delivered, s.hits.length)) = some (true, [1, 0], 2) := by decide
  cases hr : Vegeta.Model.Attack.run (Vegeta.Model.Attack.init 1 2 0) Vegeta.Props.C02.demoTrace with
  | none => rw [hr] at hd; cases hd
  | some s' =>
    rw [hr] at hd
    simp only [Option.map_some, Option.some.injEq, Prod.mk.injEq] at hd
    exact ⟨s', Vegeta.Props.C02.aux_run_reachable 1 2 0 _ _ _ Vegeta.Model.Attack.Reachable.init hr, hd.1, hd.2.1, hd.2.2⟩

/-! ### source facts binding the model to lib/plot/timeseries.go and plot.go (regenerated every run) -/

/-- `timeSeries.add` creates the store lazily from the first time stamp
(`if ts.data == nil { ts.data = tsz.New(t + 1) }`, the only `tsz.New` of the file, not in
`newTimeSeries`) and then pushes the shifted time stamp (`ts.data.Push(t+1, v)`, once) — what
`seriesPoints`/`shiftUp` model and what makes the store's 27-bit first delta zero. -/
theorem facts_add_creates_store_at_first_point :
    Vegeta.Extracted.c17AddCreatesWhenNil = true ∧
    Vegeta.Extracted.c17TszNewArg = [116, 32, 43, 32, 49] ∧                 -- "t + 1"
    Vegeta.Extracted.c17PushCount = 1 ∧
    Vegeta.Extracted.c17PushArgs = [[116, 32, 43, 32, 49], [118]] ∧        -- "t + 1", "v"
    Vegeta.Extracted.c17CreateBeforePush = true ∧
    Vegeta.Extracted.c17NewTimeSeriesCreatesStore = false ∧
    Vegeta.Extracted.c17TszNewCalls = 1 := ⟨rfl, rfl, rfl, rfl, rfl, rfl, rfl⟩

/-- `timeSeries.iter` returns nothing for a series without store and decodes
`X = time.Duration((t - 1) * 1e6).Seconds()` — the un-shift modelled by `unshift`. -/
theorem facts_iter_unshifts :
    Vegeta.Extracted.c17IterNilGuard = true ∧
    Vegeta.Extracted.c17IterXExpr =
      [116, 105, 109, 101, 46, 68, 117, 114, 97, 116, 105, 111, 110, 40, 40, 116, 32, 45, 32, 49, 41,
       32, 42, 32, 49, 101, 54, 41, 46, 83, 101, 99, 111, 110, 100, 115, 40, 41] := ⟨rfl, rfl⟩

/-- source facts (regenerated every run) binding `plotCmdLine` / `plotCommand` to plot.go: the flags
`title` (default "Vegeta Plot"), `threshold` (default 4000), `output` (default "stdout"); the call
`plotRun(files, *threshold, *title, *output)` matching `plotRun`'s parameters
`(files, threshold, title, output)`; the default input `stdin`; and
`plot.New(plot.Title(title), plot.Downsample(threshold), plot.Label(plot.ErrorLabeler))`. -/
theorem facts_plot_command_glue :
    Vegeta.Extracted.c17PlotFlags = [([34, 116, 105, 116, 108, 101, 34], [34, 86, 101, 103, 101, 116, 97, 32, 80, 108, 111, 116, 34]), ([34, 116, 104, 114, 101, 115, 104, 111, 108, 100, 34], [52, 48, 48, 48]), ([34, 111, 117, 116, 112, 117, 116, 34], [34, 115, 116, 100, 111, 117, 116, 34])] ∧
    Vegeta.Extracted.c17PlotRunCallArgs = [[102, 105, 108, 101, 115], [42, 116, 104, 114, 101, 115, 104, 111, 108, 100], [42, 116, 105, 116, 108, 101], [42, 111, 117, 116, 112, 117, 116]] ∧
    Vegeta.Extracted.c17PlotRunParams = [[102, 105, 108, 101, 115], [116, 104, 114, 101, 115, 104, 111, 108, 100], [116, 105, 116, 108, 101], [111, 117, 116, 112, 117, 116]] ∧
    Vegeta.Extracted.c17PlotDefaultInput = [102, 105, 108, 101, 115, 32, 61, 32, 97, 112, 112, 101, 110, 100, 40, 102, 105, 108, 101, 115, 44, 32, 34, 115, 116, 100, 105, 110, 34, 41] ∧
    Vegeta.Extracted.c17PlotNewOpts = [[112, 108, 111, 116, 46, 84, 105, 116, 108, 101, 40, 116, 105, 116, 108, 101, 41], [112, 108, 111, 116, 46, 68, 111, 119, 110, 115, 97, 109, 112, 108, 101, 40, 116, 104, 114, 101, 115, 104, 111, 108, 100, 41], [112, 108, 111, 116, 46, 76, 97, 98, 101, 108, 40, 112, 108, 111, 116, 46, 69, 114, 114, 111, 114, 76, 97, 98, 101, 108, 101, 114, 41]] := ⟨rfl, rfl, rfl, rfl, rfl⟩

/-- the threshold default of the model is the flag's default in the source -/
theorem facts_default_threshold :
    (Vegeta.Extracted.c17PlotFlags.lookup [34, 116, 104, 114, 101, 115, 104, 111, 108, 100, 34]) = some [52, 48, 48, 48] ∧ defaultThreshold = 4000 := ⟨rfl, rfl⟩

example : Lossless (id : Store) := fun _ _ => rfl
example : msDomain [0, 0, 5, 10, 4000000] = true := by decide
/-- a series may begin 38 h after the attack's first request, and its second point may lie 38 h
after a first point at 0 ms: the store is created at the series' first point, and only the gaps
between consecutive points of one series are limited -/
example : msDomain [136800000, 136801000] = true ∧ msDomain [0, 136800000] = true := by decide
/-- where the assumption stops: two consecutive points of a series 2^31 ms (24.8 days) apart -/
example : msDomain [5, 2147483653] = false := by decide

/-! non-vacuity: two attacks, results arriving out of order -/
def exA : Bytes := [97]
def exB : Bytes := [98]
def exCanon (a : Bytes) : List Result :=
  if a = exA then
    [⟨exA, 0, 1000000000, 2000000, labelOK⟩, ⟨exA, 1, 1000000000, 3000000, labelERROR⟩, ⟨exA, 2, 1005500000, 1500000, labelOK⟩]
  else if a = exB then [⟨exB, 0, 77, 5, labelOK⟩, ⟨exB, 1, 1000077, 6, labelOK⟩]
  else []
def exArrival : List Result :=
  [⟨exA, 2, 1005500000, 1500000, labelOK⟩, ⟨exB, 1, 1000077, 6, labelOK⟩, ⟨exA, 1, 1000000000, 3000000, labelERROR⟩,
   ⟨exA, 0, 1000000000, 2000000, labelOK⟩, ⟨exB, 0, 77, 5, labelOK⟩]

/-- the hypotheses of `arrival_order_irrelevant` hold for this input -/
example : (∀ a, Canon a (exCanon a)) ∧
    (∀ a, (exArrival.filter (fun r => r.attack == a)).Perm (exCanon a)) := by
  constructor
  · intro a
    unfold exCanon
    split
    · rename_i h; subst h
      exact Vegeta.Proofs.PlotOrder.canon_of_lists _ _ (by decide) (by decide) (by decide)
    · split
      · rename_i h; subst h
        exact Vegeta.Proofs.PlotOrder.canon_of_lists _ _ (by decide) (by decide) (by decide)
      · exact Vegeta.Proofs.PlotOrder.canon_nil a
  · intro a
    unfold exCanon
    split
    · rename_i h; subst h; decide
    · split
      · rename_i h; subst h; decide
      · rename_i h1 h2
        rw [List.filter_eq_nil_iff.mpr]
        intro x hx hxa
        rw [beq_iff_eq] at hxa
        subst hxa
        simp only [exArrival, List.mem_cons, List.not_mem_nil, or_false] at hx
        rcases hx with hx | hx | hx | hx | hx <;> subst hx <;> first | exact h1 rfl | exact h2 rfl

/-- … and so does the store-limit hypothesis of `plot_shows_every_result_once` -/
example : ∀ a l, msDomain ((specPts (t0 (exCanon a)) (exCanon a) l).map (·.1)) = true := by
  intro a l
  by_cases h1 : l = labelOK
  · subst h1
    unfold exCanon
    split
    · decide +kernel
    · split
      · decide +kernel
      · decide
  · by_cases h2 : l = labelERROR
    · subst h2
      unfold exCanon
      split
      · decide +kernel
      · split
        · decide +kernel
        · decide
    · have e1 : (labelOK == l) = false := by simp; exact fun e => h1 e.symm
      have e2 : (labelERROR == l) = false := by simp; exact fun e => h2 e.symm
      unfold exCanon
      split
      · simp [specPts, e1, e2, msDomain]
      · split
        · simp [specPts, e1, msDomain]
        · simp [specPts, msDomain]

example : (Plot.addAll [] exArrival).isOk = true := by decide +kernel
example : (match Plot.addAll [] exArrival with
    | .ok p => (seriesOf p exA labelOK).map (fun s => s.pts.map (·.1))
    | _ => none) = some [0, 5] := by decide +kernel

/-! ### outcome by threshold; rows, columns and labels; x from sequence number 0 -/

/-- number of results of attack `a` with label `l` -/
def seriesLen (canon : Bytes → List Result) (a l : Bytes) : Nat :=
  ((canon a).filter (fun r => r.label == l)).length

theorem aux_seriesLen_pos (canon : Bytes → List Result) (a l : Bytes) :
    0 < seriesLen canon a l ↔ ∃ r ∈ canon a, r.label = l := by
  unfold seriesLen
  rw [List.length_pos_iff_exists_mem]
  simp only [List.mem_filter, beq_iff_eq]

open Vegeta.Model.RoundRobin in
/--
**The outcome of the `plot` command as a total function of the threshold and the per-attack
OK/ERROR counts** (well-formed files holding every attack's records completely, in any split and
order; store inside its limits; at most 2^50 results per attack):

* it fails with "lttb: min threshold is 3" **iff** the threshold is non-zero and below 3 and SOME
  existing (attack, label) series has more results than the threshold (for a negative threshold:
  any series at all) — so `--threshold 1` or `2` over
  result sets whose series all have at most that many points is NOT an error (they are plotted
  unchanged, see `data_outcome_below_3`), and one long series anywhere makes the whole command fail;
* in every other case it succeeds.
-/
theorem plot_command_outcome (canon : Bytes → List Result) (inputs : List (List Result)) (fuel : Nat)
    (hn : 0 < inputs.length) (hfuel : inputs.flatten.length < fuel)
    (hw : 0 + inputs.length * fuel < two64)
    (hc : ∀ a, Canon a (canon a))
    (hunion : ∀ a, (inputs.flatten.filter (fun r => r.attack == a)).Perm (canon a))
    (store : Store) (hl : Lossless store)
    (hdom : ∀ a l, msDomain ((specPts (t0 (canon a)) (canon a) l).map (·.1)) = true)
    (hsize : ∀ a, ((canon a).length : Int) ≤ 1125899906842624)
    (th : Int) :
    (plotCommand store th fuel (ofInputs inputs) = .error eThreshold ↔
      (th ≠ 0 ∧ th < 3 ∧ ∃ a l, 0 < seriesLen canon a l ∧ th < (seriesLen canon a l : Int))) ∧
    (¬ (th ≠ 0 ∧ th < 3 ∧ ∃ a l, 0 < seriesLen canon a l ∧ th < (seriesLen canon a l : Int)) →
      ∃ rows labels, plotCommand store th fuel (ofInputs inputs) = .ok (rows, labels)) := by
  obtain ⟨decoded, hperm, _, hcmd⟩ := plot_command_is_fold store th inputs fuel hn hfuel hw
  obtain ⟨p, hp, _, hiff⟩ := aux_plot_and_series canon decoded hc (fun a => (hperm.filter _).trans (hunion a))
  have hcmd' : plotCommand store th fuel (ofInputs inputs) = Plot.data store p th := by rw [hcmd, hp]
  rw [hcmd']
  have hlen : ∀ a l, (specSeries a (t0 (canon a)) (canon a) l).pts.length = seriesLen canon a l := by
    intro a l; simp [specSeries, specPts, seriesLen]
  -- some series is refused  ⇔  some (attack, label) count exceeds a non-zero threshold below 3
  have hany : ((allSeries p).any (fun s => rejects th s.pts.length) = true) ↔
      (th ≠ 0 ∧ th < 3 ∧ ∃ a l, 0 < seriesLen canon a l ∧ th < (seriesLen canon a l : Int)) := by
    rw [List.any_eq_true]
    constructor
    · rintro ⟨s, hs, hr⟩
      obtain ⟨a, l, hex, rfl⟩ := (hiff s).mp hs
      rw [aux_rejects_iff, hlen] at hr
      exact ⟨hr.1, hr.2.2, a, l, (aux_seriesLen_pos canon a l).mpr hex, hr.2.1⟩
    · rintro ⟨h0, h3, a, l, hpos, hlt⟩
      refine ⟨_, (hiff _).mpr ⟨a, l, (aux_seriesLen_pos canon a l).mp hpos, rfl⟩, ?_⟩
      rw [aux_rejects_iff, hlen]
      exact ⟨h0, hlt, h3⟩
  by_cases h3 : th < 3
  · rw [data_outcome_below_3 store p th h3]
    by_cases ha : (allSeries p).any (fun s => rejects th s.pts.length) = true
    · rw [if_pos ha]
      exact ⟨⟨fun _ => hany.mp ha, fun _ => rfl⟩, fun h => absurd (hany.mp ha) h⟩
    · rw [if_neg ha]
      exact ⟨⟨nofun, fun h => absurd (hany.mpr h) ha⟩, fun _ => ⟨_, _, rfl⟩⟩
  · obtain ⟨rows, labels, hd⟩ := data_ok_from_3 store hl p th (Or.inr (Int.not_lt.mp h3))
      (aux_series_limits canon p hiff hdom hsize)
    rw [hd]
    exact ⟨⟨nofun, fun h => absurd h.2.1 h3⟩, fun _ => ⟨rows, labels, rfl⟩⟩

/-- **Sorted and complete, for every plot state** (any number of attacks, any labels, one attack
with an OK and an ERROR series included): the rows `Plot.data` returns are sorted by x AND are a
permutation of the rows of all (down-sampled) points of the series in `allSeries p`. -/
theorem rows_sorted_and_complete (store : Store) (p : Plot) (th : Int) (rows : List (List F64))
    (labels : List Bytes) (h : Plot.data store p th = .ok (rows, labels)) :
    rows.Pairwise (fun a b => rowLt b a = false) ∧
    rows.Perm (seriesRows store th (allSeries p).length 0 (allSeries p)) :=
  ⟨rows_sorted_by_x store p th rows labels h, (rows_are_the_series_points store p th rows labels h).1⟩

theorem aux_seriesRows_mem (store : Store) (th : Int) (n : Nat) :
    ∀ (ss : List TimeSeries) (i : Nat) (row : List F64), row ∈ seriesRows store th n i ss →
      ∃ j s ps pt, ss[j]? = some s ∧ downsample (s.pts.length : Int) th (seriesPoints store s) = .ok ps ∧
        pt ∈ ps ∧ row = mkRow n (i + j) pt := by
  intro ss
  induction ss with
  | nil => intro i row h; simp [seriesRows] at h
  | cons s rest ih =>
    intro i row h
    unfold seriesRows at h
    rcases List.mem_append.mp h with h | h
    · split at h
      · rename_i ps hd
        obtain ⟨pt, hpt, rfl⟩ := List.mem_map.mp h
        exact ⟨0, s, ps, pt, rfl, hd, hpt, rfl⟩
      · cases h
    · obtain ⟨j, s', ps, pt, h1, h2, h3, h4⟩ := ih (i+1) row h
      refine ⟨j+1, s', ps, pt, by simpa using h1, h2, h3, ?_⟩
      rw [h4]; congr 1; omega

theorem aux_mkRow_cells (n i : Nat) (pt : Point) :
    (mkRow n i pt)[0]? = some pt.x ∧
    ∀ j, j < n → (mkRow n i pt)[j+1]? = some (if j = i then pt.y else goNaN) := by
  unfold mkRow
  refine ⟨by simp, ?_⟩
  intro j hj
  simp only [List.getElem?_cons_succ, List.getElem?_map, List.getElem?_range hj, Option.map_some]
  by_cases h : j = i <;> simp [h]

/--
**`labels[i+1]` is the label of the series whose points stand in column `i+1`** — for arbitrary
byte strings as attack names and labels (names that are prefixes of one another, names containing
":" or sorting before it, …): the label list is "Seconds" followed by `attack ++ ": " ++ label`
of the series in exactly the order in which the series were given their columns, and every row is
the row of a point of some series `i`: its value stands in column `i+1` (all other cells NaN), the
column labelled with that series' own attack and label.
-/
theorem labels_match_columns (store : Store) (p : Plot) (th : Int) (rows : List (List F64))
    (labels : List Bytes) (h : Plot.data store p th = .ok (rows, labels)) :
    labels = [83, 101, 99, 111, 110, 100, 115] :: (allSeries p).map (fun s => s.attack ++ [58, 32] ++ s.label) ∧
    ∀ row ∈ rows, ∃ i s ps pt, (allSeries p)[i]? = some s ∧
      labels[i+1]? = some (s.attack ++ [58, 32] ++ s.label) ∧
      downsample (s.pts.length : Int) th (seriesPoints store s) = .ok ps ∧ pt ∈ ps ∧
      row = mkRow (allSeries p).length i pt ∧
      row[0]? = some pt.x ∧ row[i+1]? = some pt.y ∧
      (∀ j, j < (allSeries p).length → j ≠ i → row[j+1]? = some goNaN) := by
  obtain ⟨hperm, rfl⟩ := rows_are_the_series_points store p th rows labels h
  refine ⟨rfl, fun row hrow => ?_⟩
  obtain ⟨j, s, ps, pt, h1, h2, h3, h4⟩ :=
    aux_seriesRows_mem store th _ _ 0 row (hperm.mem_iff.mp hrow)
  rw [Nat.zero_add] at h4
  have hj : j < (allSeries p).length := (List.getElem?_eq_some_iff.mp h1).1
  obtain ⟨c0, cj⟩ := aux_mkRow_cells (allSeries p).length j pt
  refine ⟨j, s, ps, pt, h1, ?_, h2, h3, h4, h4 ▸ c0, ?_, ?_⟩
  · simp [dataLabels, h1]
  · rw [h4, cj j hj, if_pos rfl]
  · intro k hk hne
    rw [h4, cj k hk, if_neg hne]

/--
**x = ⌊(t − t₀)/1 ms⌋ with t₀ the time stamp of sequence number 0**, for every arrival order — in
particular when the result with sequence number 0 arrives late or last, and for time stamps with
sub-millisecond parts: the `k`-th result `r` of attack `a` with label `l` (in sequence order) is
the `k`-th point of the series, at `x = ⌊(r.ts − r₀.ts)/10^6⌋` ms where `r₀` is the attack's
result with sequence number 0 (time differences inside the `Duration` range), and
`y = latency` in ms.
-/
theorem x_is_floor_since_seq0 (canon : Bytes → List Result) (rs : List Result)
    (hc : ∀ a, Canon a (canon a))
    (hperm : ∀ a, (rs.filter (fun r => r.attack == a)).Perm (canon a))
    (a l : Bytes) (k : Nat) (r r0 : Result)
    (hk : ((canon a).filter (fun r => r.label == l))[k]? = some r)
    (h0 : (canon a)[0]? = some r0) (hrange : r.ts - r0.ts ≤ maxInt64) :
    r0.seq = 0 ∧
    ∃ p s x, Plot.addAll [] rs = .ok p ∧ seriesOf p a l = some s ∧
      s.pts[k]? = some (x, latencyMs r.latency) ∧ (x : Int) = (r.ts - r0.ts) / 1000000 := by
  have hseq0 : r0.seq = 0 := (hc a).seq 0 r0 h0
  refine ⟨hseq0, ?_⟩
  obtain ⟨p, hp, hser⟩ := arrival_order_irrelevant canon rs hc hperm
  have hmemf := List.mem_filter.mp (List.mem_of_getElem? hk)
  have hex : ∃ r' ∈ canon a, r'.label = l := ⟨r, hmemf.1, beq_iff_eq.mp hmemf.2⟩
  have ht0 : t0 (canon a) = r0.ts := by
    simp only [t0, List.head?_eq_getElem?, h0, Option.map_some, Option.getD_some]
  obtain ⟨i, hget⟩ := List.mem_iff_getElem?.mp hmemf.1
  have hle : r0.ts ≤ r.ts := (hc a).mono 0 i r0 r (Nat.zero_le _) h0 hget
  refine ⟨p, _, msSince r.ts r0.ts, hp, by rw [hser a l, if_pos hex], ?_, ?_⟩
  · simp only [specSeries]
    rw [(one_point_per_result (t0 (canon a)) (canon a) l).2 k r hk, ht0]
  · exact x_is_whole_milliseconds r0.ts r.ts hle hrange

open Vegeta.Model.RoundRobin in
/--
**`vegeta plot` without `-threshold` down-samples to 4000 points per series**: the command line
with the flag absent is the command with threshold 4000, so (files holding every attack's records
completely, store inside its limits) every per-attack OK/ERROR series of more than 4000 results is
plotted with exactly 4000 points — a sublist with first and last point — and every shorter one
unchanged; with the flag given, its value is the threshold.
-/
theorem plot_cmdline_default_threshold (canon : Bytes → List Result) (inputs : List (List Result)) (fuel : Nat)
    (hn : 0 < inputs.length) (hfuel : inputs.flatten.length < fuel)
    (hw : 0 + inputs.length * fuel < two64)
    (hc : ∀ a, Canon a (canon a))
    (hunion : ∀ a, (inputs.flatten.filter (fun r => r.attack == a)).Perm (canon a))
    (store : Store) (hl : Lossless store)
    (hdom : ∀ a l, msDomain ((specPts (t0 (canon a)) (canon a) l).map (·.1)) = true)
    (hsize : ∀ a, ((canon a).length : Int) ≤ 1125899906842624) :
    (∀ th, plotCmdLine store (some th) fuel (ofInputs inputs) = plotCommand store th fuel (ofInputs inputs)) ∧
    ∃ p rows labels sels, plotCmdLine store none fuel (ofInputs inputs) = .ok (rows, labels) ∧
      rows.Pairwise (fun a b => rowLt b a = false) ∧
      SelectedAll 4000 (allSeries p) sels ∧
      rows.Perm (rowsOfSel (allSeries p).length 0 sels) ∧
      labels = dataLabels (allSeries p) ∧
      (∀ s, s ∈ allSeries p ↔
        ∃ a l, (∃ r ∈ canon a, r.label = l) ∧ s = specSeries a (t0 (canon a)) (canon a) l) :=
  ⟨fun _ => rfl,
   plot_files_equal_union canon inputs fuel hn hfuel hw hc hunion store hl hdom hsize 4000 (Or.inr (by decide))⟩

/-- one attack with an OK and an ERROR series overlapping in time: the rows come out interleaved
by x (not series after series) -/
def exMixed : List Result :=
  [⟨exA, 2, 1002000000, 3000000, labelOK⟩, ⟨exA, 0, 1000000000, 1000000, labelOK⟩, ⟨exA, 1, 1001000000, 2000000, labelERROR⟩]

example : (match Plot.addAll [] exMixed with
    | .ok p => (match Plot.data id p 0 with
      | .ok (rows, _) => some (rows.map (fun r => r.map (fun f => f == goNaN)))
      | _ => none)
    | _ => none) = some [[false, true, false], [false, false, true], [false, true, false]] := by decide +kernel

/-- thresholds 1 and 2: a plot whose series all have at most that many points is not rejected, one
longer series anywhere rejects it (`exMixed` has 2 OK results and 1 ERROR result) -/
example : (match Plot.addAll [] exMixed with
    | .ok p => some ((Plot.data id p 2).isOk, (Plot.data id p 1) = .error eThreshold, (Plot.data id p (-1)) = .error eThreshold)
    | _ => none) = some (true, true, true) := by decide +kernel

/-- sequence number 0 arrives last and the time stamps have sub-millisecond parts: x is still
measured from the time stamp of sequence number 0 (1.0000007 s): 0 ms and 1 ms, not 1 ms and 2 ms -/
example : (match Plot.addAll [] [⟨exB, 1, 1001700500, 5, labelOK⟩, ⟨exB, 2, 1002700600, 5, labelOK⟩, ⟨exB, 0, 1000700700, 5, labelOK⟩] with
    | .ok p => (seriesOf p exB labelOK).map (fun s => s.pts.map (·.1))
    | _ => none) = some [0, 0, 1] := by decide +kernel

end Vegeta.Props.C17
