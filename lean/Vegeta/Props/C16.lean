/-
C16 — No input makes a parser crash or hang.

`*_never_panics`: for every byte string, the parsing logic modelled (every index / slice
expression carries Go's run-time check as an explicit `panic` outcome) returns a value or an
error. Termination on every input is what Lean's acceptance of the definitions means: all of
them are structural recursions on the remaining input (or on a fuel bounded by its length),
none is `partial`. `*_consumes_or_stops`: a loop either stops or consumes.

First this property's own models (`Vegeta.Model.ParserGuards`: vegeta's index and slice expressions
written out) and the flag parsers of C19; then the same questions over C14's targeters (also the
reader's mutex, exhaustion, the method regexp), C07's result decoders (hand models of
encoding/csv, jlexer/easyjson, net/textproto, encoding/base64, strconv), C08's `DecoderFor`, C13's
round-robin decoder and the commands' decoder assembly. `facts_*` tie the guards to the source.

NOT covered: the library parsers themselves. encoding/gob is not modelled; url.ParseRequestURI,
os.ReadFile and bufio are parameters; the rest only as hand models (those above, `time.ParseDuration`,
`net.SplitHostPort`, `net.ParseIP`, `datasize`; see tools/props/C16.json). "Memory proportional to
the input" has no theorem.
-/
import Vegeta.Model.ParserGuards
import Vegeta.Props.C19
import Vegeta.Proofs.TargeterLaws
import Vegeta.Model.CodecResult
import Vegeta.Model.DecoderFor
import Vegeta.Model.RoundRobin
import Vegeta.Extracted.Facts
import Vegeta.Proofs.GuardsCodec
namespace Vegeta.Props.C16
open Vegeta.Go Vegeta.Model.ParserGuards Vegeta.Model.Flags
open Vegeta.Model.Histogram (trimSpace splitOn unmarshalParts unmarshalText eBadBuckets)
open Vegeta.Proofs.Guards
open Vegeta.Props.C19 (aux_ofAscii_ofList)

/-! ### Buckets.UnmarshalText -/

theorem aux_unmarshalParts_never_panics (vs : List Bytes) : ∀ (first : Bool) (acc : List Int),
    unmarshalParts vs first acc ≠ .panic := by
  induction vs with
  | nil => intro f a; nofun
  | cons v r ih =>
    intro f a
    unfold unmarshalParts
    split
    · exact ih _ _
    · nofun
    · exact absurd ‹_› (Vegeta.Proofs.DurationRoundTrip.parse_never_panics _)

/-- **`Buckets.UnmarshalText` never panics**, whatever the bytes (the model shared with C12). -/
theorem buckets_never_panics (value : Bytes) : unmarshalText value ≠ .panic := by
  unfold unmarshalText
  refine ite_ne nofun ?_
  split
  · split
    · exact ite_ne nofun nofun
    · exact aux_unmarshalParts_never_panics _ _ _
  · nofun

theorem aux_elemAt_last {α} (s : List α) (x : α) (h : s.getLast? = some x) : elemAt s (s.length - 1) = .ok x := by
  unfold elemAt; rw [← List.getLast?_eq_getElem?, h]

/-- `s[1:len(s)-1]` on a slice of at least two elements -/
theorem aux_slice_inner {α} (c : α) (rest : List α) (h : rest ≠ []) :
    slice (c :: rest) 1 (((c :: rest).length : Int) - 1) = .ok rest.dropLast := by
  have hl : 1 ≤ rest.length := List.length_pos_iff.mpr h
  have e : ((c :: rest).length : Int) - 1 = (rest.length : Nat) := by simp
  rw [slice, e, if_pos ⟨Int.natCast_nonneg _, Int.ofNat_le.mpr hl, Int.ofNat_le.mpr (Nat.le_succ _)⟩,
    Int.toNat_natCast, show rest.length = (c :: rest).length - 1 from rfl, ← List.dropLast_eq_take, List.dropLast_cons_of_ne_nil h, List.drop_one, List.tail_cons]

/-- The same function written with its index expressions `value[0]`, `value[len(value)-1]`,
`value[1:len(value)-1]` and their run-time checks computes the same thing: behind
`len(value) < 2` none of the checks can fail. -/
theorem buckets_index_guards (value : Bytes) : unmarshalTextIdx value = unmarshalText value := by
  unfold unmarshalTextIdx unmarshalText
  by_cases hlen : value.length < 2
  · rw [if_pos hlen, if_pos hlen]
  · rw [if_neg hlen, if_neg hlen]
    match value, hlen with
    | [], hlen => exact absurd (by decide) hlen
    | c0 :: rest, hlen =>
      have hrne : rest ≠ [] := by rintro rfl; exact hlen (Nat.lt_succ_self 1)
      obtain ⟨x, hx⟩ : ∃ x, (c0 :: rest).getLast? = some x := ⟨_, List.getLast?_eq_some_getLast (List.cons_ne_nil _ _)⟩
      rw [show elemAt (c0 :: rest) 0 = .ok c0 from rfl, aux_elemAt_last _ x hx, aux_slice_inner c0 rest hrne, hx]
      dsimp only
      by_cases h91 : c0 = 91
      · subst h91
        by_cases h93 : x = 93
        · subst h93; rfl
        · rw [if_neg (fun h => h rfl), if_pos h93]
          split
          · rename_i heq; cases heq; exact absurd rfl h93
          · rfl
      · rw [if_pos h91]
        split
        · rename_i heq _; cases heq; exact absurd rfl h91
        · rfl

/-- so `Buckets.UnmarshalText` as Go writes it, index expressions and all, never panics either -/
theorem buckets_index_guards_never_panic (value : Bytes) : unmarshalTextIdx value ≠ .panic := by
  rw [buckets_index_guards]; exact buckets_never_panics value

/-- **An accepted bucket specification starts with `[` and ends with `]` — byte 0 and the last byte,
no white space trimmed around the list** (so ` [0,1ms]`, `[0,1ms] `, a value of blanks only, are
errors, not panics: `value[0]` / `value[len-1]` are the only indices taken, behind `len ≥ 2`). -/
theorem buckets_brackets_at_the_ends (value : Bytes) (bs : List Int) (h : unmarshalText value = .ok bs) :
    value.head? = some 91 ∧ value.getLast? = some 93 ∧ 2 ≤ value.length := by
  unfold unmarshalText at h
  split at h
  · simp at h
  · rename_i hlen
    split at h
    · rename_i rest hl
      exact ⟨rfl, hl, by omega⟩
    · simp at h

example : unmarshalText [32, 32] = .error eBadBuckets ∧ unmarshalText [32, 91, 48, 93] = .error eBadBuckets ∧
    unmarshalText [91, 48, 93, 32] = .error eBadBuckets ∧ unmarshalText [9, 10, 32, 13] = .error eBadBuckets := by decide +kernel

/-- source fact: the guard of `Buckets.UnmarshalText` tests the length before it indexes, as modelled -/
theorem facts_buckets_guard :
    Vegeta.Extracted.c16BucketsGuard = ofAscii "len(value) < 2 || value[0] != '[' || value[len(value)-1] != ']'" := by
  rw [aux_ofAscii_ofList]
  decide +kernel

/-! ### CSV record → Result: the indices `rec[i]` (`ParserGuards.csvToResult`) -/

theorem aux_elemAt_np {α} (s : List α) (i : Nat) (h : i < s.length) : elemAt s i ≠ .panic := by
  simp [elemAt, List.getElem?_eq_getElem h]

theorem aux_ofParse_np {α} (p : α × Option Nat) : ofParse p ≠ .panic := by
  obtain ⟨v, e⟩ := p; cases e <;> simp [ofParse]

theorem aux_ofOption_np {α} (e : Nat) (o : Option α) : ofOption e o ≠ .panic := by
  cases o <;> simp [ofOption]

/-- **The CSV record → Result conversion never panics on a record of 12 fields** — whatever the
fields contain and whatever the base64 / MIME-header library functions answer: every
`rec[i]` it evaluates has `i < 12`. (`encoding/csv` delivers only records of exactly
`FieldsPerRecord` = 12 fields: `facts_csv`.) -/
theorem csv_record_never_panics {H : Type} (b64 : Bytes → Option Bytes) (mime : Bytes → Option H)
    (fields : List Bytes) (h : fields.length = 12) : csvToResult b64 mime fields ≠ .panic := by
  have hi : ∀ i : Fin 12, elemAt fields i ≠ .panic := fun i => aux_elemAt_np fields i (h.symm ▸ i.isLt)
  have parsed : ∀ {α} (i : Fin 12) (p : Bytes → α × Option Nat), (elemAt fields i).bind (fun f => ofParse (p f)) ≠ .panic :=
    fun i _ => bind_np (hi i) fun _ => aux_ofParse_np _
  unfold csvToResult
  refine bind_np (parsed 0 _) fun _ => ?_
  refine bind_np (parsed 1 _) fun _ => ?_
  refine bind_np (parsed 2 _) fun _ => ?_
  refine bind_np (parsed 3 _) fun _ => ?_
  refine bind_np (parsed 4 _) fun _ => ?_
  refine bind_np (hi 5) fun _ => ?_
  refine bind_np (bind_np (hi 6) fun _ => aux_ofOption_np _ _) fun _ => ?_
  refine bind_np (hi 7) fun _ => ?_
  refine bind_np (parsed 8 _) fun _ => ?_
  refine bind_np (hi 9) fun _ => ?_
  refine bind_np (hi 10) fun _ => ?_
  refine bind_np ?_ fun _ => pure_np _
  unfold csvHeaders
  refine bind_np (hi 11) fun _ => ?_
  exact ite_ne (bind_np (hi 11) fun _ => bind_np (aux_ofOption_np _ _) fun _ => nofun) nofun

/-- a shorter record would panic: the guard is really the field count -/
example : (csvToResult (H := Unit) (fun b => some b) (fun _ => some ()) (List.replicate 11 [48])).isPanic = true := by decide +kernel

/-- the regenerated source facts: `FieldsPerRecord = 12`, every index into the record is a
constant, the constants are the ones modelled, and all of them are below the field count -/
theorem facts_csv : Vegeta.Extracted.c16CsvFieldsPerRecord = 12 ∧ Vegeta.Extracted.c16CsvNonConstantIndices = 0 ∧
    Vegeta.Extracted.c16CsvRecIndices = csvIndicesUsed ∧
    ∀ i ∈ Vegeta.Extracted.c16CsvRecIndices, i < Vegeta.Extracted.c16CsvFieldsPerRecord := by decide

/-! ### report: `--type` -/

theorem aux_sliceFrom_ok {α} (s : List α) (n : Nat) (h : n ≤ s.length) : sliceFrom s n = .ok (s.drop n) := by
  simp [sliceFrom, h]

/-- **`report`'s handling of `--type` / `--buckets` never panics**: `typ[4:]` is evaluated only
behind `len(typ) < 4` having returned. -/
theorem report_type_never_panics (typ buckets : Bytes) : reportType typ buckets ≠ .panic := by
  have hu : ∀ (b : Bytes) (f : List Int → ReportKind),
      (match unmarshalTextIdx b with
       | .ok bs => Outcome.ok (f bs)
       | .error e => .error e
       | .panic => .panic) ≠ .panic := by
    intro b f
    cases hb : unmarshalTextIdx b with
    | ok bs => nofun
    | error e => nofun
    | panic => exact absurd hb (buckets_index_guards_never_panic b)
  unfold reportType
  refine ite_np (fun _ => nofun) fun h4 => ?_
  -- down the `else if` chain: plot, text, json (with buckets), hdrplot, hist
  refine ite_ne nofun ?_
  refine ite_ne nofun ?_
  refine ite_ne (ite_ne (hu _ _) nofun) ?_
  refine ite_ne nofun ?_
  refine ite_ne ?_ nofun
  -- `typ[4:]` is in range: `bstr` is a value or an error
  rw [aux_sliceFrom_ok typ 4 (Nat.le_of_not_lt h4)]
  by_cases hb : buckets = []
  · by_cases h6 : typ.length < 6
    · simp only [hb, h6, ↓reduceIte]; nofun
    · simp only [hb, h6, ↓reduceIte]; exact hu _ _
  · simp only [hb, ↓reduceIte]; exact hu _ _

/-- the regenerated source facts: the first statement of `report` is `if len(typ) < 4 { return … }`,
`typ` is only ever sliced as `typ[4:]`, the inner guard is `len(typ) < 6` -/
theorem facts_report : Vegeta.Extracted.c16ReportFirstGuard = ofAscii "len(typ) < 4" ∧
    Vegeta.Extracted.c16ReportFirstGuardReturns = true ∧
    (∀ lo ∈ Vegeta.Extracted.c16ReportTypSliceLows, lo ≤ 4) ∧
    Vegeta.Extracted.c16ReportInnerGuard = ofAscii "len(typ) < 6" := by
  repeat rw [aux_ofAscii_ofList]
  decide +kernel

/-! ### target files: the skip conditions and `line[1:]` (`ParserGuards`) -/

theorem aux_isTargetLine (line : Bytes) :
    isTargetLine line = .ok (decide (line ≠ [] ∧ line.head? ≠ some 35)) := by
  cases line with
  | nil => rfl
  | cons c t => simp [isTargetLine, elemAt]

theorem aux_skipLoop_cons (l : Bytes) (rest : List Bytes) :
    skipLoop (l :: rest) =
      if trimSpace l ≠ [] ∧ (trimSpace l).head? ≠ some 35 then .ok (some (trimSpace l, rest)) else skipLoop rest := by
  rw [skipLoop, aux_isTargetLine]
  by_cases h : trimSpace l ≠ [] ∧ (trimSpace l).head? ≠ some 35
  · rw [if_pos h, decide_eq_true h]
  · rw [if_neg h, decide_eq_false h]

/-- the skip condition `len(line) != 0 && line[0] != '#'` never panics: `line[0]` is read on a non-empty line only -/
theorem target_line_test_never_panics (line : Bytes) : isTargetLine line ≠ .panic := by
  rw [aux_isTargetLine]; nofun

/-- **The HTTP targeter's skip loop consumes or stops, and never panics**: on any list of
remaining lines it either reports "no targets" (`.ok none`), or returns a line that is
non-empty and not a comment together with strictly fewer remaining lines; everything it skipped
was blank or a comment. (`line[0]` is evaluated only behind `len(line) != 0`.) -/
theorem http_skip_consumes_or_stops (lines : List Bytes) :
    skipLoop lines = .ok none ∨
    ∃ line skipped rest, skipLoop lines = .ok (some (line, rest)) ∧ rest.length < lines.length ∧
      (∃ l, lines = skipped ++ l :: rest ∧ line = trimSpace l) ∧ line ≠ [] ∧ line.head? ≠ some 35 ∧
      ∀ s ∈ skipped, trimSpace s = [] ∨ (trimSpace s).head? = some 35 := by
  induction lines with
  | nil => exact Or.inl rfl
  | cons l rest ih =>
    rw [aux_skipLoop_cons]
    by_cases ht : trimSpace l ≠ [] ∧ (trimSpace l).head? ≠ some 35
    · rw [if_pos ht]
      exact Or.inr ⟨_, [], rest, rfl, Nat.lt_succ_self _, ⟨l, rfl, rfl⟩, ht.1, ht.2, nofun⟩
    · rw [if_neg ht]
      have hskip : trimSpace l = [] ∨ (trimSpace l).head? = some 35 :=
        (Decidable.em (trimSpace l = [])).imp id fun h => Decidable.not_not.mp fun h' => ht ⟨h, h'⟩
      rcases ih with h | ⟨line, sk, r, h1, h2, ⟨l', h3, h3'⟩, h4, h5, h6⟩
      · exact Or.inl h
      · exact Or.inr ⟨line, l :: sk, r, h1, Nat.lt_succ_of_lt h2, ⟨l', congrArg (l :: ·) h3, h3'⟩, h4, h5,
          fun s hs => (List.mem_cons.mp hs).elim (fun e => e ▸ hskip) (h6 s)⟩

/-- no list of lines makes the HTTP targeter's skip loop panic -/
theorem http_skip_never_panics (lines : List Bytes) : skipLoop lines ≠ .panic := by
  rcases http_skip_consumes_or_stops lines with h | ⟨_, _, _, h, _⟩ <;> rw [h] <;> simp

/-- `line[1:]` behind `strings.HasPrefix(line, "@")` never panics -/
theorem body_ref_never_panics (line : Bytes) : bodyRef line ≠ .panic := by
  unfold bodyRef
  refine ite_np (fun h => ?_) fun _ => nofun
  cases line with
  | nil => cases h
  | cons c r => rw [aux_sliceFrom_ok (c :: r) 1 (Nat.succ_pos _)]; nofun

/-- **The JSON targeter's empty-line loop consumes or stops**: it returns a non-empty line with
strictly fewer lines left, or runs out of lines. -/
theorem json_skip_consumes_or_stops (lines : List Bytes) :
    jsonSkipLoop lines = none ∨
    ∃ d rest, jsonSkipLoop lines = some (d, rest) ∧ d ≠ [] ∧ rest.length < lines.length := by
  induction lines with
  | nil => exact Or.inl rfl
  | cons l rest ih =>
    unfold jsonSkipLoop
    dsimp only
    split
    · exact ih.imp id fun ⟨d, r, h1, h2, h3⟩ => ⟨d, r, h1, h2, Nat.lt_succ_of_lt h3⟩
    · rename_i hne
      exact .inr ⟨_, rest, rfl, fun e => hne (congrArg List.length e), Nat.lt_succ_self _⟩

/-- the regenerated source facts about the HTTP targeter: the skip condition tests the length
before indexing, `line` is only indexed at 0 and only sliced as `line[1:]` behind the `@` test -/
theorem facts_http_targeter :
    Vegeta.Extracted.c16HTTPSkipCond = ofAscii "len(line) != 0 && line[0] != '#'" ∧
    Vegeta.Extracted.c16HTTPLineIndices = [0] ∧ Vegeta.Extracted.c16HTTPLineSliceLows = [1] ∧
    Vegeta.Extracted.c16HTTPBodyGuard = ofAscii "strings.HasPrefix(line, \"@\")" := by
  repeat rw [aux_ofAscii_ofList]
  decide +kernel

/-! ### the flag parsers and the resolver addresses (C19's, under the names tools/props/C16.json requires) -/

/-- `rateFlag.Set` answers every byte string with nil or an error -/
theorem flag_rate_never_panics (r : Rate) (v : Bytes) : (rateSet r v).out ≠ .panic := C19.rate_never_panics r v
/-- `headers.Set` likewise -/
theorem flag_header_never_panics (h : Header) (v : Bytes) : (headerSet h v).out ≠ .panic := C19.header_never_panics h v
/-- `maxBodyFlag.Set` likewise (datasize's `UnmarshalText` as modelled from its source) -/
theorem flag_max_body_never_panics (n : Int) (v : Bytes) : (maxBodySet n v).out ≠ .panic := C19.max_body_never_panics n v
/-- `connectToFlag.Set` likewise (`net.SplitHostPort` as modelled from its source) -/
theorem flag_connect_to_never_panics (m : AddrMap) (v : Bytes) : (connectToSet m v).out ≠ .panic := C19.connect_to_never_panics m v
/-- `dnsTTLFlag.Set` likewise (`time.ParseDuration` as modelled from its source) -/
theorem flag_dns_ttl_never_panics (d : Int) (v : Bytes) : (dnsTTLSet d v).out ≠ .panic := C19.dns_ttl_never_panics d v
/-- `normalizeAddrs` answers every list of byte strings with the normalised list or an error -/
theorem resolver_addresses_never_panic (as : List Bytes) : normalizeAddrs as ≠ .panic := C19.normalizeAddrs_never_panics as
/-- `-resolvers=<v>`: split at the commas, then normalised -/
theorem flag_resolvers_never_panics (v : Bytes) : normalizeAddrs (cslSet v) ≠ .panic := C19.normalizeAddrs_never_panics _

theorem aux_applyArg_np (o : Opts) : ∀ a, (applyArg o a).out ≠ .panic
  | .rate v => flag_rate_never_panics _ v
  | .header v => flag_header_never_panics _ v
  | .maxBody v => flag_max_body_never_panics _ v
  | .dnsTTL v => flag_dns_ttl_never_panics _ v
  | .connectTo v => flag_connect_to_never_panics _ v
  | .maxWorkers n => by simp only [applyArg]; split <;> nofun

/-- a whole command line of these flags never panics -/
theorem cmdline_never_panics (args : List FlagArg) : ∀ o : Opts, parseArgs o args ≠ .panic := by
  induction args with
  | nil => intro o; nofun
  | cons a rest ih =>
    intro o
    unfold parseArgs
    split
    · exact ih _
    · nofun
    · rename_i h; exact absurd (congrArg Res.out h) (aux_applyArg_np o a)

/-- the resolver's rotation never panics once `NewResolver` has refused an empty list -/
theorem resolver_rotation_never_panics (addrs : List Bytes) (hne : addrs ≠ []) (n : Nat) : rotation addrs n 0 ≠ .panic := by
  obtain ⟨l, h, _⟩ := C19.resolver_rotation addrs hne n 0
  rw [h]; simp

/-- **Resolver address normalisation is total and keeps the list's shape**: for every list of byte
strings it returns an error or exactly one normalised address per input, in order, each of them the
input itself or the input with `:53` appended — nothing is rebuilt from host and port. (The
definition is a plain structural recursion over the list, `normalizeAddr` has no loop at all: that is
the termination proof.) -/
theorem resolver_normalisation_total (as : List Bytes) :
    (∃ e, normalizeAddrs as = .error e) ∨
    (∃ out, normalizeAddrs as = .ok out ∧ out.length = as.length ∧
      ∀ (i : Nat) (a : Bytes), as[i]? = some a → out[i]? = some (if a.contains 58 then a else a ++ [58, 53, 51])) := by
  cases h : normalizeAddrs as with
  | error e => exact Or.inl ⟨e, rfl⟩
  | panic => exact absurd h (C19.normalizeAddrs_never_panics as)
  | ok out =>
    refine Or.inr ⟨out, rfl, ?_⟩
    have hall := (C19.resolver_list as out).mp h
    clear h
    induction hall with
    | nil => exact ⟨rfl, by simp⟩
    | @cons a a' as' out' ha _ ih =>
      refine ⟨congrArg Nat.succ ih.1, fun i x hx => ?_⟩
      cases i with
      | zero => cases hx; exact congrArg some (C19.resolver_normalisation a a' ha).1
      | succ j => exact ih.2 j x hx

example : normalizeAddrs [[49, 46, 50, 46, 51, 46, 52], [91, 58, 58, 49, 93, 58, 53, 51]] =
    .ok [[49, 46, 50, 46, 51, 46, 52, 58, 53, 51], [91, 58, 58, 49, 93, 58, 53, 51]] := by decide +kernel

section others
open Vegeta.Model

/-! ### the targeters as C14 models them (`HTTPTargets.call`, `JSONTargets.call`) -/

/-- **The HTTP targeter never panics** (C14's model `Vegeta.Model.HTTPTargets`: peeking
scanner, skip rules, request line, peek rule, header loop, `@file` bodies, default merge) — for
arbitrary input bytes `src`, arbitrary defaults (`cfg.body`, `cfg.hdr`), arbitrary behaviour of
the two library/OS parameters `cfg.validURI` (`url.ParseRequestURI`) and `cfg.fs`
(`os.ReadFile`), and any number `n` of calls: every one of the `n` results is a target or an
error. -/
theorem http_targeter_never_panics (cfg : HTTPTargets.Cfg) (src : Bytes) (heap : HTTPTargets.Heap) (n : Nat) :
    ∀ r ∈ (HTTPTargets.calls cfg n { ps := HTTPTargets.PS.init src, heap := heap }).1, r ≠ .panic := by
  generalize ({ ps := HTTPTargets.PS.init src, heap := heap } : HTTPTargets.St) = st
  induction n generalizing st with
  | zero => nofun
  | succ n ih =>
    intro r hr
    rcases List.mem_cons.mp hr with rfl | hr
    · exact (Vegeta.Proofs.TargeterLaws.call_cases cfg st).1
    · exact ih _ r hr

/-- **Every call of the HTTP targeter returns `ErrNoTargets` or consumes at least one line**
(`eff` = the lines the peeking scanner will still deliver): it never loops or returns without
consuming input, so `ReadAllTargets` terminates. After `ErrNoTargets` nothing is left. -/
theorem http_targeter_consumes_or_stops (cfg : HTTPTargets.Cfg) (st : HTTPTargets.St) :
    ((HTTPTargets.call cfg st).1 = .error HTTPTargets.eNoTargets ∧
      Vegeta.Proofs.HTTPTargetsL.eff (HTTPTargets.call cfg st).2.ps = []) ∨
    ((HTTPTargets.call cfg st).1 ≠ .error HTTPTargets.eNoTargets ∧
      (Vegeta.Proofs.HTTPTargetsL.eff (HTTPTargets.call cfg st).2.ps).length <
        (Vegeta.Proofs.HTTPTargetsL.eff st.ps).length) :=
  (Vegeta.Proofs.TargeterLaws.call_cases cfg st).2

/-- One call of the JSON targeter: the reader is exhausted (`ErrNoTargets`, nothing left), or a
line was taken from it and decoded. -/
theorem aux_json_call_cases (cfg : JSONTargets.Cfg) (src : Bytes) :
    JSONTargets.call cfg src = (.error JSONTargets.eNoTargets, []) ∨
    ∃ l rest, JSONTargets.call cfg src = (JSONTargets.finish cfg l, rest) ∧ rest.length < src.length := by
  unfold JSONTargets.call
  cases hp : JSONTargets.popLine (src.length + 1) src with
  | mk o rest =>
    cases o with
    | none =>
      have := Vegeta.Proofs.TargeterLaws.popLine_none _ src (Nat.lt_succ_self _) (by rw [hp])
      rw [hp] at this
      exact .inl (congrArg (Prod.mk _) this)
    | some d => exact .inr ⟨d, rest, rfl, Vegeta.Proofs.TargeterLaws.popLine_length _ _ _ _ hp⟩

theorem aux_json_call_np (cfg : JSONTargets.Cfg) (s : Bytes) : (JSONTargets.call cfg s).1 ≠ .panic := by
  rcases aux_json_call_cases cfg s with h | ⟨l, rest, h, _⟩ <;> rw [h]
  · nofun
  · exact Vegeta.Proofs.TargeterLaws.finish_ne_panic cfg l

/-- **The JSON targeter never panics** (model `Vegeta.Model.JSONTargets`): arbitrary input bytes,
arbitrary defaults, arbitrary behaviour of the line decoder `cfg.dec` (the easyjson lexer, a
parameter), any number of calls. -/
theorem json_targeter_never_panics (cfg : JSONTargets.Cfg) (src : Bytes) (n : Nat) :
    ∀ r ∈ (JSONTargets.calls cfg n src).1, r ≠ .panic := by
  induction n generalizing src with
  | zero => nofun
  | succ n ih =>
    intro r hr
    rcases List.mem_cons.mp hr with rfl | hr
    · exact aux_json_call_np cfg src
    · exact ih _ r hr

/-- **Every call of the JSON targeter returns `ErrNoTargets` (with nothing left to read) or
consumes at least one byte** — the empty-line loop cannot spin. -/
theorem json_targeter_consumes_or_stops (cfg : JSONTargets.Cfg) (src : Bytes) :
    ((JSONTargets.call cfg src).1 = .error JSONTargets.eNoTargets ∧ (JSONTargets.call cfg src).2 = []) ∨
    (JSONTargets.call cfg src).2.length < src.length := by
  rcases aux_json_call_cases cfg src with h | ⟨l, rest, h, hlt⟩ <;> rw [h]
  · exact .inl ⟨rfl, rfl⟩
  · exact .inr hlt

/-! ### use after error: the JSON targeter's mutex, exhaustion is final -/

/-- **Every path through a call of the JSON targeter releases the reader's mutex**: a call that finds
the mutex free returns — a target, a decode error or `ErrNoTargets` — with the mutex free again,
and returns exactly what C14's lock-free model `JSONTargets.call` computes. -/
theorem json_targeter_releases_lock (cfg : JSONTargets.Cfg) (st : JT) (h : st.locked = false) :
    jtCall cfg st = .returns (JSONTargets.call cfg st.src).1 { src := (JSONTargets.call cfg st.src).2, locked := false } := by
  unfold jtCall JSONTargets.call
  simp only [h, Bool.false_eq_true, ↓reduceIte]
  cases hp : JSONTargets.popLine (st.src.length + 1) st.src with
  | mk o rest => cases o <;> rfl

/-- **The JSON targeter can be called again after any result and never blocks**: any number of
calls on the shared reader all return (none waits for the mutex), with the results of
`JSONTargets.calls`, and the mutex is free afterwards. -/
theorem json_targeter_never_blocks (cfg : JSONTargets.Cfg) (n : Nat) : ∀ src : Bytes,
    jtCalls (jtCall cfg) n { src := src, locked := false } =
      some ((JSONTargets.calls cfg n src).1, { src := (JSONTargets.calls cfg n src).2, locked := false }) := by
  induction n with
  | zero => intro src; rfl
  | succ n ih =>
    intro src
    simp only [jtCalls, JSONTargets.calls]
    rw [json_targeter_releases_lock cfg _ rfl]
    simp only [ih]

/-- the decode step never answers `ErrNoTargets` (it answers eJSON / eNoMethod / eNoURL or a target):
so `ErrNoTargets` always means that the reader is exhausted -/
theorem aux_finish_not_notargets (cfg : JSONTargets.Cfg) (l : Bytes) : JSONTargets.finish cfg l ≠ .error JSONTargets.eNoTargets := by
  have ne : ∀ {e}, e ≠ JSONTargets.eNoTargets →
      (Outcome.error e : Outcome JSONTargets.JRec) ≠ .error JSONTargets.eNoTargets := fun h h' => h (Outcome.error.inj h')
  unfold JSONTargets.finish
  split
  · exact ne (by decide)
  · split
    · exact ne (by decide)
    · split
      · exact ne (by decide)
      · nofun

/-- **Once it reported `ErrNoTargets`, it reports `ErrNoTargets` on every later call** (and returns
at once: nothing is left to read). -/
theorem json_targeter_error_again (cfg : JSONTargets.Cfg) (src : Bytes)
    (h : (JSONTargets.call cfg src).1 = .error JSONTargets.eNoTargets) :
    ∀ n, ∀ r ∈ (JSONTargets.calls cfg n (JSONTargets.call cfg src).2).1, r = .error JSONTargets.eNoTargets := by
  have hnil : JSONTargets.call cfg [] = (.error JSONTargets.eNoTargets, []) :=
    (aux_json_call_cases cfg []).resolve_right nofun
  have hrest : (JSONTargets.call cfg src).2 = [] := by
    rcases aux_json_call_cases cfg src with h' | ⟨l, rest, h', _⟩ <;> rw [h'] at h ⊢
    exact absurd h (aux_finish_not_notargets cfg l)
  rw [hrest]
  intro n
  induction n with
  | zero => nofun
  | succ n ih =>
    intro r hr
    simp only [JSONTargets.calls, hnil, List.mem_cons] at hr
    rcases hr with rfl | hr
    · rfl
    · exact ih r hr

/-- **What the lock discipline excludes** (the change of seeds c16g / c02i): if end of input returned
from inside the loop, with the mutex still held, the first call would still answer `ErrNoTargets` —
and the next call would never return. -/
theorem json_targeter_early_return_blocks (cfg : JSONTargets.Cfg) :
    ∃ st1, jtCallEarlyReturn cfg { src := [], locked := false } = .returns (.error JSONTargets.eNoTargets) st1 ∧
      st1.locked = true ∧ jtCalls (jtCallEarlyReturn cfg) 2 { src := [], locked := false } = none := by
  refine ⟨{ src := [], locked := true }, ?_, rfl, ?_⟩
  · simp [jtCallEarlyReturn, JSONTargets.popLine, JSONTargets.readLine]
  · simp [jtCalls, jtCallEarlyReturn, JSONTargets.popLine, JSONTargets.readLine]

/-- source facts: in `NewJSONTargeter` nothing returns between `rd.Lock()` and `rd.Unlock()`; the HTTP
targeter's closure starts with `mu.Lock(); defer mu.Unlock()` (released on every path by `defer`) -/
theorem facts_targeter_locks :
    Vegeta.Extracted.c16JSONTargeterLockOrder = [ofAscii "rd.Lock()", ofAscii "<stmt>", ofAscii "rd.Unlock()"] ∧
    Vegeta.Extracted.c16JSONTargeterReturnsWhileLocked = 0 ∧
    Vegeta.Extracted.c16HTTPTargeterHead = [ofAscii "mu.Lock()", ofAscii "defer mu.Unlock()"] := by
  repeat rw [aux_ofAscii_ofList]
  decide +kernel

/-- **The HTTP targeter, once exhausted, stays exhausted**: the call after one that answered
`ErrNoTargets` answers `ErrNoTargets` again — one step, to be applied again (C14's model; `TargeterLaws.http_stable` is the same fact about the abstract system `httpSys`). -/
theorem http_targeter_error_again (cfg : HTTPTargets.Cfg) (st : HTTPTargets.St)
    (h : (HTTPTargets.call cfg st).1 = .error HTTPTargets.eNoTargets) :
    (HTTPTargets.call cfg (HTTPTargets.call cfg st).2).1 = .error HTTPTargets.eNoTargets := by
  -- nothing is left after `ErrNoTargets`, and on no lines the call answers `ErrNoTargets`
  have hnil : Vegeta.Proofs.HTTPTargetsL.eff (HTTPTargets.call cfg st).2.ps = [] :=
    (http_targeter_consumes_or_stops cfg st).elim (·.2) fun h' => absurd h h'.1
  obtain ⟨_, c1, _⟩ := Vegeta.Proofs.HTTPTargetsL.call_refines cfg (HTTPTargets.call cfg st).2
  rw [c1, hnil, Vegeta.Proofs.HTTPTargetsL.callL_none rfl]

/-! ### `startsWithHTTPMethod` is the language of `^[A-Z]+\s` -/

theorem aux_afterUpper_append (m : Bytes) (c : Nat) (rest : Bytes) (hm : ∀ x ∈ m, HTTPTargets.isUpper x = true)
    (hc : HTTPTargets.isReSpace c = true) : HTTPTargets.afterUpper (m ++ c :: rest) = true := by
  induction m with
  | nil =>
    -- a space is not an upper-case letter
    have : HTTPTargets.isUpper c = false := by
      simp [HTTPTargets.isUpper, HTTPTargets.isReSpace] at hc ⊢; omega
    simp [HTTPTargets.afterUpper, this, hc]
  | cons b m ih =>
    rw [List.cons_append, HTTPTargets.afterUpper, if_pos (hm b List.mem_cons_self)]
    exact ih fun x hx => hm x (List.mem_cons_of_mem _ hx)

theorem aux_afterUpper_split : ∀ t, HTTPTargets.afterUpper t = true →
    ∃ m c rest, t = m ++ c :: rest ∧ (∀ x ∈ m, HTTPTargets.isUpper x = true) ∧ HTTPTargets.isReSpace c = true
  | [], h => by cases h
  | a :: r, h => by
    unfold HTTPTargets.afterUpper at h
    split at h
    · rename_i ha
      obtain ⟨m, c, rest, rfl, hm, hc⟩ := aux_afterUpper_split r h
      exact ⟨a :: m, c, rest, rfl, List.forall_mem_cons.mpr ⟨ha, hm⟩, hc⟩
    · exact ⟨[], a, r, rfl, nofun, h⟩

/-- **`startsWithHTTPMethod` (C14's model) accepts exactly the language of the regexp `^[A-Z]+\s`**:
one or more upper-case ASCII letters followed by one of `\t \n \f \r space` — for every byte
string, with no index ever taken past the end: an empty line, a line of upper-case letters only
(`GET`) and a line that starts with anything else are simply not matches. -/
theorem starts_with_method_language (t : Bytes) : HTTPTargets.startsWithHTTPMethod t = true ↔
    ∃ m c rest, t = m ++ c :: rest ∧ m ≠ [] ∧ (∀ x ∈ m, HTTPTargets.isUpper x = true) ∧ HTTPTargets.isReSpace c = true := by
  constructor
  · intro h
    match t, h with
    | a :: r, h =>
      rw [HTTPTargets.startsWithHTTPMethod, Bool.and_eq_true] at h
      obtain ⟨m, c, rest, rfl, hm, hc⟩ := aux_afterUpper_split r h.2
      exact ⟨a :: m, c, rest, rfl, List.cons_ne_nil _ _, List.forall_mem_cons.mpr ⟨h.1, hm⟩, hc⟩
  · rintro ⟨m, c, rest, rfl, hne, hm, hc⟩
    match m, hne, hm with
    | b :: m', _, hm =>
      rw [List.cons_append, HTTPTargets.startsWithHTTPMethod, Bool.and_eq_true]
      exact ⟨hm b List.mem_cons_self, aux_afterUpper_append m' c rest (fun x hx => hm x (List.mem_cons_of_mem _ hx)) hc⟩

example : HTTPTargets.startsWithHTTPMethod [71, 69, 84] = false ∧ HTTPTargets.startsWithHTTPMethod [] = false ∧
    HTTPTargets.startsWithHTTPMethod [71, 69, 84, 32, 47] = true ∧ HTTPTargets.startsWithHTTPMethod [71, 69, 84, 9] = true := by decide

/-! ### the result decoders over the models of C07 (`Vegeta.Model.Codec`) -/

/-! #### CSV -/

/-- **The CSV record → Result conversion of C07's model never panics**, for a record of ANY
shape (the model reads missing columns as empty, `getField`; the index side — every `rec[i]` is
below `FieldsPerRecord` = 12 — is `csv_record_never_panics` / `facts_csv` above). Covers the
vegeta-owned calls in the decoder closure: `strconv.ParseInt/ParseUint`, base64
`DecodeString`, `textproto.ReadMIMEHeader` as modelled by C07 from their sources. -/
theorem csv_record_conversion_never_panics (fields : List Bytes) : Codec.resultOfRecord fields ≠ .panic :=
  resultOfRecord_np fields

/-- **A record returned by the CSV reader model consumed input**: `Read` never returns a record
without advancing (so a decode loop cannot spin). -/
theorem csv_reader_consumes (s : Bytes) (fs : List Bytes) (rest : Bytes) (h : Codec.readRecord s = .record fs rest) :
    rest.length < s.length := readRecord_len h

/-- **The CSV decoder model is total, never panics and terminates for every byte string**:
(1) converting a record never panics (`csv_record_conversion_never_panics`: `decodeCSVF`'s `.panic`
branch is dead); (2) every record the reader returns consumed input (`csv_reader_consumes`); (3) the result of decoding a whole stream is the same for every fuel above the input length —
the model's fuel bound is never what ends decoding, the loop ends by end of input or an error;
(4) likewise for the field loop inside one `Read`. (`encoding/csv` itself remains a library: this
is C07's model of it.) -/
theorem csv_decoder_never_panics (s : Bytes) :
    (∀ fields, Codec.resultOfRecord fields ≠ .panic) ∧
    (∀ t fs rest, Codec.readRecord t = .record fs rest → rest.length < t.length) ∧
    (∀ fuel, (Codec.normCRLF s).length < fuel → Codec.decodeCSVF fuel (Codec.normCRLF s) = Codec.decodeCSV s) ∧
    (∀ t acc fuel, t.length < fuel → Codec.parseFields fuel t acc = Codec.parseFields (t.length + 1) t acc) :=
  ⟨csv_record_conversion_never_panics, csv_reader_consumes,
    fun _ hf => decodeCSVF_fuel _ _ _ hf (Nat.lt_succ_self _),
    fun t acc _ hf => parseFields_fuel _ _ t acc hf (Nat.lt_succ_self _)⟩

/-! #### JSON -/

/-- **The JSON line decoder of C07's model never panics** on any line: the jlexer token scanner
(`fetchToken`, string/number/keyword scans, `SkipRecursive`), string unescaping, the generated
member dispatch of `UnmarshalEasyJSON` for `Result` incl. the `headers` object and its string
arrays, `strconv`, base64 and `Time.UnmarshalJSON` — all as modelled by C07 from the sources
(the real easyjson/jlexer code itself stays a library, see tools/props/C16.json). -/
theorem json_line_decoder_never_panics (line : Bytes) : Codec.decodeJSONLine line ≠ .panic :=
  decodeJSONLine_np line

/-- **Every token the lexer model returns consumed at least one byte.** -/
theorem json_lexer_consumes (s : Bytes) (ws : Nat) (fe : Bool) : ∀ t l', Codec.fetchToken s ws fe = .ok (t, l') →
    l'.rest.length < s.length :=
  fun _ _ h => (fetchToken_consumes s ws fe).of_ok h

/-- **The JSON decoder model is total, never panics and terminates for every byte string**:
(1) decoding a line never panics (`json_line_decoder_never_panics`: `decodeJSONF`'s `.panic` branch
is dead); (2) every line taken from the stream consumes input and every
token the lexer returns consumes input; (3) the result of decoding a whole stream is the same
for every fuel above the input length — the model's fuel is never what ends decoding; (4) the
same for the member loop, the `headers` object loop, the string-array loop and string unescaping
inside a line.
(jlexer/easyjson themselves remain a library: this is C07's model of the token scanner and of
the generated `UnmarshalEasyJSON`.) -/
theorem json_decoder_never_panics (s : Bytes) :
    (∀ line, Codec.decodeJSONLine line ≠ .panic) ∧
    (∀ t line rest, Codec.splitLine t = some (line, rest) → rest.length < t.length) ∧
    (∀ (l : Codec.Lex) tk l', l.next = .ok (tk, l') → l'.rest.length < l.rest.length) ∧
    (∀ fuel, s.length < fuel → Codec.decodeJSONF fuel s = Codec.decodeJSON s) ∧
    (∀ (l : Codec.Lex) r fuel, l.rest.length < fuel → Codec.parseMembers fuel l r = Codec.parseMembers (l.rest.length + 1) l r) ∧
    (∀ (l : Codec.Lex) m fuel, l.rest.length < fuel → Codec.parseHeaderObj fuel l m = Codec.parseHeaderObj (l.rest.length + 1) l m) ∧
    (∀ (l : Codec.Lex) acc fuel, l.rest.length < fuel → Codec.parseStrArray fuel l acc = Codec.parseStrArray (l.rest.length + 1) l acc) ∧
    (∀ raw fuel, raw.length < fuel → Codec.unescapeF fuel raw = Codec.unescape raw) :=
  ⟨json_line_decoder_never_panics, fun _ _ _ => splitLine_len, fun _ _ _ => next_shorter,
    fun _ hf => decodeJSONF_fuel _ _ s hf (Nat.lt_succ_self _),
    fun l r _ hf => parseMembers_fuel _ _ l r hf (Nat.lt_succ_self _),
    fun l m _ hf => parseHeaderObj_fuel _ _ l m hf (Nat.lt_succ_self _),
    fun l acc _ hf => parseStrArray_fuel _ _ l acc hf (Nat.lt_succ_self _),
    fun raw _ hf => unescapeF_fuel _ _ raw hf (Nat.lt_succ_self _)⟩

@[simp] theorem aux_ok_bind {α β} (a : α) (f : α → Outcome β) : (Outcome.ok a >>= f) = f a := rfl
@[simp] theorem aux_err_bind {α β} (e : Nat) (f : α → Outcome β) : (Outcome.error e >>= f) = .error e := rfl
@[simp] theorem aux_panic_bind {α β} (f : α → Outcome β) : (Outcome.panic >>= f) = .panic := rfl
@[simp] theorem aux_pure_ok {α} (a : α) : (pure a : Outcome α) = .ok a := rfl

/-! ### DecoderFor (model of C08) and the round-robin decoder (model of C13) -/

theorem aux_chunk_le (n k remaining : Nat) : DecoderFor.chunk n k remaining ≤ n := by
  unfold DecoderFor.chunk
  dsimp only
  split
  · exact Nat.zero_le _
  · split
    · omega
    · exact Nat.le_trans (Nat.min_le_right _ _) (Nat.min_le_left _ _)

/-- a `Read(p)` of the sniffing reader never returns more than `len(p)` bytes: the copy into
`p` cannot overrun, whatever chunk sizes the underlying reader chooses -/
theorem decoder_for_read_within_buffer (t : DecoderFor.Trial) (q : DecoderFor.ReadReq) :
    (t.read q).1.length ≤ q.n := by
  unfold DecoderFor.Trial.read
  split
  · exact Nat.zero_le _
  · split
    · exact List.length_take_le _ _
    · exact Nat.le_trans (List.length_take_le _ _) (aux_chunk_le _ _ _)

/-- Where the loop of `DecoderFor` stops, counted from the index `i0` it starts with: after all
trials when none accepts, at the first accepting one (offset `k`) otherwise, with `k + 1` trials run. -/
theorem aux_sniffFrom_index : ∀ (ds : List DecoderFor.TrialDec) (i0 : Nat) (s : DecoderFor.Sniff),
    ((DecoderFor.sniffFrom i0 s ds).1 = none →
      (DecoderFor.sniffFrom i0 s ds).2.length = ds.length ∧ ∀ d ∈ ds, d.accept = false) ∧
    ∀ i st, (DecoderFor.sniffFrom i0 s ds).1 = some (i, st) →
      ∃ k, i = i0 + k ∧ k < ds.length ∧ (DecoderFor.sniffFrom i0 s ds).2.length = k + 1 ∧
        (ds[k]?).map (·.accept) = some true
  | [], _, _ => ⟨fun _ => ⟨rfl, nofun⟩, nofun⟩
  | d :: ds, i0, s => by
    unfold DecoderFor.sniffFrom
    dsimp only
    cases ha : d.accept with
    | true =>
      refine ⟨nofun, fun i st h => ?_⟩
      cases h
      exact ⟨0, rfl, Nat.zero_lt_succ _, rfl, congrArg some ha⟩
    | false =>
      simp only [Bool.false_eq_true, ↓reduceIte]
      obtain ⟨ih1, ih2⟩ := aux_sniffFrom_index ds (i0 + 1) ((DecoderFor.Trial.start s).run d.script).2.st
      refine ⟨fun h => ?_, fun i st h => ?_⟩
      · have ih := ih1 h
        exact ⟨congrArg Nat.succ ih.1, fun x hx => (List.mem_cons.mp hx).elim (fun e => e ▸ ha) (ih.2 x)⟩
      · obtain ⟨k, rfl, hk, hl, hacc⟩ := ih2 i st h
        exact ⟨k + 1, Nat.add_right_comm i0 1 k, Nat.succ_lt_succ hk, congrArg Nat.succ hl, hacc⟩

/-- **Which trial `DecoderFor` stops at, for any behaviour of the trial decoders** (their read
scripts — any sizes, any over-reading — and their verdicts are arbitrary parameters): it runs the
trials in order, stops at the first accepting one, and answers either `nil` after having run all
of them or the index of an existing factory after having run exactly the trials up to it.
Termination and "no panic" are not in the statement but in the model: `sniffFrom` is a structural
recursion without `Outcome`, `DecoderFor` has no index or slice expression of vegeta's own. -/
theorem decoder_for_never_panics (orig : Bytes) (trials : List DecoderFor.TrialDec) :
    match (DecoderFor.decoderFor orig trials).1 with
    | none => (DecoderFor.decoderFor orig trials).2.length = trials.length ∧ ∀ d ∈ trials, d.accept = false
    | some (i, _) => i < trials.length ∧ (DecoderFor.decoderFor orig trials).2.length = i + 1 ∧
        (trials[i]?).map (·.accept) = some true := by
  obtain ⟨h1, h2⟩ := aux_sniffFrom_index trials 0 { buf := [], under := orig }
  unfold DecoderFor.decoderFor
  split
  · rename_i hr; exact h1 hr
  · rename_i hr
    obtain ⟨k, rfl, h⟩ := h2 _ _ hr
    rw [Nat.zero_add]; exact h

/-! #### round robin, with the run-time checks written out -/

/-- The `for range dec` loop of `NewRoundRobinDecoder` with Go's run-time checks as outcomes:
`seq % uint64(len(dec))` panics on zero decoders, `dec[robin]` on an index out of range. -/
def rrLoopChecked {α} : Nat → List (RoundRobin.Dec α) → Nat → Option Nat →
    Outcome (RoundRobin.Step α × List (RoundRobin.Dec α) × Nat)
  | 0, decs, seq, last =>
    .ok (match last with
         | some e => .err e
         | none => .nothing, decs, seq)
  | fuel+1, decs, seq, _ =>
    if decs.length = 0 then .panic                      -- integer divide by zero
    else
      let robin := seq % decs.length
      let seq' := RoundRobin.incSeq seq
      match decs[robin]? with
      | none => .panic                                   -- index out of range
      | some d =>
        match RoundRobin.pop d with
        | (.ok a, d') => .ok (.got robin a, decs.set robin d', seq')
        | (.error e, d') => rrLoopChecked fuel (decs.set robin d') seq' (some e)

/-- **With at least one decoder the round-robin loop never panics**: none of its run-time
checks can fail and it computes exactly what C13's model `rrLoop` computes — for any decoders
(scripts), any sequence counter and any number of iterations. -/
theorem round_robin_never_panics {α} (fuel : Nat) : ∀ (decs : List (RoundRobin.Dec α)) (seq : Nat) (last : Option Nat),
    decs ≠ [] → rrLoopChecked fuel decs seq last = .ok (RoundRobin.rrLoop fuel decs seq last) := by
  induction fuel with
  | zero => intro decs seq last _; rfl
  | succ f ih =>
    intro decs seq last hne
    have hlen := List.length_pos_iff.mpr hne
    have hlt : seq % decs.length < decs.length := Nat.mod_lt _ hlen
    unfold rrLoopChecked RoundRobin.rrLoop
    simp only [Nat.ne_of_gt hlen, ↓reduceIte, List.getD_eq_getElem?_getD, List.getElem?_eq_getElem hlt, Option.getD_some]
    cases hp : RoundRobin.pop decs[seq % decs.length] with
    | mk res d' =>
      cases res with
      | ok a => rfl
      | error e => exact ih _ _ _ (mt (List.set_eq_nil_iff _ _).mp hne)

/-- `NewRoundRobinDecoder()` with zero decoders is outside `round_robin_never_panics` (`decs ≠ []`); in the real
code the loop body never runs (`for range dec` over an empty slice), so no division is evaluated
and the call returns a nil error without writing a result: the checked loop with zero iterations
does not panic either, and C13's `rrDecode` answers `nothing`. -/
theorem round_robin_zero_decoders {α} (seq : Nat) :
    rrLoopChecked (α := α) 0 [] seq none = .ok (.nothing, [], seq) ∧
    (RoundRobin.rrDecode (α := α) { decs := [], seq := seq }).1 = .nothing := by
  exact ⟨rfl, rfl⟩

/-- the checked loop as one `Decode` call runs it (`len(dec)` iterations from the decoder's own
counter) never panics with at least one decoder -/
theorem round_robin_decode_never_panics {α} (s : RoundRobin.RR α) (hne : s.decs ≠ []) :
    rrLoopChecked s.decs.length s.decs s.seq none ≠ .panic := by
  rw [round_robin_never_panics _ _ _ _ hne]; simp

end others

/-! ### the commands never hand zero decoders to the round-robin combiner -/

section commands
open Vegeta.Model

/-- `decoder(files)`: a successful assembly has exactly one decoder per file -/
theorem command_decoders_one_per_file {δ : Type} (detect : Bytes → Option δ) :
    ∀ (fs : List Bytes) (ds : List δ), assemble detect fs = some ds → ds.length = fs.length := by
  intro fs
  induction fs with
  | nil => intro ds h; cases h; rfl
  | cons f t ih =>
    intro ds h
    unfold assemble at h
    split at h
    · cases h
    · split at h
      · cases h
      · rename_i hds; cases h; exact congrArg Nat.succ (ih _ hds)

/-- a file whose encoding is not detected (e.g. an input without a single byte) is never left out: the
assembly fails as a whole -/
theorem command_undetected_file_fails {δ : Type} (detect : Bytes → Option δ) (pre post : List Bytes) (f : Bytes)
    (hf : detect f = none) : assemble detect (pre ++ f :: post) = none := by
  induction pre with
  | nil => simp [assemble, hf]
  | cons g t ih =>
    simp only [List.cons_append]
    unfold assemble
    split
    · rfl
    · rw [ih]

/-- **Whatever the command line and whatever the inputs hold, a command that gets a decoder at all gets
one built from at least one input decoder** (no file argument means `stdin`; every file contributes
one decoder or fails the command). -/
theorem command_never_zero_decoders {δ : Type} (detect : Bytes → Option δ) (args : List Bytes) (ds : List δ)
    (h : commandDecoders detect args = some ds) : ds ≠ [] ∧ ds.length = (commandFiles args).length := by
  have hl := command_decoders_one_per_file detect _ _ h
  refine ⟨?_, hl⟩
  rintro rfl
  unfold commandFiles at hl
  split at hl
  · cases hl
  · exact ‹¬_› (List.isEmpty_iff.mpr (List.length_eq_zero_iff.mp hl.symm))

theorem aux_rrLoop_nothing {α} : ∀ (fuel : Nat) (decs : List (RoundRobin.Dec α)) (seq : Nat) (last : Option Nat),
    fuel ≠ 0 ∨ last ≠ none → (RoundRobin.rrLoop fuel decs seq last).1 ≠ .nothing
  | 0, _, _, none, h => absurd rfl (h.resolve_left (· rfl))
  | 0, _, _, some _, _ => nofun
  | n+1, decs, seq, _, _ => by
    unfold RoundRobin.rrLoop
    dsimp only
    split
    · nofun
    · exact aux_rrLoop_nothing n _ _ _ (.inr nofun)

/-- **Every call of the combined decoder over at least one decoder returns a record or an error** — the
"`nil` although nothing was decoded" answer (`Step.nothing`, which a read loop would repeat for ever)
exists with zero decoders only (`round_robin_zero_decoders`). -/
theorem round_robin_call_value_or_error {α} (s : RoundRobin.RR α) (hne : s.decs ≠ []) :
    (RoundRobin.rrDecode s).1 ≠ .nothing := by
  unfold RoundRobin.rrDecode
  split
  · split <;> nofun
  · exact aux_rrLoop_nothing _ _ _ _ (.inl (Nat.ne_of_gt (List.length_pos_iff.mpr hne)))

/-- the two together: the decoder a command reads from answers every call with a record or an error -/
theorem command_decode_value_or_error {α} (detect : Bytes → Option (RoundRobin.Dec α)) (args : List Bytes)
    (ds : List (RoundRobin.Dec α)) (h : commandDecoders detect args = some ds) (seq : Nat) :
    (RoundRobin.rrDecode { decs := ds, seq := seq }).1 ≠ .nothing :=
  round_robin_call_value_or_error _ (command_never_zero_decoders detect args ds h).1

/-- the excluded situation, for contrast (second half of `round_robin_zero_decoders`): with zero decoders every
call answers `nil` without a record -/
theorem round_robin_zero_decoders_nothing {α} (seq : Nat) :
    (RoundRobin.rrDecode ({ decs := [], seq := seq } : RoundRobin.RR α)).1 = .nothing := by
  simp [RoundRobin.rrDecode, RoundRobin.rrLoop]

/-- source facts: the loop of `decoder(files)` has exactly these statements (open — fail — detect — fail —
append — append), no `continue` / `break` / `goto` anywhere in the function, it returns the round-robin
combination of `decs`, and each of the three commands replaces an empty argument list by `stdin` -/
theorem facts_command_decoder_assembly :
    Vegeta.Extracted.c16FileDecoderLoop = [ofAscii "rc, err := file(f, false)", ofAscii "if err != nil return",
      ofAscii "dec := vegeta.DecoderFor(rc)", ofAscii "if dec == nil return", ofAscii "decs = append(decs, dec)",
      ofAscii "closer = append(closer, rc)"] ∧
    Vegeta.Extracted.c16FileDecoderJumps = 0 ∧
    Vegeta.Extracted.c16FileDecoderReturns = ofAscii "vegeta.NewRoundRobinDecoder(decs...)" ∧
    Vegeta.Extracted.c16CommandsDefaultInput = [ofAscii "files = append(files, \"stdin\")", ofAscii "files = append(files, \"stdin\")",
      ofAscii "files = append(files, \"stdin\")"] := by
  repeat rw [aux_ofAscii_ofList]
  decide +kernel

-- non-vacuity: an empty first input fails the command; two detected inputs give two decoders; no argument reads stdin
example : commandDecoders (fun f => if f.isEmpty then none else some f) [[], [49]] = none := by decide
example : commandDecoders (fun f => if f.isEmpty then none else some f) [[49], [50]] = some [[49], [50]] := by decide
example : commandDecoders (fun f => some f) [] = some [stdinWord] := by decide

end commands

end Vegeta.Props.C16
